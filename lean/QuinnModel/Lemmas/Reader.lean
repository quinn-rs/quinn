import QuinnModel.Lemmas.Parser
/-
One notion of a well-behaved reader.  `Good bad k p bs`: on the input `bs` the reader `p` either fails with an
error outside `bad`, or returns a suffix of `bs` that is at least `k` bytes shorter.  It is stated for one input, so
that what follows a read may use what was read (a take behind a `remaining` test needs no rule of its own), and
it is kept by `>>=` and `if`: a decoder is traversed once, and that it never reads past its buffer (`Mono`), makes
progress (`Adv`) and never fails with a given error (`Never`) are read off the one result.
-/
namespace QM.Wire
open QM QM.Wire.P

def GoodRes {ε α} (bad : ε → Prop) (k : Nat) (bs : Bytes) : Except ε (α × Bytes) → Prop
  | .ok (_, r) => r <:+ bs ∧ r.length + k ≤ bs.length
  | .error e => ¬ bad e

def Good {ε α} (bad : ε → Prop) (k : Nat) (p : P ε α) (bs : Bytes) : Prop := GoodRes bad k bs (p bs)

namespace Good
variable {ε α β : Type} {bad : ε → Prop} {k : Nat} {p q : P ε α} {bs : Bytes}

theorem suffix (h : Good bad k p bs) {a : α} {r : Bytes} (hp : p bs = .ok (a, r)) :
    r <:+ bs ∧ r.length + k ≤ bs.length := by
  unfold Good at h; rwa [hp] at h

theorem ne (h : Good bad k p bs) {e : ε} (he : bad e) : p bs ≠ .error e := fun hp => by
  unfold Good at h; rw [hp] at h; exact h he

theorem pure (a : α) : Good bad 0 (pure a : P ε α) bs := ⟨List.suffix_refl _, Nat.le_refl _⟩

theorem fail {e : ε} (he : ¬ bad e) : Good bad k (fail e : P ε α) bs := he

theorem takeAll : Good bad 0 (takeAll : P ε Bytes) bs := ⟨List.nil_suffix, Nat.zero_le _⟩

/-- what follows `p` is only asked to behave on what `p` left, knowing what `p` returned -/
theorem bind {f : α → P ε β} (hp : Good bad k p bs)
    (hf : ∀ {a r}, p bs = .ok (a, r) → Good bad 0 (f a) r) : Good bad k (p >>= f) bs := by
  unfold Good at hp ⊢
  cases h : p bs with
  | error e => rw [h] at hp; rw [bind_apply, h]; exact hp
  | ok x =>
    obtain ⟨a, r⟩ := x
    rw [h] at hp
    have hr := hf h
    unfold Good at hr
    rw [bind_ok h]
    cases hfa : f a r with
    | error e => rw [hfa] at hr; exact hr
    | ok y =>
      rw [hfa] at hr
      exact ⟨hr.1.trans hp.1, Nat.le_trans (Nat.add_le_add_right hr.1.length_le k) hp.2⟩

/-- `buf.remaining()` hands the length of the very input to what follows -/
theorem remaining {f : Nat → P ε β} (h : Good bad k (f bs.length) bs) : Good bad k (remaining >>= f) bs := h

theorem ite {c : Prop} [Decidable c] (hp : c → Good bad k p bs) (hq : ¬ c → Good bad k q bs) :
    Good bad k (if c then p else q) bs := by
  split
  · exact hp ‹_›
  · exact hq ‹_›

theorem getVar {e : ε} (he : ¬ bad e) (hk : k ≤ 1 := by decide) : Good bad k (getVar e) bs := by
  unfold Good P.getVar
  split
  · obtain ⟨b0, rest, rfl, _, _, rfl⟩ := VarInt.decode_eq_some ‹_›
    exact ⟨(List.drop_suffix _ _).trans (List.suffix_cons _ _), by rw [List.length_drop, List.length_cons]; omega⟩
  · exact he

theorem getU8 {e : ε} (he : ¬ bad e) (hk : k ≤ 1 := by decide) : Good bad k (getU8 e) bs := by
  unfold Good P.getU8
  split
  · exact he
  · exact ⟨List.suffix_cons _ _, by rw [List.length_cons]; omega⟩

/-- a take whose own test reports `e`; also the unchecked take behind a test that is strong enough, where `e` is
    the panic and `n ≤ bs.length` is known from the test -/
theorem takeN {e : ε} {n : Nat} (h : ¬ bad e ∨ n ≤ bs.length) : Good bad 0 (takeN e n) bs := by
  unfold Good P.takeN
  split
  · exact h.elim id (fun h => absurd h (Nat.not_le.mpr ‹_›))
  · exact ⟨List.drop_suffix _ _, by rw [List.length_drop]; omega⟩

theorem getU16 {e : ε} (he : ¬ bad e) : Good bad 0 (getU16 e) bs :=
  getU16_eq e ▸ (takeN (.inl he)).bind fun _ => pure _

theorem getU32 {e : ε} (he : ¬ bad e) : Good bad 0 (getU32 e) bs :=
  getU32_eq e ▸ (takeN (.inl he)).bind fun _ => pure _

theorem getU64 {e : ε} (he : ¬ bad e) : Good bad 0 (getU64 e) bs :=
  getU64_eq e ▸ (takeN (.inl he)).bind fun _ => pure _

end Good

structure Mono {ε α} (p : P ε α) : Prop where
  suffix : ∀ bs a r, p bs = .ok (a, r) → r <:+ bs

structure Adv {ε α} (p : P ε α) : Prop where
  suffix : ∀ bs a r, p bs = .ok (a, r) → r <:+ bs ∧ r.length < bs.length

structure Never {ε α} (bad : ε) (p : P ε α) : Prop where
  nv : ∀ bs, p bs ≠ .error bad

theorem Mono.of_good {ε α} {bad : ε → Prop} {p : P ε α} (h : ∀ bs, Good bad 0 p bs) : Mono p :=
  ⟨fun bs _ _ hp => ((h bs).suffix hp).1⟩

theorem Adv.of_good {ε α} {bad : ε → Prop} {p : P ε α} (h : ∀ bs, Good bad 1 p bs) : Adv p :=
  ⟨fun bs _ _ hp => ((h bs).suffix hp).imp_right Nat.lt_of_succ_le⟩

theorem Never.of_good {ε α} {k : Nat} {e : ε} {p : P ε α} (h : ∀ bs, Good (· = e) k p bs) : Never e p :=
  ⟨fun bs => (h bs).ne rfl⟩

/-- on every input `remaining` is `pure` of its length -/
theorem Good.remaining_alone {ε} {bad : ε → Prop} (bs : Bytes) : Good bad 0 (P.remaining : P ε Nat) bs :=
  Good.pure bs.length

theorem Mono.remaining {ε} : Mono (remaining : P ε Nat) := .of_good (bad := fun _ => False) Good.remaining_alone

theorem Mono.getU16 {ε} (e : ε) : Mono (getU16 e) := .of_good (bad := fun _ => False) fun _ => .getU16 id

theorem Never.remaining {ε} (bad : ε) : Never bad (remaining : P ε Nat) := .of_good (k := 0) Good.remaining_alone

theorem Never.takeAll {ε} (bad : ε) : Never bad (takeAll : P ε Bytes) := .of_good fun _ => .takeAll

theorem Never.getU64 {ε} {bad e : ε} (h : e ≠ bad) : Never bad (getU64 e) := .of_good fun _ => .getU64 h

end QM.Wire
