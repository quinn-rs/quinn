import QuinnModel.Streams.EndToEnd
/-
C01 end to end: the invariant of the composition (`Streams/EndToEnd.lean`).
`g` is a ground stream that the written bytes `w` are a prefix of; the theorems in `EndToEndMain.lean`
instantiate it with the bytes written by the end of the run (`w` only ever grows by appending).
-/
namespace QM.E2E
open QM QM.RangeSet
open QM.Assembler (stream delivered)

/-- `w` is a prefix of the ground stream -/
def Pre (g : Nat → Nat) (w : Bytes) : Prop := w = stream g 0 w.length

theorem Pre.sub {g : Nat → Nat} {w : Bytes} (h : Pre g w) (off n : Nat) (hn : off + n ≤ w.length) :
    stream g off n = (w.drop off).take n := by
  unfold Pre at h
  generalize w.length = L at h hn
  subst h
  rw [Assembler.stream_drop, Assembler.stream_take _ _ _ _ (by omega), Nat.zero_add]

theorem Pre.of_append {g : Nat → Nat} {w d : Bytes} (h : Pre g (w ++ d)) : Pre g w := by
  unfold Pre at *
  have h2 := congrArg (List.take w.length) h
  rw [List.take_left', Assembler.stream_take _ _ _ _ (by simp)] at h2
  · exact h2
  · rfl

/-- the ground stream made of the written bytes (anything beyond them) -/
def ground (w : Bytes) : Nat → Nat := fun i => w.getD i 0

theorem pre_ground (w : Bytes) : Pre (ground w) w :=
  List.ext_getElem (Assembler.stream_length _ _ _).symm fun i h1 h2 => by
    have := Assembler.stream_getElem? (ground w) w.length 0 i h1
    rw [List.getElem?_eq_getElem h2, Nat.zero_add] at this
    rw [Option.some.inj this, ground, List.getD_eq_getElem?_getD, List.getElem?_eq_getElem h1]
    rfl

theorem sb_step_w {sys sys' : SendBuffer.Sys} {op : SendBuffer.Op} (h : SendBuffer.step sys op = some sys') :
    ∃ d, sys'.w = sys.w ++ d := by
  obtain ⟨_, _, rfl⟩ := SendBuffer.step_frame h
  cases op
  case write d => exact ⟨d, rfl⟩
  all_goals exact ⟨[], (List.append_nil _).symm⟩

/-- sender and network -/
structure SInv (g : Nat → Nat) (s : St) : Prop where
  sb : SendBuffer.Inv s.sys
  wg : Pre g s.sys.w
  pend : s.half.pending = proj s.sys.sb
  ready : s.half.state = .ready → s.finishedAt = none ∧ s.appReset = none
  fin_at : ∀ n, s.finishedAt = some n → n = s.sys.w.length ∧ s.half.state ≠ .ready
  ds_fin : isDataSent s.half.state = true → s.finishedAt ≠ none
  rs : s.appReset ≠ none ↔ s.half.state = .resetSent
  rcode : s.resetCode = s.appReset
  netS : ∀ off bytes fin, Frame.stream off bytes fin ∈ s.net →
    bytes = stream g off bytes.length ∧ off + bytes.length ≤ s.sys.w.length ∧
    (fin = true → s.finishedAt = some (off + bytes.length))
  netR : ∀ c fs, Frame.reset c fs ∈ s.net → s.appReset = some c ∧ fs = s.sys.w.length
  /-- the FIN is not forgotten -/
  finLive : s.live = true → s.half.state = .dataSent false →
    s.half.finPending = true ∨ ∃ t ∈ s.T, t.2.2 = true

/-- what was acknowledged was handed to the receiver -/
def GInv (s : St) : Prop :=
  ∀ r ∈ s.sys.ackd, ∃ bytes fin, Frame.stream r.1 bytes fin ∈ s.got ∧ bytes.length = r.2 - r.1

/-- receiver -/
structure RInv (g : Nat → Nat) (s : St) : Prop where
  asmO : Assembler.InvO g s.asm
  asmX : Assembler.InvX s.asm
  asmB : Assembler.InvB s.asm
  rv_end : s.rv.end_ ≤ s.sys.w.length
  aend : s.asm.a.end_ ≤ s.rv.end_
  out_le : s.asm.out.length ≤ s.rv.end_
  fin_le : ∀ fo, s.rv.finalOffset = some fo → s.rv.end_ ≤ fo
  rv_size : ∀ fo, s.rv.state = .recv (some fo) → s.finishedAt = some fo
  rv_reset : ∀ fo c, s.rv.state = .resetRecvd fo c → s.appReset = some c ∧ fo = s.sys.w.length
  eos_ok : s.eos = true → ∃ n, s.finishedAt = some n ∧ ∀ x, x < n → mem x (delivered s.asm)
  saw_ok : ∀ c, s.sawReset = some c → s.appReset = some c

structure Inv (g : Nat → Nat) (s : St) : Prop where
  S : SInv g s
  G : GInv s
  R : RInv g s

theorem inv_init (g : Nat → Nat) (maxData window : Nat) : Inv g (St.init maxData window) :=
  ⟨⟨SendBuffer.inv_init, rfl, rfl, fun _ => ⟨rfl, rfl⟩, nofun, nofun, ⟨fun h => absurd rfl h, nofun⟩, rfl, nofun, nofun,
      nofun⟩,
    nofun,
    ⟨Assembler.invO_init g, Assembler.invX_init, Assembler.invB_init, Nat.zero_le _, Nat.le_refl _, Nat.zero_le _,
      nofun, nofun, nofun, nofun, nofun⟩⟩

/-- the receiver side did not change and the sender side moved on monotonically -/
theorem RInv.sender {g : Nat → Nat} {s s' : St} (i : RInv g s) (si : SInv g s)
    (h1 : s'.rv = s.rv) (h2 : s'.asm = s.asm) (h3 : s'.eos = s.eos) (h4 : s'.sawReset = s.sawReset)
    (hw : s.sys.w.length ≤ s'.sys.w.length)
    (hwr : s.half.state ≠ .ready → s'.sys.w.length = s.sys.w.length)
    (hfin : ∀ n, s.finishedAt = some n → s'.finishedAt = some n)
    (hres : ∀ c, s.appReset = some c → s'.appReset = some c) : RInv g s' := by
  refine ⟨h2 ▸ i.asmO, h2 ▸ i.asmX, h2 ▸ i.asmB, h1 ▸ Nat.le_trans i.rv_end hw, h1 ▸ h2 ▸ i.aend,
    h1 ▸ h2 ▸ i.out_le, h1 ▸ i.fin_le, h1 ▸ fun fo hfo => hfin _ (i.rv_size fo hfo),
    h1 ▸ fun fo c hfo => ?_, h3 ▸ h2 ▸ fun he => ?_, h4 ▸ fun c hc => hres c (i.saw_ok c hc)⟩
  · obtain ⟨b1, b2⟩ := i.rv_reset fo c hfo
    -- a reset half is not `ready`, so nothing was written since
    have : s.half.state ≠ .ready := fun hr => nomatch (si.ready hr).2 ▸ b1
    exact ⟨hres _ b1, hwr this ▸ b2⟩
  · obtain ⟨n, b1, b2⟩ := i.eos_ok he
    exact ⟨n, hfin n b1, b2⟩

theorem SInv.receiver {g : Nat → Nat} {s s' : St} (i : SInv g s)
    (h1 : s'.sys = s.sys) (h2 : s'.half = s.half) (h3 : s'.live = s.live) (h4 : s'.resetCode = s.resetCode)
    (h5 : s'.T = s.T) (h6 : s'.net = s.net) (h7 : s'.finishedAt = s.finishedAt)
    (h8 : s'.appReset = s.appReset) : SInv g s' := by
  obtain ⟨a1, a2, a3, a4, a5, a6, a7, a8, a9, a10, a11⟩ := i
  constructor <;> simp only [h1, h2, h3, h4, h5, h6, h7, h8] <;> assumption

/-- whenever the streams model's offsets-only buffer makes the same step as the content buffer, the state and
    the flag "finished and fully acknowledged" computed by `E2E.ack` are what `Send.ack` of the streams model
    computes (the two buffer models are tied to the same code by the `sbuf` and `streams` differentials) -/
theorem ack_glue_is_send_ack (h : Streams.Send) (sb' : SendBuffer.SendBuffer) (a e : Nat) (fin : Bool)
    (hb : h.pending.ack a e = some (proj sb')) :
    h.ack a e fin = some (match h.state with
      | .dataSent fa => ({ h with pending := proj sb', state := .dataSent (fa || fin) },
                          (fa || fin) && SendBuffer.isFullyAcked sb')
      | _ => ({ h with pending := proj sb' }, false)) := by
  unfold Streams.Send.ack
  rw [hb]
  cases h.state <;> rfl

end QM.E2E
