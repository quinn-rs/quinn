import QuinnModel.Conn.PathResponses
import QuinnModel.Lemmas.Runs
/- Proofs about the PathResponses model: bounded by MAX_PATH_RESPONSES, at most one entry per remote. -/
namespace QM.PathResponses
open QM

theorem updateFirst_remotes (r : PathResponse) (s : State) :
    (updateFirst r s).map (·.remote) = s.map (·.remote) := by
  fun_induction updateFirst r s
  next => rfl
  next x t h _ => simp [h]
  next => rfl
  next x t _ ih => simp [ih]

theorem updateFirst_length (r : PathResponse) (s : State) : (updateFirst r s).length = s.length := by
  rw [← List.length_map (f := (·.remote)), updateFirst_remotes, List.length_map]

structure Inv (s : State) : Prop where
  bound : s.length ≤ Gen.maxPathResponses
  distinct : (s.map (·.remote)).Nodup

theorem push_inv (s : State) (h : Inv s) (packet token remote : Nat) : Inv (push s packet token remote) := by
  fun_cases push s packet token remote
  next => exact ⟨by rw [updateFirst_length]; exact h.bound, by rw [updateFirst_remotes]; exact h.distinct⟩
  next hany hlt =>
    have hlt : s.length < Gen.maxPathResponses := by simpa [Gen.pathRespHasRoom] using hlt
    refine ⟨by simp only [List.length_append, List.length_singleton]; omega, ?_⟩
    rw [List.map_append, List.nodup_append]
    refine ⟨h.distinct, by simp, ?_⟩
    intro a ha b hb hab
    simp only [List.map_cons, List.map_nil, List.mem_singleton] at hb
    subst hb; subst hab
    apply hany
    rw [List.any_eq_true]
    obtain ⟨x, hx, hxr⟩ := List.mem_map.mp ha
    exact ⟨x, hx, by simpa using hxr⟩
  next => exact h

theorem Inv.sublist {s s' : State} (h : Inv s) (hs : s'.Sublist s) : Inv s' :=
  ⟨Nat.le_trans hs.length_le h.bound, h.distinct.sublist (hs.map _)⟩

theorem popOffPath_inv (s : State) (h : Inv s) (remote : Nat) : Inv (popOffPath s remote).1 := by
  fun_cases popOffPath s remote
  · exact h
  · exact h
  · exact h.sublist (List.dropLast_sublist s)

theorem popOnPath_inv (s : State) (h : Inv s) (remote : Nat) : Inv (popOnPath s remote).1 := by
  fun_cases popOnPath s remote
  · exact h
  · exact h
  · exact h.sublist (List.dropLast_sublist s)

inductive Op where
  | push (packet token remote : Nat)
  | popOff (remote : Nat)
  | popOn (remote : Nat)
deriving Repr

def step (s : State) : Op → State
  | .push p t r => push s p t r
  | .popOff r => (popOffPath s r).1
  | .popOn r => (popOnPath s r).1

def run (s : State) (ops : List Op) : State := ops.foldl step s

theorem run_inv (ops : List Op) : ∀ s, Inv s → Inv (run s ops) := by
  refine foldl_inv (fun s op h => ?_) ops
  cases op with
  | push p t r => exact push_inv s h p t r
  | popOff r => exact popOffPath_inv s h r
  | popOn r => exact popOnPath_inv s h r

theorem init_inv : Inv ([] : State) := ⟨by simp, by simp⟩

end QM.PathResponses
