import QuinnModel.Recovery.Mtud
/-
Proofs about the MtuDiscovery model (C13): the binary search (`SearchState`, `EnabledMtuDiscovery::poll_transmit`)
and the black hole detector.  Whole `MtuDiscovery` states and their runs: `Lemmas/MtudState.lean`.
-/
namespace QM.Mtud
open QM

/-- `omega` knows `min`, not `Nat.min` -/
theorem natMin (a b : Nat) : Nat.min a b = min a b := rfl

/-- the in-flight probe was acknowledged, or given up after `MAX_PROBE_RETRANSMITS` losses -/
def SearchState.cleared (st : SearchState) : SearchState := { st with inFlightProbe := none, lostProbeCount := 0 }

/-- `on_probe_lost` -/
def SearchState.lostOne (st : SearchState) : SearchState :=
  { st with inFlightProbe := none, lostProbeCount := st.lostProbeCount + 1 }

/-- `next_mtu_to_probe` after a success: the lower bound moves up to the size last probed -/
def SearchState.raised (st : SearchState) : SearchState := { st with lowerBound := st.lastProbedMtu }

/-- `next_mtu_to_probe` after a failure: the upper bound moves below the size last probed -/
def SearchState.lowered (st : SearchState) : SearchState :=
  { st with upperBound := Gen.mtudUpperAfterLoss st.lastProbedMtu }

/-- a probe of size `p` leaves in packet `pn` -/
def SearchState.sent (st : SearchState) (pn p : Nat) : SearchState :=
  { st with inFlightProbe := some pn, lastProbedMtu := p }

/-- holds with no assumption on configuration or caller (`pm`: the peer's max_udp_payload_size) -/
structure GOk (pm : Nat) (st : SearchState) : Prop where
  lo : st.lowerBound ≤ pm
  up : st.upperBound ≤ pm
  last : st.lastProbedMtu ≤ pm

theorem GOk.cleared {pm : Nat} {st : SearchState} (hg : GOk pm st) : GOk pm st.cleared := ⟨hg.lo, hg.up, hg.last⟩

theorem GOk.lostOne {pm : Nat} {st : SearchState} (hg : GOk pm st) : GOk pm st.lostOne := ⟨hg.lo, hg.up, hg.last⟩

theorem GOk.raised {pm : Nat} {st : SearchState} (hg : GOk pm st) : GOk pm st.raised := ⟨hg.last, hg.up, hg.last⟩

theorem GOk.lowered {pm : Nat} {st : SearchState} (hg : GOk pm st) : GOk pm st.lowered :=
  ⟨hg.lo, Nat.le_trans (Nat.sub_le _ _) hg.last, hg.last⟩

theorem clamp_spec (x lo hi : Nat) (h : lo ≤ hi) :
    ∃ u, clamp x lo hi = some u ∧ lo ≤ u ∧ u ≤ hi ∧ (lo < u → u ≤ x) := by
  unfold clamp
  rw [if_neg (Nat.not_lt.2 h)]
  by_cases h1 : x < lo
  · rw [if_pos h1]; exact ⟨lo, rfl, Nat.le_refl _, h, fun h' => absurd h' (Nat.lt_irrefl _)⟩
  · rw [if_neg h1]
    by_cases h2 : x > hi
    · rw [if_pos h2]; exact ⟨hi, rfl, h, Nat.le_refl _, fun _ => Nat.le_of_lt h2⟩
    · rw [if_neg h2]; exact ⟨x, rfl, Nat.le_of_not_lt h1, Nat.le_of_not_lt h2, fun _ => Nat.le_refl _⟩

/-- `SearchState::new` never hits the `clamp` assertion -/
theorem searchNew_spec (cur pm : Nat) (cfg : Config) :
    ∃ u, SearchState.new cur pm cfg = some ⟨Nat.min cur pm, u, cfg.minimumChange, Nat.min cur pm, none, 0⟩
      ∧ Nat.min cur pm ≤ u ∧ u ≤ pm ∧ (Nat.min cur pm < u → u ≤ cfg.upperBound) := by
  obtain ⟨u, hu, h⟩ := clamp_spec cfg.upperBound (Nat.min cur pm) pm (Nat.min_le_right _ _)
  exact ⟨u, by simp only [SearchState.new, Gen.mtudSearchLower, hu], h⟩

theorem new_gok (cur pm : Nat) (cfg : Config) (st : SearchState) (h : SearchState.new cur pm cfg = some st) :
    GOk pm st := by
  obtain ⟨u, hu, _, h2, _⟩ := searchNew_spec cur pm cfg
  rw [hu] at h; cases h
  exact ⟨Nat.min_le_right _ _, h2, Nat.min_le_right _ _⟩

theorem pick_fst (s : SearchState) : s.pick.1 = s := by
  fun_cases SearchState.pick s <;> rfl

theorem pick_snd (s : SearchState) :
    (s.pick.2 = some s.upperBound
        ∧ Gen.mtudStop (Gen.mtudMidpoint s.lowerBound s.upperBound) s.lastProbedMtu s.minimumChange = true
        ∧ Gen.mtudProbeUpper s.upperBound s.lastProbedMtu s.minimumChange = true)
    ∨ (s.pick.2 = none
        ∧ Gen.mtudStop (Gen.mtudMidpoint s.lowerBound s.upperBound) s.lastProbedMtu s.minimumChange = true
        ∧ Gen.mtudProbeUpper s.upperBound s.lastProbedMtu s.minimumChange = false)
    ∨ (s.pick.2 = some (Gen.mtudMidpoint s.lowerBound s.upperBound)
        ∧ Gen.mtudStop (Gen.mtudMidpoint s.lowerBound s.upperBound) s.lastProbedMtu s.minimumChange = false) := by
  unfold SearchState.pick; dsimp only
  cases h1 : Gen.mtudStop (Gen.mtudMidpoint s.lowerBound s.upperBound) s.lastProbedMtu s.minimumChange
  · exact Or.inr (Or.inr ⟨rfl, rfl⟩)
  · cases h2 : Gen.mtudProbeUpper s.upperBound s.lastProbedMtu s.minimumChange
    · exact Or.inr (Or.inl ⟨rfl, rfl, rfl⟩)
    · exact Or.inl ⟨rfl, rfl, rfl⟩

theorem pick_some (s : SearchState) (p : Nat) (h : s.pick.2 = some p) :
    (p = s.upperBound ∧ s.minimumChange ≤ s.upperBound - s.lastProbedMtu)
    ∨ (p = (s.lowerBound + s.upperBound) / 2 ∧ (p ≤ s.lastProbedMtu → s.minimumChange ≤ s.lastProbedMtu - p)
        ∧ (s.lastProbedMtu < p → s.minimumChange ≤ p - s.lastProbedMtu)) := by
  rcases pick_snd s with ⟨h1, _, h3⟩ | ⟨h1, _⟩ | ⟨h1, h2⟩ <;> rw [h1] at h <;> cases h
  · exact Or.inl ⟨rfl, of_decide_eq_true h3⟩
  · have h2 := of_decide_eq_false h2
    generalize hm : Gen.mtudMidpoint s.lowerBound s.upperBound = m at h2
    refine Or.inr ⟨hm.symm, fun hle => ?_, fun hlt => ?_⟩
    · rw [if_pos hle] at h2; omega
    · rw [if_neg (by omega)] at h2; omega

theorem pick_gok (pm : Nat) (s : SearchState) (hg : GOk pm s) (p : Nat) (hp : s.pick.2 = some p) : p ≤ pm := by
  rcases pick_some s p hp with ⟨h, _⟩ | ⟨h, _⟩ <;> rw [h]
  · exact hg.up
  · exact Nat.div_le_of_le_mul (Nat.two_mul pm ▸ Nat.add_le_add hg.lo hg.up)

/-- `h1`, `h2` cover both uses: the size last probed is the lower bound (after a success) or one above the upper
    bound (after a loss) -/
theorem pick_range (s : SearchState) (p : Nat) (hp : s.pick.2 = some p) (h3 : 3 ≤ s.minimumChange)
    (h1 : s.lowerBound ≤ s.lastProbedMtu) (h2 : s.lastProbedMtu ≤ s.upperBound + 1) :
    s.lowerBound < p ∧ p ≤ s.upperBound := by
  rcases pick_some s p hp with ⟨h, hc⟩ | ⟨h, _, _⟩
  · rw [h]
    exact ⟨Nat.lt_of_le_of_lt h1 (Nat.lt_of_sub_pos (Nat.lt_of_lt_of_le (Nat.succ_pos 2) (Nat.le_trans h3 hc))),
      Nat.le_refl _⟩
  · omega

theorem nextMtu_succ (st : SearchState) (h : st.inFlightProbe = none) :
    st.nextMtuToProbe true = some (st.raised, st.raised.pick.2) := by
  obtain ⟨lo, up, mc, last, fl, lost⟩ := st
  dsimp only at h; subst h
  simp only [SearchState.nextMtuToProbe, Option.isSome_none, Bool.false_eq_true, if_false, if_true]
  exact congrArg some (Prod.ext (pick_fst _) rfl)

theorem nextMtu_fail (st : SearchState) (h : st.inFlightProbe = none) (h0 : st.lastProbedMtu ≠ 0) :
    st.nextMtuToProbe false = some (st.lowered, st.lowered.pick.2) := by
  obtain ⟨lo, up, mc, last, fl, lost⟩ := st
  dsimp only at h h0; subst h
  simp only [SearchState.nextMtuToProbe, Option.isSome_none, Bool.false_eq_true, if_false, h0]
  exact congrArg some (Prod.ext (pick_fst _) rfl)

theorem nextMtu_gok (pm : Nat) (st : SearchState) (succ : Bool) (hg : GOk pm st) (st' : SearchState) (r : Option Nat)
    (h : st.nextMtuToProbe succ = some (st', r)) : GOk pm st' ∧ ∀ p, r = some p → p ≤ pm := by
  cases hfl : st.inFlightProbe with
  | some q => simp [SearchState.nextMtuToProbe, hfl] at h
  | none =>
    cases succ with
    | true =>
      rw [nextMtu_succ st hfl] at h; cases h
      exact ⟨hg.raised, pick_gok pm _ hg.raised⟩
    | false =>
      by_cases h0 : st.lastProbedMtu = 0
      · simp [SearchState.nextMtuToProbe, hfl, h0] at h
      · rw [nextMtu_fail st hfl h0] at h; cases h
        exact ⟨hg.lowered, pick_gok pm _ hg.lowered⟩

/-- the bound that `next_mtu_to_probe` moves: up after a success, down once the probe is given up -/
def Moved (st b : SearchState) : Prop :=
  (st.lostProbeCount = 0 ∧ b = st.raised)
  ∨ (Gen.mtudMaxProbeRetransmits ≤ st.lostProbeCount ∧ st.lastProbedMtu ≠ 0 ∧ b = st.cleared.lowered)

/-- the search `poll_transmit` works on: the running one, or a fresh one -/
def Runs (e : Enabled) (cur : Nat) (st : SearchState) : Prop :=
  e.phase = .searching st ∨ ((∀ st', e.phase ≠ .searching st') ∧ SearchState.new cur e.peerMax e.config = some st)

/-- the ways `poll_transmit` can go: not yet time for a new search, or a poll of the search `st` it works on;
    `underflow`: `last_probed_mtu - 1` underflows -/
inductive Polled (e : Enabled) (cur now pn : Nat) : PollR → Prop
  | notYet (t : Nat) (hph : e.phase = .complete t) : Polled e cur now pn (e, some none)
  | wait {st : SearchState} (hr : Runs e cur st) (q : Nat) (hfl : st.inFlightProbe = some q) :
      Polled e cur now pn ({ e with phase := .searching st }, some none)
  | resend {st : SearchState} (hr : Runs e cur st) (hfl : st.inFlightProbe = none) (h0 : 0 < st.lostProbeCount)
      (h3 : st.lostProbeCount < Gen.mtudMaxProbeRetransmits) :
      Polled e cur now pn ({ e with phase := .searching (st.sent pn st.lastProbedMtu) }, some (some st.lastProbedMtu))
  | probe {st : SearchState} (hr : Runs e cur st) (b : SearchState) (p : Nat) (hfl : st.inFlightProbe = none)
      (hb : Moved st b) (hp : b.pick.2 = some p) :
      Polled e cur now pn ({ e with phase := .searching (b.sent pn p) }, some (some p))
  | done {st : SearchState} (hr : Runs e cur st) (b : SearchState) (hfl : st.inFlightProbe = none) (hb : Moved st b)
      (hp : b.pick.2 = none) : Polled e cur now pn ({ e with phase := .complete (now + e.config.interval) }, some none)
  | underflow {st : SearchState} (hr : Runs e cur st) (hfl : st.inFlightProbe = none)
      (hge : Gen.mtudMaxProbeRetransmits ≤ st.lostProbeCount) (h0 : st.lastProbedMtu = 0) :
      Polled e cur now pn ({ e with phase := .searching st.cleared }, none)

theorem retransmit_iff (n : Nat) : Gen.mtudRetransmit n = true ↔ 0 < n ∧ n < Gen.mtudMaxProbeRetransmits := by
  simp only [Gen.mtudRetransmit, Bool.and_eq_true, decide_eq_true_eq]

theorem pollSearching_polled {e : Enabled} {cur : Nat} {st : SearchState} (hr : Runs e cur st) (now pn : Nat) :
    Polled e cur now pn (e.pollSearching st now pn) := by
  unfold Enabled.pollSearching
  cases hfl : st.inFlightProbe with
  | some q => exact .wait hr q hfl
  | none =>
    simp only [Option.isSome_none, Bool.false_eq_true, if_false]
    cases hrt : Gen.mtudRetransmit st.lostProbeCount with
    | true => exact .resend hr hfl ((retransmit_iff _).1 hrt).1 ((retransmit_iff _).1 hrt).2
    | false =>
      have hnr : ¬ (0 < st.lostProbeCount ∧ st.lostProbeCount < Gen.mtudMaxProbeRetransmits) :=
        fun h => Bool.false_ne_true (hrt ▸ (retransmit_iff _).2 h)
      simp only [Bool.false_eq_true, if_false, Gen.mtudLastProbeSucceeded]
      by_cases hl : st.lostProbeCount = 0
      · have hm : Moved st st.raised := Or.inl ⟨hl, rfl⟩
        simp only [hl, decide_true, Bool.not_true, Bool.false_eq_true, if_false, nextMtu_succ st hfl]
        cases hp : st.raised.pick.2 with
        | some p => exact .probe hr _ p hfl hm hp
        | none => exact .done hr _ hfl hm hp
      · have hge : Gen.mtudMaxProbeRetransmits ≤ st.lostProbeCount :=
          Nat.le_of_not_lt fun h => hnr ⟨Nat.pos_of_ne_zero hl, h⟩
        simp only [hl, decide_false, Bool.not_false, if_true]
        by_cases h0 : st.lastProbedMtu = 0
        · have : ({ st with lostProbeCount := 0, inFlightProbe := none } : SearchState).nextMtuToProbe false = none := by
            simp [SearchState.nextMtuToProbe, h0]
          rw [this]; exact .underflow hr hfl hge h0
        · have hm : Moved st st.cleared.lowered := Or.inr ⟨hge, h0, rfl⟩
          rw [show ({ st with lostProbeCount := 0, inFlightProbe := none } : SearchState) = st.cleared from rfl,
            nextMtu_fail st.cleared rfl h0]
          cases hp : st.cleared.lowered.pick.2 with
          | some p => exact .probe hr _ p hfl hm hp
          | none => exact .done hr _ hfl hm hp

theorem pollTransmit_polled (e : Enabled) (now cur pn : Nat) : Polled e cur now pn (e.pollTransmit now cur pn) := by
  obtain ⟨u, hu, _⟩ := searchNew_spec cur e.peerMax e.config
  have hfresh : (∀ st', e.phase ≠ .searching st') → Runs e cur _ := fun h => Or.inr ⟨h, hu⟩
  cases hph : e.phase with
  | initial =>
    simp only [Enabled.pollTransmit, hph, hu]
    exact pollSearching_polled (hfresh (fun st' h => by rw [hph] at h; cases h)) now pn
  | complete t =>
    cases hny : Gen.mtudNotYet now t with
    | true => simp only [Enabled.pollTransmit, hph, hny, if_true]; exact .notYet t hph
    | false =>
      simp only [Enabled.pollTransmit, hph, hny, hu, Bool.false_eq_true, if_false]
      exact pollSearching_polled (hfresh (fun st' h => by rw [hph] at h; cases h)) now pn
  | searching st =>
    simp only [Enabled.pollTransmit, hph]; exact pollSearching_polled (Or.inl hph) now pn

theorem runs_eq {e : Enabled} {cur : Nat} {st st0 : SearchState} (h : Runs e cur st) (h0 : e.phase = .searching st0) :
    st0 = st := by
  rcases h with h | ⟨h, _⟩
  · rw [h0] at h; cases h; rfl
  · exact absurd h0 (h st0)

theorem forall_searching {P : SearchState → Prop} {e : Enabled} {x : SearchState} (h : P x) :
    ∀ st, ({ e with phase := .searching x } : Enabled).phase = .searching st → P st := by
  rintro _ ⟨⟩; exact h

theorem moved_gok {st b : SearchState} {pm : Nat} (hb : Moved st b) (hg : GOk pm st) : GOk pm b := by
  rcases hb with ⟨_, rfl⟩ | ⟨_, _, rfl⟩
  · exact hg.raised
  · exact hg.cleared.lowered

/-- the in-flight slot of a search: (packet number, probed size) -/
def slotE (e : Enabled) : Option (Nat × Nat) :=
  match e.phase with
  | .searching st => st.inFlightProbe.map (fun pn => (pn, st.lastProbedMtu))
  | _ => none

theorem runs_slot {e : Enabled} {cur : Nat} {st : SearchState} (h : Runs e cur st) :
    slotE e = st.inFlightProbe.map (fun q => (q, st.lastProbedMtu)) := by
  unfold slotE
  rcases h with h | ⟨h, hn⟩
  · rw [h]
  · obtain ⟨u, hu, _⟩ := searchNew_spec cur e.peerMax e.config
    rw [hu] at hn; cases hn
    split
    · rename_i h'; exact absurd h' (h _)
    · rfl

section
variable {e : Enabled} {cur now pn : Nat} {R : PollR} (h : Polled e cur now pn R)
include h

theorem Polled.frame : R.1.peerMax = e.peerMax ∧ R.1.config = e.config := by
  cases h <;> exact ⟨rfl, rfl⟩

theorem Polled.gok (hg : ∀ st, e.phase = .searching st → GOk e.peerMax st) :
    (∀ st', R.1.phase = .searching st' → GOk e.peerMax st') ∧ ∀ p, R.2 = some (some p) → p ≤ e.peerMax := by
  have hr : ∀ st, Runs e cur st → GOk e.peerMax st := fun st hr => hr.elim (hg st) (fun h => new_gok _ _ _ _ h.2)
  cases h with
  | notYet => exact ⟨hg, nofun⟩
  | wait hst => exact ⟨forall_searching (hr _ hst), nofun⟩
  | resend hst =>
    have hg := hr _ hst
    exact ⟨forall_searching ⟨hg.lo, hg.up, hg.last⟩, fun p hp => by cases hp; exact hg.last⟩
  | probe hst b p hfl hb hp =>
    have hgb := moved_gok hb (hr _ hst)
    have hle := pick_gok _ b hgb p hp
    exact ⟨forall_searching ⟨hgb.lo, hgb.up, hle⟩, fun p' hp' => by cases hp'; exact hle⟩
  | done => exact ⟨nofun, nofun⟩
  | underflow hst => exact ⟨forall_searching (hr _ hst).cleared, nofun⟩

theorem Polled.slot :
    (∀ p, R.2 = some (some p) → slotE e = none ∧ slotE R.1 = some (pn, p))
    ∧ (R.2 = some none →
        slotE R.1 = slotE e ∧ ∀ st, e.phase = .searching st → st.inFlightProbe = none → ∃ t, R.1.phase = .complete t) := by
  have idle : ∀ {st}, Runs e cur st → st.inFlightProbe = none → slotE e = none := fun hst hfl => by rw [runs_slot hst, hfl]; rfl
  cases h with
  | notYet t ht => exact ⟨nofun, fun _ => ⟨rfl, fun st hst => by rw [ht] at hst; cases hst⟩⟩
  | wait hst q hfl =>
    exact ⟨nofun, fun _ => ⟨by rw [runs_slot hst]; rfl, fun st0 h0 h' => by rw [runs_eq hst h0, hfl] at h'; cases h'⟩⟩
  | resend hst hfl => exact ⟨fun p hp => by cases hp; exact ⟨idle hst hfl, rfl⟩, nofun⟩
  | probe hst b p hfl => exact ⟨fun p' hp' => by cases hp'; exact ⟨idle hst hfl, rfl⟩, nofun⟩
  | done hst b hfl => exact ⟨nofun, fun _ => ⟨(idle hst hfl).symm, fun _ _ _ => ⟨_, rfl⟩⟩⟩
  | underflow => exact ⟨nofun, nofun⟩

end

/-- termination measure of one binary search (see `Props.C13.search_terminates`) -/
def measure (st : SearchState) : Nat :=
  if st.inFlightProbe = none ∧ st.lostProbeCount = 0 then 4 * (st.upperBound - st.lastProbedMtu) + 3
  else if st.inFlightProbe = none ∧ Gen.mtudMaxProbeRetransmits ≤ st.lostProbeCount then
    4 * (st.lastProbedMtu - 1 - st.lowerBound) + 3
  else 4 * (st.upperBound - st.lowerBound) + (3 - st.lostProbeCount)

theorem measure_idle (st : SearchState) (hfl : st.inFlightProbe = none) (hl : st.lostProbeCount = 0) :
    measure st = 4 * (st.upperBound - st.lastProbedMtu) + 3 := by
  rw [measure, if_pos ⟨hfl, hl⟩]

theorem measure_given_up (st : SearchState) (hfl : st.inFlightProbe = none)
    (hge : Gen.mtudMaxProbeRetransmits ≤ st.lostProbeCount) :
    measure st = 4 * (st.lastProbedMtu - 1 - st.lowerBound) + 3 := by
  have : Gen.mtudMaxProbeRetransmits = 3 := rfl
  rw [measure, if_neg (by omega), if_pos ⟨hfl, hge⟩]

theorem measure_busy (st : SearchState)
    (h : st.inFlightProbe ≠ none ∨ (0 < st.lostProbeCount ∧ st.lostProbeCount < Gen.mtudMaxProbeRetransmits)) :
    measure st = 4 * (st.upperBound - st.lowerBound) + (3 - st.lostProbeCount) := by
  rw [measure, if_neg (fun hn => h.elim (absurd hn.1) (by omega)), if_neg (fun hn => h.elim (absurd hn.1) (by omega))]

theorem measure_bound (st : SearchState) : measure st ≤ 4 * (st.upperBound + st.lastProbedMtu) + 3 := by
  fun_cases measure st
  · exact Nat.add_le_add_right (Nat.mul_le_mul_left 4 (Nat.le_trans (Nat.sub_le _ _) (Nat.le_add_right _ _))) 3
  · exact Nat.add_le_add_right (Nat.mul_le_mul_left 4
      (Nat.le_trans (Nat.sub_le _ _) (Nat.le_trans (Nat.sub_le _ _) (Nat.le_add_left _ _)))) 3
  · exact Nat.add_le_add (Nat.mul_le_mul_left 4 (Nat.le_trans (Nat.sub_le _ _) (Nat.le_add_right _ _))) (Nat.sub_le _ _)

/-- the search invariant (S, beside the general `GOk`); `poll_transmit` keeps it only with `minimum_change ≥ 3`
    (`Polled.ok`) -/
structure SOk (cur pm : Nat) (cfg : Config) (st : SearchState) : Prop where
  mc : st.minimumChange = cfg.minimumChange
  lo_last : st.lowerBound ≤ st.lastProbedMtu
  last_up : st.lastProbedMtu ≤ st.upperBound
  up_pm : st.upperBound ≤ pm
  up_cfg : st.lowerBound < st.upperBound → st.upperBound ≤ cfg.upperBound
  /-- nothing outstanding: the last probed size is the (peer-clamped) current MTU -/
  idle : st.inFlightProbe = none → st.lostProbeCount = 0 → st.lastProbedMtu = Nat.min cur pm
  /-- a probe is outstanding or was lost: it is larger than the current MTU, which is the lower bound -/
  busy : (st.inFlightProbe ≠ none ∨ st.lostProbeCount ≠ 0) → st.lowerBound = cur ∧ cur < st.lastProbedMtu
  lost_fl : st.inFlightProbe ≠ none → st.lostProbeCount ≤ 2

theorem sok_sent {cur pm : Nat} {cfg : Config} (b : SearchState) (pn p : Nat) (hmc : b.minimumChange = cfg.minimumChange)
    (hlo : b.lowerBound = cur) (hp : cur < p) (hpu : p ≤ b.upperBound) (hup : b.upperBound ≤ pm)
    (hcfg : b.upperBound ≤ cfg.upperBound) (hl : b.lostProbeCount ≤ 2) :
    SOk cur pm cfg (b.sent pn p) :=
  ⟨hmc, Nat.le_of_lt (hlo ▸ hp), hpu, hup, fun _ => hcfg, fun h => (by cases h), fun _ => ⟨hlo, hp⟩, fun _ => hl⟩

/-- the probe in flight is larger than the current MTU, within the configured bound and the peer limit -/
theorem SOk.in_flight {cur pm : Nat} {cfg : Config} {st : SearchState} (hs : SOk cur pm cfg st)
    (hfl : st.inFlightProbe ≠ none) : cur < st.lastProbedMtu ∧ st.lastProbedMtu ≤ cfg.upperBound ∧ st.lastProbedMtu ≤ pm :=
  have hb := hs.busy (Or.inl hfl)
  ⟨hb.2, Nat.le_trans hs.last_up (hs.up_cfg (hb.1 ▸ Nat.lt_of_lt_of_le hb.2 hs.last_up)), Nat.le_trans hs.last_up hs.up_pm⟩

theorem new_sok (cur pm : Nat) (cfg : Config) (st : SearchState) (h : SearchState.new cur pm cfg = some st) :
    SOk cur pm cfg st := by
  obtain ⟨u, hu, h1, h2, h3⟩ := searchNew_spec cur pm cfg
  rw [hu] at h; cases h
  exact ⟨rfl, Nat.le_refl _, h1, h2, h3, fun _ _ => rfl, fun hb => hb.elim (absurd rfl) (absurd rfl),
    fun hb => absurd rfl hb⟩

theorem measure_new (cur pm : Nat) (cfg : Config) (st : SearchState) (h : SearchState.new cur pm cfg = some st) :
    measure st = 4 * (st.upperBound - st.lowerBound) + 3 := by
  obtain ⟨u, hu, _⟩ := searchNew_spec cur pm cfg
  rw [hu] at h; cases h
  exact measure_idle _ rfl rfl

theorem min_eq_of_lt {cur pm x : Nat} (h : Nat.min cur pm < x) (hx : x ≤ pm) : Nat.min cur pm = cur := by
  rw [natMin] at *; omega

theorem sok_moved {cur pm : Nat} {cfg : Config} {st b : SearchState} (hs : SOk cur pm cfg st)
    (h3 : 3 ≤ cfg.minimumChange) (hfl : st.inFlightProbe = none) (hb : Moved st b) (pn p : Nat) (hp : b.pick.2 = some p) :
    SOk cur pm cfg (b.sent pn p) ∧ measure (b.sent pn p) = measure st := by
  have hmc : 3 ≤ st.minimumChange := hs.mc ▸ h3
  have hm : measure (b.sent pn p) = 4 * (b.upperBound - b.lowerBound) + (3 - b.lostProbeCount) :=
    measure_busy _ (Or.inl (fun h => by cases h))
  rcases hb with ⟨hl, rfl⟩ | ⟨hge, h0, rfl⟩
  · have hr : st.lastProbedMtu < p ∧ p ≤ st.upperBound :=
      pick_range st.raised p hp hmc (Nat.le_refl _) (Nat.le_succ_of_le hs.last_up)
    -- the probe fits under the peer limit, so the size last probed is the current MTU itself
    have hcur : st.lastProbedMtu = cur := by
      have hi := hs.idle hfl hl
      rw [hi] at hr ⊢; exact min_eq_of_lt hr.1 (Nat.le_trans hr.2 hs.up_pm)
    refine ⟨sok_sent st.raised pn p hs.mc hcur (hcur ▸ hr.1) hr.2 hs.up_pm
      (hs.up_cfg (Nat.lt_of_le_of_lt hs.lo_last (Nat.lt_of_lt_of_le hr.1 hr.2))) (hl ▸ Nat.zero_le 2 : st.lostProbeCount ≤ 2), ?_⟩
    rw [hm, measure_idle st hfl hl]
    show 4 * (st.upperBound - st.lastProbedMtu) + (3 - st.lostProbeCount) = _
    rw [hl]
  · have h3' : 3 ≤ st.lostProbeCount := hge
    have hbusy := hs.busy (Or.inr (Nat.ne_of_gt (Nat.lt_of_lt_of_le (Nat.succ_pos 2) h3')))
    have hr : st.lowerBound < p ∧ p ≤ st.lastProbedMtu - 1 :=
      pick_range st.cleared.lowered p hp hmc hs.lo_last (Nat.le_succ_of_pred_le (Nat.le_refl _))
    have hup : st.lastProbedMtu - 1 ≤ st.upperBound := Nat.le_trans (Nat.sub_le _ _) hs.last_up
    refine ⟨sok_sent st.cleared.lowered pn p hs.mc hbusy.1 (hbusy.1 ▸ hr.1) hr.2 (Nat.le_trans hup hs.up_pm)
      (Nat.le_trans hup (hs.up_cfg (Nat.lt_of_lt_of_le hr.1 (Nat.le_trans hr.2 hup)))) (Nat.zero_le 2), ?_⟩
    rw [hm, measure_given_up st hfl hge]
    rfl

/-- what `poll_transmit` achieves from a discovery state `e` whose running search (if any) satisfies `SOk`;
    the search it leaves has the measure of the one that ran -/
structure PollOk (e : Enabled) (cur : Nat) (R : PollR) : Prop where
  noPanic : R.2 ≠ none
  search : ∀ st', R.1.phase = .searching st' →
    SOk cur e.peerMax e.config st' ∧ ∀ st, e.phase = .searching st → measure st' = measure st
  probe : ∀ p, R.2 = some (some p) → cur < p ∧ p ≤ e.config.upperBound ∧ p ≤ e.peerMax

theorem Polled.ok {e : Enabled} {cur now pn : Nat} {R : PollR} (h : Polled e cur now pn R)
    (h3 : 3 ≤ e.config.minimumChange) (hs : ∀ st, e.phase = .searching st → SOk cur e.peerMax e.config st) :
    PollOk e cur R := by
  have hr : ∀ st, Runs e cur st → SOk cur e.peerMax e.config st :=
    fun st hr => hr.elim (hs st) (fun h => new_sok _ _ _ _ h.2)
  cases h with
  | notYet t ht => exact ⟨nofun, fun st' h' => ⟨hs st' h', fun st h0 => by rw [ht] at h0; cases h0⟩, nofun⟩
  | wait hst q hfl => exact ⟨nofun, forall_searching ⟨hr _ hst, fun st0 h0 => by rw [runs_eq hst h0]⟩, nofun⟩
  | @resend st hst hfl h0 hlt =>
    have hs := hr _ hst
    have hb := hs.busy (Or.inr (Nat.ne_of_gt h0))
    have h1 := sok_sent st pn _ hs.mc hb.1 hb.2 hs.last_up hs.up_pm
      (hs.up_cfg (hb.1 ▸ Nat.lt_of_lt_of_le hb.2 hs.last_up)) (Nat.le_of_lt_succ hlt)
    refine ⟨nofun, forall_searching ⟨h1, fun st0 hph => ?_⟩, fun p hp => by cases hp; exact h1.in_flight nofun⟩
    rw [runs_eq hst hph, measure_busy _ (Or.inl (fun h => by cases h)), measure_busy st (Or.inr ⟨h0, hlt⟩)]
    rfl
  | probe hst b p hfl hb hp =>
    obtain ⟨h1, h2⟩ := sok_moved (hr _ hst) h3 hfl hb pn p hp
    exact ⟨nofun, forall_searching ⟨h1, fun st0 h0 => runs_eq hst h0 ▸ h2⟩, fun p' hp' => by cases hp'; exact h1.in_flight nofun⟩
  | done => exact ⟨nofun, nofun, nofun⟩
  | underflow hst hfl hge h0 =>
    -- impossible: a lost probe is larger than the current MTU
    have := ((hr _ hst).busy (Or.inr (Nat.ne_of_gt (Nat.lt_of_lt_of_le (Nat.succ_pos 2) hge)))).2
    exact absurd (h0 ▸ this) (Nat.not_lt_zero _)

theorem replaceFirst_length (m new : Nat) (l : List Nat) : (replaceFirst m new l).length = l.length := by
  induction l with
  | nil => rfl
  | cons x xs ih => simp only [replaceFirst]; split <;> simp [ih]

/-- the part of `finish_loss_burst` that stores a suspicious burst -/
def store (d : Detector) (x : Nat) : Detector :=
  if Gen.mtudHasRoom d.bursts.length then { d with bursts := d.bursts ++ [x] }
  else match minOf d.bursts with
    | none => d
    | some m => if Gen.mtudReplaces m x then { d with bursts := replaceFirst m x d.bursts } else d

/-- what every operation of the detector keeps -/
structure Kept (d d' : Detector) : Prop where
  minMtu : d'.minMtu = d.minMtu
  bursts : d.bursts.length ≤ Gen.mtudBlackHoleThreshold + 1 → d'.bursts.length ≤ Gen.mtudBlackHoleThreshold + 1

theorem store_kept (d : Detector) (x : Nat) : Kept d (store d x) ∧ (store d x).current = d.current := by
  -- branches: room left; table empty; the smallest entry is replaced; it is not
  fun_cases store d x
  · have hroom : d.bursts.length ≤ Gen.mtudBlackHoleThreshold := of_decide_eq_true ‹_›
    exact ⟨⟨rfl, fun _ => by simp only [List.length_append, List.length_cons, List.length_nil]; omega⟩, rfl⟩
  · exact ⟨⟨rfl, id⟩, rfl⟩
  · exact ⟨⟨rfl, fun h => by simp only [replaceFirst_length]; exact h⟩, rfl⟩
  · exact ⟨⟨rfl, id⟩, rfl⟩

theorem finishLossBurst_kept (d : Detector) : Kept d d.finishLossBurst ∧ d.finishLossBurst.current = none := by
  cases hc : d.current with
  | none =>
    have : d.finishLossBurst = d := by simp only [Detector.finishLossBurst, hc]
    rw [this]; exact ⟨⟨rfl, id⟩, hc⟩
  | some b =>
    cases hb : Gen.mtudBenign b.smallest b.latest d.minMtu d.largestPostLoss d.ackedMtu with
    | true =>
      have : d.finishLossBurst = { d with current := none } := by simp only [Detector.finishLossBurst, hc, hb, if_true]
      rw [this]; exact ⟨⟨rfl, id⟩, rfl⟩
    | false =>
      have : d.finishLossBurst = store (if Gen.mtudInvalidates b.latest d.largestPostLoss then
          { d with current := none, ackedMtu := d.minMtu } else { d with current := none }) b.smallest := by
        simp only [Detector.finishLossBurst, hc, hb, Bool.false_eq_true, if_false]; rfl
      rw [this]
      generalize hd1 : (if Gen.mtudInvalidates b.latest d.largestPostLoss then
          ({ d with current := none, ackedMtu := d.minMtu } : Detector) else { d with current := none }) = d1
      have h' : d1.minMtu = d.minMtu ∧ d1.current = none ∧ d1.bursts = d.bursts := by
        subst hd1; split <;> exact ⟨rfl, rfl, rfl⟩
      obtain ⟨hk, hcur⟩ := store_kept d1 b.smallest
      exact ⟨⟨hk.minMtu.trans h'.1, fun hl => hk.bursts (h'.2.2 ▸ hl)⟩, hcur.trans h'.2.1⟩

/-- what `black_hole_detected` returning `(d', b)` has done -/
structure BlackHoleResult (d d' : Detector) (b : Bool) : Prop extends Kept d d' where
  current : d'.current = none
  cleared : b = true → d'.bursts = []
  iff : b = true ↔ Gen.mtudBlackHoleThreshold < d.finishLossBurst.bursts.length

theorem blackHoleDetected_result (d d' : Detector) (b : Bool) (h : d.blackHoleDetected = (d', b)) :
    BlackHoleResult d d' b := by
  obtain ⟨hk, hcur⟩ := finishLossBurst_kept d
  unfold Detector.blackHoleDetected at h
  dsimp only at h
  cases hn : Gen.mtudNoBlackHole d.finishLossBurst.bursts.length with
  | true =>
    have hle : d.finishLossBurst.bursts.length ≤ Gen.mtudBlackHoleThreshold := of_decide_eq_true hn
    rw [hn, if_pos rfl] at h; cases h
    exact ⟨hk, hcur, nofun, nofun, fun h => absurd hle (Nat.not_le_of_lt h)⟩
  | false =>
    have hgt : ¬ d.finishLossBurst.bursts.length ≤ Gen.mtudBlackHoleThreshold := of_decide_eq_false hn
    rw [hn, if_neg Bool.false_ne_true] at h; cases h
    exact ⟨⟨hk.minMtu, fun _ => Nat.zero_le _⟩, hcur, fun _ => rfl, fun _ => Nat.lt_of_not_le hgt, fun _ => rfl⟩

theorem onNonProbeLost_kept (d d' : Detector) (pn len : Nat) (h : d.onNonProbeLost pn len = some d') : Kept d d' := by
  unfold Detector.onNonProbeLost at h
  split at h
  · cases h; exact ⟨rfl, id⟩
  · split at h
    · cases h
    · cases h
      split
      · exact ⟨(finishLossBurst_kept d).1.minMtu, (finishLossBurst_kept d).1.bursts⟩
      · exact ⟨rfl, id⟩

theorem onNonProbeAcked_kept (d : Detector) (pn len : Nat) : Kept d (d.onNonProbeAcked pn len) := by
  fun_cases Detector.onNonProbeAcked d pn len
  · exact ⟨rfl, id⟩
  · exact ⟨rfl, Nat.le_trans (List.length_filter_le _ _)⟩

end QM.Mtud
