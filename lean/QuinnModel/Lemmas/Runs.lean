/-
Facts about lists and folds that several components use and that mention no model definition.
-/
namespace QM

/-- a list of items none of which is among `seen'` stays so for a smaller set `seen` -/
theorem fresh_mono {α} {seen seen' : α → Prop} {l : List α} (ih : l.Nodup ∧ ∀ q ∈ l, ¬ seen' q)
    (mono : ∀ q, seen q → seen' q) : l.Nodup ∧ ∀ q ∈ l, ¬ seen q :=
  ⟨ih.1, fun q hq hs => ih.2 q hq (mono q hs)⟩

/-- "each item is accepted at most once": an item `p` not seen so far goes in front of a list that avoids
    a set `seen'` holding `p` and all of `seen` -/
theorem fresh_cons {α} {seen seen' : α → Prop} {p : α} {l : List α} (ih : l.Nodup ∧ ∀ q ∈ l, ¬ seen' q)
    (mono : ∀ q, seen q → seen' q) (hp' : seen' p) (hp : ¬ seen p) :
    (p :: l).Nodup ∧ ∀ q ∈ p :: l, ¬ seen q :=
  ⟨List.nodup_cons.mpr ⟨fun hm => ih.2 p hm hp', ih.1⟩, fun q hq hs => by
    rcases List.mem_cons.mp hq with rfl | hq
    · exact hp hs
    · exact ih.2 q hq (mono q hs)⟩

variable {σ ε} {step : σ → ε → σ} {P : σ → Prop}

/-- an invariant that the steps keep for events that satisfy `C` holds after any run of such events -/
theorem foldl_inv_of {C : ε → Prop} (hstep : ∀ s e, C e → P s → P (step s e)) :
    ∀ (l : List ε) (s : σ), (∀ e ∈ l, C e) → P s → P (l.foldl step s)
  | [], _, _, h => h
  | e :: l, s, hc, h => foldl_inv_of hstep l _ (fun x hx => hc x (List.mem_cons_of_mem _ hx))
      (hstep s e (hc e List.mem_cons_self) h)

theorem foldl_inv (hstep : ∀ s e, P s → P (step s e)) (l : List ε) (s : σ) : P s → P (l.foldl step s) :=
  foldl_inv_of (C := fun _ => True) (fun s e _ => hstep s e) l s fun _ _ => trivial

end QM
