import QuinnModel.Udp.Layout
/-
Lemmas for C19 (UDP layer arithmetic): the stride split loop inverts coalescing, and the GSO
contract produces a well-formed segment list of ceil(len/seg) datagrams.
-/
namespace QM.Udp

/-- the GSO / GRO segment contract: every segment has `stride` bytes but the last, which has 1 to `stride` -/
def WF {α : Type} (stride : Nat) : List (List α) → Prop
  | [] => False
  | [last] => 0 < last.length ∧ last.length ≤ stride
  | s :: rest => s.length = stride ∧ WF stride rest

theorem WF_nil {α : Type} (stride : Nat) : WF stride ([] : List (List α)) = False := rfl

theorem WF_single {α : Type} (stride : Nat) (l : List α) :
    WF stride [l] = (0 < l.length ∧ l.length ≤ stride) := rfl

theorem WF_cons_cons {α : Type} (stride : Nat) (s r : List α) (rest : List (List α)) :
    WF stride (s :: r :: rest) = (s.length = stride ∧ WF stride (r :: rest)) := rfl

theorem splitByStride_nil {α : Type} (stride fuel : Nat) :
    splitByStride stride fuel ([] : List α) = [] := by
  cases fuel <;> rfl

theorem splitByStride_succ {α : Type} (stride fuel : Nat) (data : List α) (hne : data ≠ []) :
    splitByStride stride (fuel + 1) data
      = data.take (Nat.min stride data.length)
        :: splitByStride stride fuel (data.drop (Nat.min stride data.length)) := by
  cases data with
  | nil => exact absurd rfl hne
  | cons a t => rfl

theorem splitByStride_flatten {α : Type} (stride : Nat) (hs : 0 < stride) :
    ∀ (segs : List (List α)) (fuel : Nat), WF stride segs → segs.flatten.length ≤ fuel →
      splitByStride stride fuel segs.flatten = segs := by
  intro segs
  induction segs with
  | nil => intro fuel h; exact False.elim h
  | cons s rest ih =>
    intro fuel hw hf
    cases rest with
    | nil =>
      rw [WF_single] at hw
      have hfl : [s].flatten = s := by simp
      rw [hfl] at hf ⊢
      cases fuel with
      | zero => exact absurd (Nat.lt_of_lt_of_le hw.1 hf) (Nat.lt_irrefl 0)
      | succ f =>
        have hne : s ≠ [] := by
          intro h; rw [h] at hw; simp at hw
        rw [splitByStride_succ stride f s hne]
        have hm : Nat.min stride s.length = s.length := Nat.min_eq_right hw.2
        rw [hm, List.take_length, List.drop_length, splitByStride_nil]
    | cons r rest' =>
      rw [WF_cons_cons] at hw
      obtain ⟨hl, hrest⟩ := hw
      have hfl : (s :: r :: rest').flatten = s ++ (r :: rest').flatten := List.flatten_cons
      rw [hfl] at hf ⊢
      generalize htl : (r :: rest').flatten = tl at hf ih ⊢
      rw [List.length_append] at hf
      have hspos : 0 < s.length := hl ▸ hs
      cases fuel with
      | zero => exact absurd (Nat.lt_of_lt_of_le hspos (Nat.le_trans (Nat.le_add_right _ _) hf)) (Nat.lt_irrefl 0)
      | succ f =>
        have hne : s ++ tl ≠ [] := fun h => List.ne_nil_of_length_pos hspos (List.append_eq_nil_iff.1 h).1
        rw [splitByStride_succ stride f (s ++ tl) hne]
        have hm : Nat.min stride (s ++ tl).length = s.length := by
          rw [List.length_append, hl]; exact Nat.min_eq_left (Nat.le_add_right _ _)
        have hf' : tl.length ≤ f :=
          Nat.le_of_succ_le_succ (Nat.le_trans (Nat.add_le_add_left hspos _) (Nat.add_comm s.length tl.length ▸ hf))
        rw [hm, List.take_left' rfl, List.drop_left' rfl, ih f hrest hf']

theorem splitByStride_single {α : Type} (stride : Nat) (data : List α) (hne : data ≠ []) (hle : data.length ≤ stride) :
    splitByStride stride data.length data = [data] := by
  have hpos : 0 < data.length := List.length_pos_iff.mpr hne
  have h := splitByStride_flatten stride (by omega) [data] data.length ⟨hpos, hle⟩ (by simp)
  simpa using h

theorem splitByStride_spec {α : Type} (seg : Nat) (hs : 0 < seg) :
    ∀ (fuel : Nat) (data : List α), data ≠ [] → data.length ≤ fuel →
      (splitByStride seg fuel data).flatten = data
      ∧ WF seg (splitByStride seg fuel data)
      ∧ (splitByStride seg fuel data).length = (data.length + seg - 1) / seg := by
  intro fuel
  induction fuel with
  | zero =>
    intro data hne hf
    cases data with
    | nil => exact absurd rfl hne
    | cons a t => simp at hf
  | succ f ih =>
    intro data hne hf
    have hpos : 0 < data.length := List.length_pos_iff.mpr hne
    rw [splitByStride_succ seg f data hne]
    by_cases hle : data.length ≤ seg
    · have hm : Nat.min seg data.length = data.length := Nat.min_eq_right hle
      rw [hm, List.take_length, List.drop_length, splitByStride_nil]
      refine ⟨by simp, ?_, ?_⟩
      · exact ⟨hpos, hle⟩
      · have : (data.length + seg - 1) / seg = 1 :=
          Nat.div_eq_of_lt_le (by rw [Nat.one_mul]; exact Nat.le_sub_one_of_lt (Nat.lt_add_of_pos_left hpos))
            (by show _ < 2 * seg
                rw [Nat.two_mul]; exact Nat.sub_one_lt_of_le (Nat.add_pos_left hpos _) (Nat.add_le_add_right hle seg))
        rw [this]; rfl
    · have hlt : seg < data.length := Nat.lt_of_not_le hle
      have hm : Nat.min seg data.length = seg := Nat.min_eq_left (Nat.le_of_lt hlt)
      rw [hm]
      have hdl : (data.drop seg).length = data.length - seg := List.length_drop
      have htl : (data.take seg).length = seg := by
        rw [List.length_take]; exact Nat.min_eq_left (Nat.le_of_lt hlt)
      have hdne : data.drop seg ≠ [] := fun h => Nat.not_le.2 hlt (List.drop_eq_nil_iff.1 h)
      obtain ⟨h1, h2, h3⟩ := ih (data.drop seg) hdne
        (by rw [hdl]; exact Nat.sub_le_of_le_add (Nat.le_trans hf (Nat.add_le_add_left hs f)))
      refine ⟨?_, ?_, ?_⟩
      · rw [List.flatten_cons, h1, List.take_append_drop]
      · cases hsp : splitByStride seg f (data.drop seg) with
        | nil => rw [hsp, WF_nil] at h2; exact h2.elim
        | cons r rest' =>
          rw [hsp] at h2
          rw [WF_cons_cons]; exact ⟨htl, h2⟩
      · rw [List.length_cons, h3, hdl]
        have : data.length + seg - 1 = (data.length - seg + seg - 1) + seg := by
          rw [Nat.sub_add_cancel (Nat.le_of_lt hlt), Nat.sub_add_comm hpos]
        rw [this, Nat.add_div_right _ hs]

/-- the stride the receiving socket reports for what one send put on the wire: the segment size for a
    (coalesced) segmented send, the datagram length otherwise (`RecvMeta::stride` defaults to `len`) -/
def recvStride (eff : Option Nat) (len : Nat) : Nat :=
  match eff with
  | none => len
  | some s => s

end QM.Udp
