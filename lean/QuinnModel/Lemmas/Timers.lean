import QuinnModel.Conn.Timers
import QuinnModel.Lemmas.Lifecycle
namespace QM.Timers

theorem optMin_shift (d : Nat) (a b : Option Nat) :
    optMin (a.map (· + d)) (b.map (· + d)) = (optMin a b).map (· + d) := by
  cases a <;> cases b <;> simp [optMin] <;> omega

theorem get_shift (d : Nat) (t : Table) (i : Nat) : get (shift d t) i = (get t i).map (· + d) := by
  simp only [get, shift, List.getElem?_map]
  cases t[i]? with
  | none => rfl
  | some o => cases o <;> rfl

theorem isExpired_shift (d : Nat) (t : Table) (i now : Nat) : isExpired (shift d t) i (now + d) = isExpired t i now := by
  simp only [isExpired, get_shift]
  cases get t i with
  | none => rfl
  | some x => simp

theorem stop_shift (d : Nat) (t : Table) (i : Nat) : stop (shift d t) i = shift d (stop t i) := by
  simp [stop, shift, List.map_set]

end QM.Timers

namespace QM.Life

/-- time translation of the lifecycle state and of an event -/
def shiftL (d : Nat) (l : L) : L :=
  { l with closeTimer := l.closeTimer.map (· + d), idleTimer := l.idleTimer.map (· + d) }

def shiftEv (d : Nat) : Ev → Ev
  | .close now p => .close (now + d) p
  | .pktErr e now p s => .pktErr e (now + d) p s
  | .peerClose now p => .peerClose (now + d) p
  | .peerCloseEarly now p => .peerCloseEarly (now + d) p
  | .authed now idle => .authed (now + d) idle
  | .timeout now => .timeout (now + d)
  | e => e

theorem fireIdle_shift (d : Nat) (l : L) (now : Nat) : fireIdle (shiftL d l) (now + d) = shiftL d (fireIdle l now) := by
  obtain ⟨st, err, cf, ct, it, lost, dr, lc⟩ := l
  cases it with
  | none => rfl
  | some t => simp only [fireIdle, shiftL, stopTimers, Option.map_some, Nat.add_le_add_iff_right]; split <;> rfl

theorem fireClose_shift (d : Nat) (l : L) (now : Nat) : fireClose (shiftL d l) (now + d) = shiftL d (fireClose l now) := by
  obtain ⟨st, err, cf, ct, it, lost, dr, lc⟩ := l
  cases ct with
  | none => rfl
  | some t => simp only [fireClose, shiftL, Option.map_some, Nat.add_le_add_iff_right]; split <;> rfl

theorem step_shift (d : Nat) (l : L) (e : Ev) : step (shiftL d l) (shiftEv d e) = shiftL d (step l e) := by
  have comm : ∀ now p : Nat, now + d + p = now + p + d := fun now p => Nat.add_right_comm now d p
  have fire : ∀ now, fireClose (fireIdle (shiftL d l) (now + d)) (now + d) = shiftL d (fireClose (fireIdle l now) now) :=
    fun now => by rw [fireIdle_shift, fireClose_shift]
  -- the guards of `step` do not read the timers, so both sides are in the same row of the same table; there `shiftL d`
  -- goes inside the `if` (`apply_ite`) and `comm` moves `d` past the period
  cases hc : l.st.isClosed with
  | false =>
    rw [step_open hc, step_open (l := shiftL d l) hc]
    cases e with
    | pktErr k now p sp => cases k <;> simp only [shiftEv, comm] <;> rfl
    | timeout now => exact fire now
    | _ => simp only [shiftEv, comm, apply_ite (shiftL d)] <;> rfl
  | true =>
    rw [step_closed hc, step_closed (l := shiftL d l) hc]
    cases e with
    | pktErr k now p sp => cases k <;> simp only [shiftEv, apply_ite (shiftL d)] <;> rfl
    | timeout now => exact fire now
    | _ => simp only [shiftEv, apply_ite (shiftL d)] <;> rfl

theorem timeout_settles (l : L) (now : Nat) :
    let l' := step l (.timeout now)
    (∀ t, l'.closeTimer = some t → now < t) ∧ (∀ t, l'.idleTimer = some t → now < t) :=
  timeout_cases (P := fun l' => (∀ t, l'.closeTimer = some t → now < t) ∧ ∀ t, l'.idleTimer = some t → now < t) l now
    (fun hi hc => ⟨hc, hi⟩) (fun _ _ _ => ⟨nofun, nofun⟩) fun hi _ _ _ => ⟨nofun, hi⟩

end QM.Life
