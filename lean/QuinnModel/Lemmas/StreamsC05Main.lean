import QuinnModel.Lemmas.StreamsEarly
/-
C05: reachable states (`Reach`), the invariant in every one of them (`reach_inv`), and running a closed list of
operations from a reachable state (`reach_run`).
-/
namespace QM.Streams

/-- which operations may appear in the body of a history: everything except the two restarts;
    `set_params` only where it is admissible (`ParamsOk`) -/
def Allowed (s : State) : Op → Prop
  | .new _ => False
  | .rejected => False
  | .params p => ParamsOk s p
  | _ => True

/-- a history that consists of early operations only: nothing from the peer has been processed yet -/
def EarlyHist (side : Side) (h : Hist) : Prop := ∀ e ∈ h, EarlyOp side e.1

instance (side : Side) (h : Hist) : Decidable (EarlyHist side h) := by unfold EarlyHist; exact inferInstance

/-- states reachable from `StreamsState::new(c)` with their history (newest first).
    `rejected`: the 0-RTT rejection as `Connection` performs it when the handshake completes — after a
    history of early operations only, `zero_rtt_rejected`, the queued frames are dropped, and
    `set_params p` with the newly negotiated parameters `p` (any values, in particular smaller ones) -/
inductive Reach (c : Config) : Hist → State → Prop
  | init {s0 : State} : State.new c = some s0 → Reach c [] s0
  | step {h : Hist} {s s' : State} {o : Op} {out : Out} :
      Reach c h s → Allowed s o → step s o = some (s', out) → Reach c ((o, out) :: h) s'
  | rejected {h : Hist} {s s1 : State} {p : Params} :
      Reach c h s → EarlyHist c.side h → s.zeroRttRejected = some s1 →
      Reach c ((.params p, .ok) :: (.rejected, .ok) :: h) (({ s1 with rtx := {} } : State).setParams p)

theorem new_vw {c : Config} {s0 : State} (h : State.new c = some s0) :
    s0.vw = ⟨⟨c.side, 0, 0, ⟨0, 0⟩, ⟨0, 0⟩, 0, 0, 0⟩, fun _ => none⟩ := by
  obtain ⟨s1, a1, a2⟩ := alloc_new h
  exact a2.vw.trans a1.vw

theorem inv_new {c : Config} {s0 : State} (h : State.new c = some s0) : InvV c.side [] s0.vw := by
  rw [new_vw h]
  refine ⟨rfl, rfl, fun d => by cases d <;> rfl, rfl, Nat.le_refl _, fun d => by cases d <;> exact Nat.le_refl _, ?_, ?_⟩
  · intro id c hc; simp at hc
  · intro id; simp only [Core.maxSendData, peerStreamLimit]; split <;> (try split) <;> exact Nat.le_refl _

theorem early_new {c : Config} {s0 : State} (h : State.new c = some s0) : EarlyInv s0 ∧ s0.side = c.side := by
  obtain ⟨s1, a1, a2⟩ := alloc_new h
  have hside : s0.side = c.side := by rw [a2.rest, a1.rest]; rfl
  refine ⟨fun k hne => Or.inr ?_, hside⟩
  -- no sending half comes with a unidirectional stream of the peer; the others are the peer's, uninstantiated
  rw [(a2.send k).resolve_right fun hh => hh.2.1] at hne ⊢
  rcases a1.send k with e | ⟨⟨j, _, hk⟩, _, _, r⟩
  · exact absurd e hne
  · exact ⟨by rw [hside, hk, sidInitiator_sidNew]; cases c.side <;> simp [Side.not], r⟩

theorem paramsOk_new {c : Config} {s0 : State} (h : State.new c = some s0) (p : Params) : ParamsOk s0 p := by
  have hv := new_vw h
  constructor
  · intro d
    have : s0.max = ⟨0, 0⟩ := congrArg (fun v => v.core.max) hv
    rw [this]; cases d <;> exact Nat.zero_le _
  · intro id x hx _ _
    have : s0.cv id = none := congrFun (congrArg SView.cv hv) id
    simp [State.cv, hx] at this

theorem fresh_vw {c : Config} {s0 : State} (h : State.new c = some s0) (p : Params) :
    (s0.setParams p).vw =
      ⟨⟨c.side, p.initialMaxData, 0, ⟨p.initialMaxStreamsBidi, p.initialMaxStreamsUni⟩, ⟨0, 0⟩,
        p.initialMaxStreamDataUni, p.initialMaxStreamDataBidiLocal, p.initialMaxStreamDataBidiRemote⟩,
       fun _ => none⟩ := by
  have hv := new_vw h
  have hcore := congrArg SView.core hv
  simp only [State.vw, State.core, Core.mk.injEq] at hcore
  obtain ⟨hside, hmaxData, hdataSent, _, hnext, _⟩ := hcore
  simp only [State.vw, SView.mk.injEq]
  constructor
  · simp only [State.core, State.setParams, State.receivedMaxData, hside, hmaxData, hdataSent, hnext, natMax_eq,
      Nat.zero_max]
  · funext k
    refine setParams_cv_empty p (fun k x hx => ?_) k
    have := congrFun (congrArg SView.cv hv) k
    simp [State.vw, State.cv, hx] at this

theorem early_inv {c : Config} {h : Hist} {s : State} (r : Reach c h s) (he : EarlyHist c.side h) :
    EarlyInv s ∧ s.side = c.side := by
  induction r with
  | init h0 => exact early_new h0
  | step r ha hs ih =>
    rename_i h s s' o out
    have ⟨i, hside⟩ := ih (fun e hm => he e (List.mem_cons_of_mem _ hm))
    have ho : EarlyOp s.side o := by rw [hside]; exact he (o, out) (List.mem_cons_self ..)
    obtain ⟨i', hs'⟩ := early_step hs i ho
    exact ⟨i', hs'.trans hside⟩
  | rejected r _ _ _ =>
    exact absurd (he (.rejected, .ok) (List.mem_cons_of_mem _ (List.mem_cons_self ..))) (by simp [EarlyOp])

theorem reach_inv {c : Config} {h : Hist} {s : State} (r : Reach c h s) : InvV c.side h s.vw := by
  induction r with
  | init h0 => exact inv_new h0
  | step r ha hs ih =>
    rename_i h s s' o out
    cases Steps.of_step hs with
    | new | rejected => exact ha.elim
    | params p => exact inv_params _ ih ha
    | open_ h1 => exact inv_open _ ih h1
    | write h1 => exact inv_write ih h1
    | maxData n => exact inv_maxData ih n _
    | maxStreamData h1 => exact inv_maxStreamData ih h1
    | maxStreams d n => exact inv_maxStreams ih d n
    | _ => exact ih.cons_of_frame (frame_step hs rfl rfl) _ _ rfl
  | rejected r he hz ih =>
    rename_i h s s1 p
    obtain ⟨i, hside⟩ := early_inv r he
    rw [rejected_vw i hz p, hside]
    refine ⟨rfl, ?_, ?_, rfl, Nat.zero_le _, fun d => by cases d <;> exact Nat.zero_le _, ?_, ?_⟩
    · simp [peerMaxData]
    · intro d; cases d <;> simp [peerMaxStreams, Params.maxStreams, Two.get]
    · intro id c hc; simp at hc
    · intro id
      simp only [peerStreamLimit, natMax_eq, Nat.max_zero]
      exact Nat.le_of_eq rfl

/-- operations that need no side condition in the body of a history -/
def Op.isPlain : Op → Bool
  | .new _ | .rejected | .params _ => false
  | _ => true

theorem reach_run {c : Config} : ∀ (ops : List Op) {h h' : Hist} {s s' : State},
    Reach c h s → (∀ o ∈ ops, o.isPlain = true) → runOps s h ops = some (s', h') → Reach c h' s' := by
  intro ops h h' s s'
  fun_induction runOps s h ops <;> intro r hp hr
  case case1 => cases hr; exact r
  case case2 => contradiction
  case case3 s _ o _ _ _ hs ih =>
    have ha : Allowed s o := by
      have ho := hp o (List.mem_cons_self ..)
      cases o <;> simp [Op.isPlain] at ho <;> trivial
    exact ih (Reach.step r ha hs) (fun o' ho' => hp o' (List.mem_cons_of_mem _ ho')) hr

theorem reach_start (c : Config) (p : Params) (hn : (State.new c).isSome = true) :
    Reach c [(.params p, .ok)] (((State.new c).get hn).setParams p) := by
  have h0 : State.new c = some ((State.new c).get hn) := by simp
  exact Reach.step (Reach.init h0) (paramsOk_new h0 p) rfl

/-- `reach_run` for closed terms: no intermediate state has to be written down -/
theorem reach_run' {c : Config} {h : Hist} {s : State} (r : Reach c h s) (ops : List Op)
    (hp : ∀ o ∈ ops, o.isPlain = true) (hr : (runOps s h ops).isSome = true) :
    Reach c ((runOps s h ops).get hr).2 ((runOps s h ops).get hr).1 :=
  reach_run ops r hp (Option.some_get hr).symm

end QM.Streams
