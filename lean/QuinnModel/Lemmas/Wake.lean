import QuinnModel.Async.Wake
/-
Proofs about the wake protocol model (C18): one invariant over all interleavings, and its consequences.
-/
namespace QM.Wake

variable (slot : Cond → Bool)

theorem reg_iff (s : St) (c : Cond) (t : Task) : s.reg c t = true ↔ (c, t) ∈ s.regs := by
  simp [St.reg]

theorem wakeConds_regs (cs : List Cond) : ∀ (s : St) (r : Cond × Task),
    r ∈ (s.wakeConds cs).regs ↔ r ∈ s.regs ∧ r.1 ∉ cs := by
  induction cs with
  | nil => intro s r; simp [St.wakeConds]
  | cons c cs ih =>
    intro s r
    simp only [St.wakeConds, ih, St.wakeCond, List.mem_filter, bne_iff_ne, ne_eq, List.mem_cons, not_or, and_assoc]

theorem wakeConds_left (cs : List Cond) : ∀ (s : St) (t : Task) (c : Cond),
    (s.wakeConds cs).left t c = true ↔ s.left t c = true ∧ c ∉ cs := by
  induction cs with
  | nil => intro s t c; simp [St.wakeConds]
  | cons c0 cs ih =>
    intro s t c
    simp only [St.wakeConds, ih, St.wakeCond, List.mem_cons, not_or]
    by_cases h : c = c0 <;> simp [h]

theorem wakeConds_woken (cs : List Cond) : ∀ (s : St) (t : Task),
    (s.woken t = true ∨ ∃ c ∈ cs, (c, t) ∈ s.regs) → (s.wakeConds cs).woken t = true := by
  induction cs with
  | nil => intro s t h; simpa [St.wakeConds] using h
  | cons c0 cs ih =>
    intro s t h
    refine ih _ t ?_
    by_cases hr : (c0, t) ∈ s.regs
    · exact .inl (by simp [St.wakeCond, (reg_iff s c0 t).2 hr])
    · rcases h with h | ⟨c, hc, hm⟩
      · exact .inl (by simp [St.wakeCond, h])
      · have hne : c ≠ c0 := fun e => hr (e ▸ hm)
        exact .inr ⟨c, (List.mem_cons.1 hc).resolve_left hne, by simp [St.wakeCond, List.mem_filter, hm, hne]⟩

theorem wakeConds_holds (cs : List Cond) : ∀ s : St, (s.wakeConds cs).holds = s.holds := by
  induction cs with
  | nil => exact fun _ => rfl
  | cons c cs ih => exact fun s => ih (s.wakeCond c)

theorem wakeConds_dead (cs : List Cond) : ∀ s : St, (s.wakeConds cs).dead = s.dead := by
  induction cs with
  | nil => exact fun _ => rfl
  | cons c cs ih => exact fun s => ih (s.wakeCond c)

theorem wakeConds_waiting (cs : List Cond) : ∀ s : St, (s.wakeConds cs).waiting = s.waiting := by
  induction cs with
  | nil => exact fun _ => rfl
  | cons c cs ih => exact fun s => ih (s.wakeCond c)

structure Inv (s : St) : Prop where
  /-- a task whose last poll returned Pending is either still registered or has been woken since -/
  pendingCovered : ∀ t c, s.waiting t = some c → s.woken t = true ∨ (c, t) ∈ s.regs
  /-- every registration belongs to a task waiting on it, or is a recorded waker-map leftover -/
  regOwned : ∀ t c, (c, t) ∈ s.regs → s.waiting t = some c ∨ (slot c = true ∧ s.left t c = true)
  regFalse : ∀ t c, (c, t) ∈ s.regs → s.holds c = false ∧ s.dead = false
  leftReg : ∀ t c, s.left t c = true → slot c = true ∧ (c, t) ∈ s.regs

theorem inv_init : Inv slot init := by
  constructor <;> simp [init]

theorem inv_wakeConds (s : St) (cs : List Cond) (holds : Cond → Bool) (h : Inv slot s)
    (hh : ∀ c, c ∉ cs → s.holds c = false → holds c = false) : Inv slot ({ s with holds := holds }.wakeConds cs) := by
  refine ⟨fun t c hw => ?_, fun t c hr => ?_, fun t c hr => ?_, fun t c hl => ?_⟩
  · rw [wakeConds_waiting] at hw
    rcases h.pendingCovered t c hw with h1 | h1
    · exact .inl (wakeConds_woken cs _ t (.inl h1))
    · by_cases hc : c ∈ cs
      · exact .inl (wakeConds_woken cs _ t (.inr ⟨c, hc, h1⟩))
      · exact .inr ((wakeConds_regs cs _ (c, t)).2 ⟨h1, hc⟩)
  · obtain ⟨hr1, hr2⟩ := (wakeConds_regs cs _ (c, t)).1 hr
    rw [wakeConds_waiting]
    exact (h.regOwned t c hr1).imp_right fun h1 => ⟨h1.1, (wakeConds_left cs _ t c).2 ⟨h1.2, hr2⟩⟩
  · obtain ⟨hr1, hr2⟩ := (wakeConds_regs cs _ (c, t)).1 hr
    have := h.regFalse t c hr1
    rw [wakeConds_holds, wakeConds_dead]
    exact ⟨hh c hr2 this.1, this.2⟩
  · obtain ⟨hl1, hl2⟩ := (wakeConds_left cs _ t c).1 hl
    obtain ⟨h1, h2⟩ := h.leftReg t c hl1
    exact ⟨h1, (wakeConds_regs cs _ (c, t)).2 ⟨h2, hl2⟩⟩

theorem inv_drive (s : St) (up down : List Cond) (h : Inv slot s) : Inv slot (s.drive up down) :=
  inv_wakeConds slot s up _ h fun c hc hh => by
    have : up.contains c = false := by simpa using hc
    simp only [this, Bool.false_eq_true, if_false, hh]; split <;> rfl

theorem inv_dropHandle (s : St) (t : Task) (c : Cond) (h : Inv slot s) : Inv slot (s.dropHandle t c) := by
  unfold St.dropHandle
  refine ⟨fun t' c' hw => ?_, fun t' c' hr => ?_, fun t' c' hr => h.regFalse t' c' (List.mem_filter.1 hr).1,
    fun t' c' hl => ?_⟩
  · have hw0 : s.waiting t' = some c' ∧ ¬(t' = t ∧ c' = c) := by
      by_cases hwt : s.waiting t = some c
      · simp only [hwt, if_true, upd] at hw
        by_cases ht : t' = t
        · simp [ht] at hw
        · simp only [ht, if_false] at hw; exact ⟨hw, fun hh => ht hh.1⟩
      · simp only [hwt, if_false] at hw
        exact ⟨hw, fun ⟨h1, h2⟩ => hwt (h1 ▸ h2 ▸ hw)⟩
    refine (h.pendingCovered t' c' hw0.1).imp_right fun h1 => List.mem_filter.2 ⟨h1, ?_⟩
    simpa using fun hc ht => hw0.2 ⟨ht, hc⟩
  · obtain ⟨hr1, hr2⟩ := List.mem_filter.1 hr
    have hne : ¬(t' = t ∧ c' = c) := fun hh => by simp [hh.1, hh.2] at hr2
    rcases h.regOwned t' c' hr1 with h1 | h1
    · left
      split
      · rename_i hwt
        by_cases ht : t' = t
        · subst ht; rw [hwt] at h1; exact absurd ⟨rfl, (Option.some.inj h1).symm⟩ hne
        · simp [upd, ht, h1]
      · exact h1
    · right; simp [hne, h1.1, h1.2]
  · by_cases htc : t' = t ∧ c' = c
    · simp [htc] at hl
    · simp only [htc, if_false] at hl
      obtain ⟨h1, h2⟩ := h.leftReg t' c' hl
      refine ⟨h1, List.mem_filter.2 ⟨h2, ?_⟩⟩
      simpa using fun hc ht => htc ⟨ht, hc⟩

theorem inv_dropFut (s : St) (t : Task) (h : Inv slot s) : Inv slot (s.dropFut slot t) := by
  fun_cases St.dropFut slot s t with
  | case1 => exact h
  | case2 c hw hs =>
    -- waker-map slot: the registration stays behind and is recorded
    refine ⟨fun t' c' hw' => ?_, fun t' c' hr => ?_, h.regFalse, fun t' c' hl => ?_⟩
    · by_cases ht : t' = t
      · simp [upd, ht] at hw'
      · simp only [upd, ht, if_false] at hw' ⊢; exact h.pendingCovered t' c' hw'
    · by_cases htc : t' = t ∧ c' = c
      · right; simp [htc, hs, (reg_iff s c t).2 (htc.1 ▸ htc.2 ▸ hr)]
      · rcases h.regOwned t' c' hr with h1 | h1
        · left
          have ht : t' ≠ t := fun e => htc ⟨e, by rw [e, hw] at h1; exact (Option.some.inj h1).symm⟩
          simp [upd, ht, h1]
        · right; simp [htc, h1.1, h1.2]
    · by_cases htc : t' = t ∧ c' = c
      · obtain ⟨rfl, rfl⟩ := htc
        simp only [and_self, if_true] at hl
        exact ⟨hs, (reg_iff s c' t').1 hl⟩
      · simp only [htc, if_false] at hl; exact h.leftReg t' c' hl
  | case3 c hw hs =>
    -- a `Notified`: the same as dropping the handle, there being no leftover of a non-slot condition
    have hl : (fun t' c' => if t' = t ∧ c' = c then false else s.left t' c') = s.left := by
      funext t' c'
      split
      · rename_i hh
        cases hl : s.left t' c' with
        | false => rfl
        | true => exact absurd (hh.2 ▸ (h.leftReg t' c' hl).1) hs
      · rfl
    have := inv_dropHandle slot s t c h
    simp only [St.dropHandle, hl, hw, if_true] at this
    exact this

theorem dropFut_waiting_self (s : St) (t : Task) : (s.dropFut slot t).waiting t = none := by
  fun_cases St.dropFut slot s t
  · assumption
  · exact if_pos rfl
  · exact if_pos rfl

theorem dropFut_dead (s : St) (t : Task) : (s.dropFut slot t).dead = s.dead := by
  fun_cases St.dropFut slot s t <;> rfl

theorem dropFut_regs_sub (s : St) (t : Task) (r : Cond × Task) (hr : r ∈ (s.dropFut slot t).regs) : r ∈ s.regs := by
  revert hr
  fun_cases St.dropFut slot s t
  · exact id
  · exact id
  · exact fun hr => (List.mem_filter.1 hr).1

theorem dropFut_regs_left (s : St) (h : Inv slot s) (t : Task) (c : Cond) (hr : (c, t) ∈ (s.dropFut slot t).regs) :
    slot c = true ∧ (s.dropFut slot t).left t c = true :=
  ((inv_dropFut slot s t h).regOwned t c hr).resolve_left (by rw [dropFut_waiting_self]; nofun)

/-- the state the poll proper starts from: a poll of another operation than the one `t` waits on drops that future first -/
def St.pollStart (s : St) (t : Task) (c : Cond) : St := if s.waiting t = some c then s else s.dropFut slot t

def St.pollCore (s : St) (t : Task) (c : Cond) (consume : Bool) : St × Bool :=
  if s.dead || s.holds c then
    ({ s with waiting := upd s.waiting t none, woken := upd s.woken t false,
              holds := if consume && !s.dead then upd s.holds c false else s.holds }, true)
  else
    ({ s with regs := if s.reg c t then s.regs else (c, t) :: s.regs,
              left := fun t' c' => if t' = t ∧ c' = c then false else s.left t' c',
              waiting := upd s.waiting t (some c), woken := upd s.woken t false }, false)

theorem poll_eq (s : St) (t : Task) (c : Cond) (consume : Bool) :
    s.poll slot t c consume = (s.pollStart slot t c).pollCore t c consume := rfl

theorem pollStart_of_waiting {s : St} {t : Task} {c : Cond} (hw : s.waiting t = some c) : s.pollStart slot t c = s :=
  if_pos hw

theorem pollStart_waiting (s : St) (t : Task) (c : Cond) :
    (s.pollStart slot t c).waiting t = some c ∨ (s.pollStart slot t c).waiting t = none := by
  unfold St.pollStart; split
  · exact .inl ‹_›
  · exact .inr (dropFut_waiting_self slot s t)

theorem pollStart_dead (s : St) (t : Task) (c : Cond) : (s.pollStart slot t c).dead = s.dead := by
  unfold St.pollStart; split
  · rfl
  · exact dropFut_dead slot s t

theorem pollStart_regs_sub (s : St) (t : Task) (c : Cond) (r : Cond × Task) (hr : r ∈ (s.pollStart slot t c).regs) :
    r ∈ s.regs := by
  revert hr; unfold St.pollStart; split
  · exact id
  · exact dropFut_regs_sub slot s t r

theorem inv_pollStart (s : St) (t : Task) (c : Cond) (h : Inv slot s) : Inv slot (s.pollStart slot t c) := by
  unfold St.pollStart; split
  · exact h
  · exact inv_dropFut slot s t h

theorem mem_regs_insert (s : St) (c : Cond) (t : Task) (r : Cond × Task) :
    r ∈ (if s.reg c t = true then s.regs else (c, t) :: s.regs) ↔ r = (c, t) ∨ r ∈ s.regs := by
  split
  · exact ⟨.inr, fun h' => h'.elim (· ▸ (reg_iff s c t).1 ‹_›) id⟩
  · exact List.mem_cons

theorem pollCore_ready (s : St) (t : Task) (c : Cond) (consume : Bool) :
    (s.pollCore t c consume).2 = (s.dead || s.holds c) := by
  fun_cases St.pollCore s t c consume
  · exact Eq.symm ‹_›
  · simp [*]

theorem pollCore_dead (s : St) (t : Task) (c : Cond) (consume : Bool) : (s.pollCore t c consume).1.dead = s.dead := by
  fun_cases St.pollCore s t c consume <;> rfl

theorem pollCore_pending (s : St) (t : Task) (c : Cond) (consume : Bool) (hr : (s.pollCore t c consume).2 = false) :
    (c, t) ∈ (s.pollCore t c consume).1.regs ∧ (s.pollCore t c consume).1.waiting t = some c ∧
    (s.pollCore t c consume).1.woken t = false := by
  rw [pollCore_ready] at hr
  simp only [St.pollCore, hr, Bool.false_eq_true, if_false]
  exact ⟨(mem_regs_insert s c t _).2 (.inl rfl), by simp [upd], by simp [upd]⟩

theorem pollCore_done (s : St) (h : Inv slot s) (t : Task) (c : Cond) (consume : Bool)
    (hr : (s.pollCore t c consume).2 = true) :
    (c, t) ∉ (s.pollCore t c consume).1.regs ∧ (s.pollCore t c consume).1.waiting t = none := by
  rw [pollCore_ready] at hr
  simp only [St.pollCore, hr, if_true]
  refine ⟨fun hm => ?_, by simp [upd]⟩
  have := h.regFalse t c hm
  simp [this.1, this.2] at hr

theorem pollCore_regs_sub (s : St) (t : Task) (c : Cond) (consume : Bool) (r : Cond × Task)
    (hr : r ∈ (s.pollCore t c consume).1.regs) : r = (c, t) ∨ r ∈ s.regs := by
  revert hr
  fun_cases St.pollCore s t c consume
  · exact .inr
  · exact (mem_regs_insert s c t r).1

theorem inv_pollCore (s : St) (t : Task) (c : Cond) (consume : Bool) (h : Inv slot s)
    (hw : s.waiting t = some c ∨ s.waiting t = none) : Inv slot (s.pollCore t c consume).1 := by
  have hown : ∀ c', (c', t) ∈ s.regs → c' = c ∨ (slot c' = true ∧ s.left t c' = true) := fun c' hr =>
    (h.regOwned t c' hr).imp_left fun h1 => by
      rcases hw with hw | hw <;> rw [hw] at h1
      · exact (Option.some.inj h1).symm
      · cases h1
  fun_cases St.pollCore s t c consume
  · rename_i hr
    refine ⟨fun t' c' hw' => ?_, fun t' c' hreg => ?_, fun t' c' hreg => ?_, h.leftReg⟩
    · by_cases ht : t' = t
      · simp [upd, ht] at hw'
      · simp only [upd, ht, if_false] at hw' ⊢; exact h.pendingCovered t' c' hw'
    · by_cases ht : t' = t
      · subst ht
        rcases hown c' hreg with rfl | h1
        · have := h.regFalse t' c' hreg; simp [this.1, this.2] at hr
        · exact .inr h1
      · exact (h.regOwned t' c' hreg).imp_left fun h1 => by simp [upd, ht, h1]
    · have := h.regFalse t' c' hreg
      refine ⟨?_, this.2⟩
      show (if (consume && !s.dead) = true then upd s.holds c false else s.holds) c' = false
      split
      · simp only [upd]; split <;> simp [this.1]
      · exact this.1
  · rename_i hr
    have hr' : s.holds c = false ∧ s.dead = false := by
      cases hd : s.dead <;> cases hh : s.holds c <;> simp [hd, hh] at hr ⊢
    refine ⟨fun t' c' hw' => ?_, fun t' c' hreg => ?_, fun t' c' hreg => ?_, fun t' c' hl => ?_⟩
    · by_cases ht : t' = t
      · subst ht
        simp only [upd, if_true, Option.some.injEq] at hw'
        exact .inr ((mem_regs_insert s c t' _).2 (.inl (by rw [hw'])))
      · simp only [upd, ht, if_false] at hw' ⊢
        exact (h.pendingCovered t' c' hw').imp_right fun h1 => (mem_regs_insert s c t _).2 (.inr h1)
    · by_cases htc : t' = t ∧ c' = c
      · left; simp [upd, htc.1, htc.2]
      · have h1 : (c', t') ∈ s.regs := ((mem_regs_insert s c t _).1 hreg).resolve_left (by simpa using fun hc ht => htc ⟨ht, hc⟩)
        by_cases ht : t' = t
        · subst ht
          have hc : c' ≠ c := fun hc => htc ⟨rfl, hc⟩
          exact .inr (by simpa [hc] using (hown c' h1).resolve_left hc)
        · exact (h.regOwned t' c' h1).imp (fun h2 => by simp [upd, ht, h2]) fun h2 => by simp [ht, h2.1, h2.2]
    · rcases (mem_regs_insert s c t _).1 hreg with h1 | h1
      · cases h1; exact hr'
      · exact h.regFalse t' c' h1
    · by_cases htc : t' = t ∧ c' = c
      · simp [htc] at hl
      · simp only [htc, if_false] at hl
        exact (h.leftReg t' c' hl).imp_right fun h2 => (mem_regs_insert s c t _).2 (.inr h2)

theorem inv_poll (s : St) (t : Task) (c : Cond) (consume : Bool) (h : Inv slot s) :
    Inv slot (s.poll slot t c consume).1 :=
  inv_pollCore slot _ t c consume (inv_pollStart slot s t c h) (pollStart_waiting slot s t c)

theorem terminate_woken (s : St) (h : Inv slot s) (t : Task) (c : Cond) (hw : s.waiting t = some c) :
    s.terminate.woken t = true := by
  show (s.woken t || s.regs.any (fun r => r.2 == t)) = true
  rcases h.pendingCovered t c hw with h1 | h1
  · simp [h1]
  · have : s.regs.any (fun r => r.2 == t) = true := List.any_eq_true.2 ⟨(c, t), h1, by simp⟩
    rw [this, Bool.or_true]

theorem inv_terminate (s : St) (h : Inv slot s) : Inv slot s.terminate :=
  ⟨fun t c hw => .inl (terminate_woken slot s h t c hw), nofun, nofun, nofun⟩

/-- `SendStream::reset` as found in the source: it notifies, hence it is a driver-like step -/
theorem appSet_eq (s : St) (c : Cond) : s.appSet c = s.drive [c] [] := by
  simp [St.appSet, Gen.c18ResetNotifiesStopped]

/-- `Drop` of a rejected 0-RTT handle as found in the source: the waker-map slot is left alone -/
theorem dropRejected_eq (s : St) (c : Cond) : s.dropRejected c = s := by
  simp [St.dropRejected, Gen.c18RejectedDropKeepsWaker]

theorem inv_step (s : St) (e : Ev) (h : Inv slot s) : Inv slot (step slot s e) := by
  cases e with
  | poll t c consume => exact inv_poll slot s t c consume h
  | drive up down => exact inv_drive slot s up down h
  | dropFut t => exact inv_dropFut slot s t h
  | dropHandle t c => exact inv_dropHandle slot s t c h
  | terminate => exact inv_terminate slot s h
  | appSet c => show Inv slot (s.appSet c); rw [appSet_eq]; exact inv_drive slot s [c] [] h
  | dropRejected c => show Inv slot (s.dropRejected c); rw [dropRejected_eq]; exact h

theorem inv_run (evs : List Ev) : ∀ (s : St), Inv slot s → Inv slot (run slot s evs) := by
  induction evs with
  | nil => intro s h; exact h
  | cons e es ih => intro s h; exact ih _ (inv_step slot s e h)

theorem inv_reach (evs : List Ev) : Inv slot (run slot init evs) := inv_run slot evs init (inv_init slot)

theorem woken_of_waiting_ready (s : St) (h : Inv slot s) (t : Task) (c : Cond)
    (hw : s.waiting t = some c) (hc : s.holds c = true ∨ s.dead = true) : s.woken t = true :=
  (h.pendingCovered t c hw).resolve_right fun h1 => by
    have := h.regFalse t c h1
    rcases hc with hc | hc
    · rw [this.1] at hc; cases hc
    · rw [this.2] at hc; cases hc

theorem poll_ready_of_dead (s : St) (t : Task) (c : Cond) (consume : Bool) (hd : s.dead = true) :
    (s.poll slot t c consume).2 = true := by
  rw [poll_eq, pollCore_ready, pollStart_dead, hd]; rfl

theorem dead_step (s : St) (e : Ev) (h : s.dead = true) : (step slot s e).dead = true := by
  cases e with
  | poll t c consume =>
    show (s.poll slot t c consume).1.dead = true
    rw [poll_eq, pollCore_dead, pollStart_dead]; exact h
  | drive up down => exact (wakeConds_dead up _).trans h
  | dropFut t => exact (dropFut_dead slot s t).trans h
  | dropHandle t c => exact h
  | terminate => rfl
  | appSet c => show (s.appSet c).dead = true; rw [appSet_eq]; exact (wakeConds_dead [c] _).trans h
  | dropRejected c => show (s.dropRejected c).dead = true; rw [dropRejected_eq]; exact h

theorem dead_run (evs : List Ev) : ∀ s : St, s.dead = true → (run slot s evs).dead = true := by
  induction evs with
  | nil => intro s h; exact h
  | cons e es ih => intro s h; exact ih _ (dead_step slot s e h)

theorem regs_nil_of_dead (s : St) (h : Inv slot s) (hd : s.dead = true) : s.regs = [] :=
  List.eq_nil_iff_forall_not_mem.2 fun r hm => by
    have := (h.regFalse r.2 r.1 hm).2
    rw [hd] at this; cases this

theorem appSet_wakes (s : St) (h : Inv slot s) (t : Task) (c : Cond) (hw : s.waiting t = some c) :
    (s.appSet c).holds c = true ∧ (s.appSet c).woken t = true ∧ (c, t) ∉ (s.appSet c).regs := by
  rw [appSet_eq]
  unfold St.drive
  refine ⟨by rw [wakeConds_holds]; simp, wakeConds_woken [c] _ t ?_, fun hm => ?_⟩
  · exact (h.pendingCovered t c hw).imp_right fun h1 => ⟨c, by simp, h1⟩
  · simpa using ((wakeConds_regs [c] _ (c, t)).1 hm).2

theorem inv_lose (s : St) (ns : List Cond) (h : Inv slot s) (hcov : ∀ r ∈ s.regs, r.1 ∈ ns) :
    Inv slot (s.lose ns) ∧ (s.lose ns).regs = [] ∧ ∀ t c, s.waiting t = some c → (s.lose ns).woken t = true := by
  have hnil : (s.lose ns).regs = [] := List.eq_nil_iff_forall_not_mem.2 fun r hm =>
    have := (wakeConds_regs ns s r).1 hm
    this.2 (hcov r this.1)
  have hwoken : ∀ t c, s.waiting t = some c → (s.lose ns).woken t = true := fun t c hw =>
    wakeConds_woken ns s t ((h.pendingCovered t c hw).imp_right fun h1 => ⟨c, hcov (c, t) h1, h1⟩)
  -- `lose` is `wakeConds` and then `dead`, which only `regFalse` reads, of registrations there are none of
  have hi := inv_wakeConds slot s ns s.holds h fun _ _ => id
  exact ⟨⟨hi.pendingCovered, hi.regOwned, fun t c hr => (by rw [hnil] at hr; cases hr), hi.leftReg⟩, hnil, hwoken⟩

/-- every registration is on a condition that `Drop for EndpointDriver` notifies -/
def EpRegs (s : St) : Prop := ∀ r ∈ s.regs, r.1 ∈ epDriverDropNotifies

theorem ep_inv_step (s : St) (e : EpEv) (h : Inv noSlot s) (hr : EpRegs s) :
    Inv noSlot (epStep s e) ∧ EpRegs (epStep s e) := by
  cases e with
  | poll t c consume =>
    refine ⟨inv_poll noSlot s t c.code consume h, fun r hm => ?_⟩
    rcases pollCore_regs_sub _ t c.code consume r hm with rfl | h1
    · -- both endpoint conditions are among the notified ones, as read from the source
      show c.code ∈ epDriverDropNotifies
      cases c <;> decide
    · exact hr r (pollStart_regs_sub noSlot s t c.code r h1)
  | drive up down =>
    exact ⟨inv_drive noSlot s _ _ h, fun r hm => hr r ((wakeConds_regs _ _ r).1 hm).1⟩
  | dropFut t =>
    exact ⟨inv_dropFut noSlot s t h, fun r hm => hr r (dropFut_regs_sub noSlot s t r hm)⟩
  | driverLost =>
    obtain ⟨h1, h2, _⟩ := inv_lose noSlot s epDriverDropNotifies h hr
    exact ⟨h1, fun r hm => by rw [show (epStep s .driverLost).regs = [] from h2] at hm; cases hm⟩

theorem ep_reach (evs : List EpEv) : Inv noSlot (epRun init evs) ∧ EpRegs (epRun init evs) := by
  suffices ∀ s : St, Inv noSlot s → EpRegs s → Inv noSlot (epRun s evs) ∧ EpRegs (epRun s evs) from
    this init (inv_init noSlot) (by intro r hr; cases hr)
  induction evs with
  | nil => intro s h hr; exact ⟨h, hr⟩
  | cons e es ih => intro s h hr; obtain ⟨h1, h2⟩ := ep_inv_step s e h hr; exact ih _ h1 h2

end QM.Wake
