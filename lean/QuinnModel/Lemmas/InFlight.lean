import QuinnModel.Recovery.InFlight
import QuinnModel.Lemmas.SentPackets
/-
Loss accounting: every sent packet is resolved exactly once (acknowledged, lost, or abandoned), and the
path's `InFlight` counters are exactly the totals over the packets still tracked.

Every successful operation of the model is summarised by `Moved`: which packets entered tracking, which left
it, and what the counters did.  The ledger balance and the counter invariant `Tracks` are
consequences of `Moved` alone; only the absence of panics looks at the operations one by one.
-/
namespace QM.InFlight
open QM.SentPackets

def tot (f : Pkt → Nat) (l : List Pkt) : Nat := (l.map f).sum

@[simp] theorem tot_nil (f : Pkt → Nat) : tot f [] = 0 := rfl
@[simp] theorem tot_cons (f : Pkt → Nat) (x : Pkt) (l : List Pkt) : tot f (x :: l) = f x + tot f l := by
  simp [tot]
@[simp] theorem tot_append (f : Pkt → Nat) (a b : List Pkt) : tot f (a ++ b) = tot f a + tot f b := by
  simp [tot, List.sum_append]

theorem tot_perm (f : Pkt → Nat) {a b : List Pkt} (h : a.Perm b) : tot f a = tot f b := (h.map f).sum_nat

theorem tot_congr {f h : Pkt → Nat} {l : List Pkt} (hh : ∀ p ∈ l, f p = h p) : tot f l = tot h l := by
  unfold tot; rw [List.map_congr_left hh]

/-- total of `f` over a ledger column -/
def ltot (f : Sp → Pkt → Nat) (l : List (Sp × Pkt)) : Nat := (l.map (fun e => f e.1 e.2)).sum

@[simp] theorem ltot_nil (f : Sp → Pkt → Nat) : ltot f [] = 0 := rfl
@[simp] theorem ltot_cons (f : Sp → Pkt → Nat) (x : Sp × Pkt) (l : List (Sp × Pkt)) :
    ltot f (x :: l) = f x.1 x.2 + ltot f l := by simp [ltot]
@[simp] theorem ltot_append (f : Sp → Pkt → Nat) (a b : List (Sp × Pkt)) :
    ltot f (a ++ b) = ltot f a + ltot f b := by simp [ltot, List.sum_append]
@[simp] theorem ltot_map (f : Sp → Pkt → Nat) (i : Sp) (l : List Pkt) :
    ltot f (l.map (fun p => (i, p))) = tot (f i) l := by
  simp [ltot, tot, Function.comp_def]

theorem ltot_indicator (k : Sp × Pkt) (l : List (Sp × Pkt)) :
    ltot (fun i p => if (i, p) = k then 1 else 0) l = l.count k := by
  induction l with
  | nil => rfl
  | cons x t ih => simp [ih, List.count_cons, Nat.add_comm]

def outstanding (st : State) : List (Sp × Pkt) :=
  (values st.s0.ring).map (fun p => (Sp.initial, p)) ++ (values st.s1.ring).map (fun p => (Sp.handshake, p))
    ++ (values st.s2.ring).map (fun p => (Sp.data, p))

section
variable {st st' : State} {i : Sp} {pn : Nat} {v : Pkt} {inn out : List Pkt} {c c' : Counters} {sp : Space}

theorem ltot_outstanding (f : Sp → Pkt → Nat) (st : State) :
    ltot f (outstanding st) = tot (f .initial) (values (st.space .initial).ring)
      + tot (f .handshake) (values (st.space .handshake).ring) + tot (f .data) (values (st.space .data).ring) := by
  simp only [outstanding, ltot_append, ltot_map]; rfl

@[simp] theorem space_setSpace (st : State) (i : Sp) (x : Space) : (st.setSpace i x).space i = x := by
  cases i <;> rfl

theorem space_setSpace_ne (st : State) (i : Sp) (x : Space) {j : Sp} (h : j ≠ i) :
    (st.setSpace i x).space j = st.space j := by
  cases i <;> cases j <;> first | rfl | exact absurd rfl h

@[simp] theorem setSpace_inFlight (st : State) (i : Sp) (x : Space) : (st.setSpace i x).inFlight = st.inFlight := by
  cases i <;> rfl

theorem space_inFlight (st : State) (c : Counters) (j : Sp) : ({ st with inFlight := c } : State).space j = st.space j := by
  cases j <;> rfl

def szF : Sp → Pkt → Nat := fun _ p => p.size
def aeF : Sp → Pkt → Nat := fun _ p => aeN p

structure Tracks (st : State) : Prop where
  gens : ∀ j, ∀ p ∈ values (st.space j).ring, p.gen = st.gen
  bytes : st.inFlight.bytes = ltot szF (outstanding st)
  ae : st.inFlight.ae = ltot aeF (outstanding st)

theorem tracks_init : Tracks {} := ⟨fun j p hp => (by cases j <;> cases hp), rfl, rfl⟩

theorem tot_le_outstanding (st : State) (i : Sp) (f : Sp → Pkt → Nat) :
    tot (f i) (values (st.space i).ring) ≤ ltot f (outstanding st) := by
  rw [ltot_outstanding]; cases i <;> omega

/-- what `remove_in_flight` takes off a counter for a packet of weight `w p`, on a path of generation `g` -/
def removed (g : Nat) (w : Pkt → Nat) (p : Pkt) : Nat := if p.gen = g then w p else 0

theorem removed_le (g : Nat) (w : Pkt → Nat) (p : Pkt) : removed g w p ≤ w p := by
  unfold removed; split
  · exact Nat.le_refl _
  · exact Nat.zero_le _

theorem counters_remove_spec {res : R Unit} (h : c.remove v = (c', res)) :
    match (generalizing := false) res with
    | .panic => c.bytes < v.size ∨ c.ae < aeN v
    | .ok _ => c'.bytes + v.size = c.bytes ∧ c'.ae + aeN v = c.ae := by
  revert h
  fun_cases Counters.remove c v <;> intro e <;> obtain ⟨rfl, rfl⟩ := Prod.mk.inj e
  case case1 h => exact Or.inl h
  case case2 h => exact Or.inr h
  case case3 h1 _ h2 => exact ⟨Nat.sub_add_cancel (Nat.le_of_not_lt h1), Nat.sub_add_cancel (Nat.le_of_not_lt h2)⟩

theorem counters_insert_spec {res : R Unit} (h : c.insert v = (c', res)) :
    match (generalizing := false) res with
    | .panic => c.bytes + v.size ≥ 2^64 ∨ c.ae + aeN v ≥ 2^64
    | .ok _ => c'.bytes = c.bytes + v.size ∧ c'.ae = c.ae + aeN v := by
  revert h
  fun_cases Counters.insert c v <;> intro e <;> obtain ⟨rfl, rfl⟩ := Prod.mk.inj e
  case case1 h => exact Or.inl h
  case case2 h => exact Or.inr h
  case case3 => exact ⟨rfl, rfl⟩

theorem removeInFlight_spec {res : R Bool}
    (h : st.removeInFlight v = (st', res)) :
    ∃ c, st' = { st with inFlight := c } ∧
    match (generalizing := false) res with
    | .panic => st.inFlight.bytes < v.size ∨ st.inFlight.ae < aeN v
    | .ok _ => c.bytes + removed st.gen Pkt.size v = st.inFlight.bytes ∧
        c.ae + removed st.gen aeN v = st.inFlight.ae := by
  revert h
  fun_cases State.removeInFlight st v <;> intro h <;> cases h
  case case1 hg => exact ⟨_, rfl, by rw [removed, if_neg hg]; rfl, by rw [removed, if_neg hg]; rfl⟩
  case case2 hg _ hc => exact ⟨_, rfl, counters_remove_spec hc⟩
  case case3 hg _ _ hc =>
    have hg' : v.gen = st.gen := Decidable.of_not_not hg
    refine ⟨_, rfl, ?_⟩
    rw [removed, removed, if_pos hg', if_pos hg']; exact counters_remove_spec hc

/-- the effect of one successful operation: space `i` stops tracking `out` and starts tracking `inn` -/
structure Moved (st st' : State) (i : Sp) (inn out : List Pkt) : Prop where
  gen : st'.gen = st.gen
  others : ∀ j, j ≠ i → st'.space j = st.space j
  tracked : (values (st.space i).ring ++ inn).Perm (out ++ values (st'.space i).ring)
  bytes : st'.inFlight.bytes + tot (removed st.gen Pkt.size) out = st.inFlight.bytes + tot Pkt.size inn
  ae : st'.inFlight.ae + tot (removed st.gen aeN) out = st.inFlight.ae + tot aeN inn

theorem moved_total (h : Moved st st' i inn out)
    (f : Sp → Pkt → Nat) :
    tot (f i) inn + ltot f (outstanding st) = tot (f i) out + ltot f (outstanding st') := by
  have hp := tot_perm (f i) h.tracked
  have ho := h.others
  rw [tot_append, tot_append] at hp
  rw [ltot_outstanding, ltot_outstanding]
  cases i
  · rw [ho .handshake (by decide), ho .data (by decide)]; omega
  · rw [ho .initial (by decide), ho .data (by decide)]; omega
  · rw [ho .initial (by decide), ho .handshake (by decide)]; omega

/-- all tracked packets carry the path's generation, so `remove_in_flight` takes every leaving packet off the
    counters in full -/
theorem moved_tracks (h : Moved st st' i inn out) (ht : Tracks st) (hin : ∀ p ∈ inn, p.gen = st.gen) : Tracks st' := by
  have hg p (hp : p ∈ out ++ values (st'.space i).ring) : p.gen = st.gen :=
    (List.mem_append.1 (h.tracked.mem_iff.2 hp)).elim (ht.gens i p) (hin p)
  have key (f : Sp → Pkt → Nat) {c c' : Nat} (hm : c' + tot (removed st.gen (f i)) out = c + tot (f i) inn)
      (hc : c = ltot f (outstanding st)) : c' = ltot f (outstanding st') := by
    have := moved_total h f
    have : tot (removed st.gen (f i)) out = tot (f i) out :=
      tot_congr fun p hp => if_pos (hg p (List.mem_append_left _ hp))
    omega
  refine ⟨fun j p hp => ?_, key szF h.bytes ht.bytes, key aeF h.ae ht.ae⟩
  rw [h.gen]
  by_cases hj : j = i
  · subst hj; exact hg p (List.mem_append_right _ hp)
  · rw [h.others j hj] at hp; exact ht.gens j p hp

theorem removeAll_spec {vs : List Pkt} {res : R Unit} (h : st.removeAll vs = (st', res)) :
    ∃ c, st' = { st with inFlight := c } ∧
    match (generalizing := false) res with
    | .ok _ => c.bytes + tot (removed st.gen Pkt.size) vs = st.inFlight.bytes ∧
        c.ae + tot (removed st.gen aeN) vs = st.inFlight.ae
    | .panic => st.inFlight.bytes < tot Pkt.size vs ∨ st.inFlight.ae < tot aeN vs := by
  induction vs generalizing st with
  | nil => cases h; exact ⟨_, rfl, rfl, rfl⟩
  | cons v t ih =>
    unfold State.removeAll at h
    split at h
    · rename_i hr; cases h
      obtain ⟨c, rfl, hlt⟩ := removeInFlight_spec hr
      exact ⟨c, rfl, hlt.imp (Nat.lt_add_right _) (Nat.lt_add_right _)⟩
    · rename_i hr
      obtain ⟨c, rfl, hb, ha⟩ := removeInFlight_spec hr
      obtain ⟨c2, rfl, h2⟩ := ih h
      refine ⟨c2, rfl, ?_⟩
      cases res with
      | ok => exact ⟨by rw [tot_cons, Nat.add_left_comm, h2.1, Nat.add_comm, hb],
          by rw [tot_cons, Nat.add_left_comm, h2.2, Nat.add_comm, ha]⟩
      | panic =>
        have hb' := removed_le st.gen Pkt.size v; have ha' := removed_le st.gen aeN v
        simp only [tot_cons]; dsimp only at h2; omega

theorem removeAll_single {res : R Bool} (h : st.removeInFlight v = (st', res)) :
    st.removeAll [v] = (st', match (generalizing := false) res with | .panic => .panic | .ok _ => .ok ()) := by
  unfold State.removeAll; rw [h]; cases res <;> rfl

/-- The common end of every operation: space `i` has become `sp`, the counters `c` have taken up `inn`, and `vs`
    come off them.  A panic here means that the counters did not cover what was tracked. -/
theorem moved_of_removeAll {vs : List Pkt} {res : R Unit}
    (hp : (values (st.space i).ring ++ inn).Perm (vs ++ values sp.ring))
    (hb : c.bytes = st.inFlight.bytes + tot Pkt.size inn) (ha : c.ae = st.inFlight.ae + tot aeN inn)
    (h : (({ st with inFlight := c } : State).setSpace i sp).removeAll vs = (st', res)) :
    match (generalizing := false) res with
    | .ok _ => st'.space i = sp ∧ Moved st st' i inn vs
    | .panic => ¬ Tracks st := by
  obtain ⟨c2, rfl, h2⟩ := removeAll_spec h
  have hg : (({ st with inFlight := c } : State).setSpace i sp).gen = st.gen := by cases i <;> rfl
  rw [hg, setSpace_inFlight] at h2
  cases res with
  | ok =>
    exact ⟨by rw [space_inFlight _ c2, space_setSpace], hg,
      fun j hj => by rw [space_inFlight _ c2, space_setSpace_ne _ _ _ hj, space_inFlight _ c],
      by rw [space_inFlight _ c2, space_setSpace]; exact hp, h2.1.trans hb, h2.2.trans ha⟩
  | panic =>
    intro ht
    have key (f : Sp → Pkt → Nat) {c0 c1 : Nat} (h1 : c1 = c0 + tot (f i) inn) (h0 : c0 = ltot f (outstanding st)) :
        ¬ c1 < tot (f i) vs := by
      have := tot_perm (f i) hp
      rw [tot_append, tot_append] at this
      have := tot_le_outstanding st i f
      omega
    exact h2.elim (key szF hb ht.bytes) (key aeF ha ht.ae)

theorem sent_moved {res : R (Option Pkt)}
    (h : st.sent i pn v = (st', res)) :
    match (generalizing := false) res with
    | .ok fg => (st.space i).sent pn v = (st'.space i, .ok fg) ∧ Moved st st' i [v] fg.toList
    | .panic => st.inFlight.bytes + v.size ≥ 2^64 ∨ st.inFlight.ae + aeN v ≥ 2^64 ∨
        ((st.space i).sent pn v).2 = .panic ∨ ¬ Tracks st := by
  unfold State.sent at h
  split at h
  · rename_i hc; cases h
    exact (counters_insert_spec hc).elim Or.inl fun h => Or.inr (Or.inl h)
  · rename_i c _ hc
    obtain ⟨hb, ha⟩ := counters_insert_spec hc
    dsimp only at h
    rw [space_inFlight _ c] at h
    split at h
    · rename_i hs; cases h; exact Or.inr (Or.inr (Or.inl (by rw [hs])))
    · rename_i sp hs; cases h
      obtain ⟨h1, h2⟩ := moved_of_removeAll (vs := []) (sent_spec hs) hb ha rfl
      exact ⟨h1.symm ▸ hs, h2⟩
    · rename_i sp fg hs
      split at h
      · rename_i hr; cases h
        exact Or.inr (Or.inr (Or.inr (moved_of_removeAll (sent_spec hs) hb ha (removeAll_single hr))))
      · rename_i hr; cases h
        obtain ⟨h1, h2⟩ := moved_of_removeAll (sent_spec hs) hb ha (removeAll_single hr)
        exact ⟨h1.symm ▸ hs, h2⟩

theorem resolve_moved {res : R (Option (Pkt × Bool))}
    (h : st.resolve i pn = (st', res)) :
    match (generalizing := false) res with
    | .ok x => (st.space i).take pn = (st'.space i, .ok (x.map Prod.fst)) ∧ Moved st st' i [] (x.map Prod.fst).toList
    | .panic => ((st.space i).take pn).2 = .panic ∨ ¬ Tracks st := by
  have fin {sp : Space} {vs : List Pkt} {res : R Unit} (hp : (values (st.space i).ring).Perm (vs ++ values sp.ring)) :=
    moved_of_removeAll (c := st.inFlight) (inn := []) (res := res) (st' := st') (by rw [List.append_nil]; exact hp) rfl rfl
  revert h
  fun_cases State.resolve st i pn <;> intro h <;> cases h
  case case1 hs => exact Or.inl (by rw [hs])
  case case2 hs =>
    obtain ⟨h1, h2⟩ := fin (take_spec hs) rfl
    exact ⟨h1.symm ▸ hs, h2⟩
  case case3 hs hr => exact Or.inr (fin (take_spec hs) (removeAll_single hr))
  case case4 hs _ hr =>
    obtain ⟨h1, h2⟩ := fin (take_spec hs) (removeAll_single hr)
    exact ⟨h1.symm ▸ hs, h2⟩

theorem discard_moved {res : R (List Pkt)} (h : st.discard i = (st', res)) :
    match (generalizing := false) res with
    | .ok vs => st'.space i = { st.space i with ring := {} } ∧ Moved st st' i [] vs
    | .panic => ¬ Tracks st := by
  revert h
  fun_cases State.discard st i <;> intro h <;> cases h
  case case1 hr | case2 hr => exact moved_of_removeAll (c := st.inFlight) (inn := []) (List.Perm.refl _) rfl rfl hr

end

/-- the events that change what is tracked (an ACK frame / a loss-detection pass is a list of `ack` / `lost`;
    forgetting the non-ack-eliciting tail happens inside `sent`) -/
inductive Op where
  | sent (i : Sp) (pn size : Nat) (ae : Bool) (gen : Nat)
  | ack (i : Sp) (pn : Nat)
  | lost (i : Sp) (pn : Nat)
  | discard (i : Sp)
deriving Repr, DecidableEq

/-- ledger kept next to the model state: what was handed to `PathData::sent` and how each packet left -/
structure Ledger where
  sent : List (Sp × Pkt) := []
  acked : List (Sp × Pkt) := []
  lost : List (Sp × Pkt) := []
  abandoned : List (Sp × Pkt) := []      -- discarded with its space, or forgotten (non-ack-eliciting tail)
  panicked : Bool := false
deriving Repr

structure G where
  st : State := {}
  lg : Ledger := {}

def G.step (g : G) : Op → G
  | .sent i pn size ae gen =>
    match g.st.sent i pn ⟨pn, size, ae, gen⟩ with
    | (st', .panic) => ⟨st', { g.lg with panicked := true }⟩
    | (st', .ok fg) => ⟨st', { g.lg with sent := (i, ⟨pn, size, ae, gen⟩) :: g.lg.sent,
                                           abandoned := fg.toList.map (fun p => (i, p)) ++ g.lg.abandoned }⟩
  | .ack i pn =>
    match g.st.resolve i pn with
    | (st', .panic) => ⟨st', { g.lg with panicked := true }⟩
    | (st', .ok none) => ⟨st', g.lg⟩
    | (st', .ok (some (v, _))) => ⟨st', { g.lg with acked := (i, v) :: g.lg.acked }⟩
  | .lost i pn =>
    match g.st.resolve i pn with
    | (st', .panic) => ⟨st', { g.lg with panicked := true }⟩
    | (st', .ok none) => ⟨st', g.lg⟩
    | (st', .ok (some (v, _))) => ⟨st', { g.lg with lost := (i, v) :: g.lg.lost }⟩
  | .discard i =>
    match g.st.discard i with
    | (st', .panic) => ⟨st', { g.lg with panicked := true }⟩
    | (st', .ok vs) => ⟨st', { g.lg with abandoned := vs.map (fun p => (i, p)) ++ g.lg.abandoned }⟩

def G.run (g : G) (ops : List Op) : G := ops.foldl G.step g

def Op.sp : Op → Sp
  | .sent i .. | .ack i _ | .lost i _ | .discard i => i

def Op.pkts : Op → List Pkt
  | .sent _ pn size ae gen => [⟨pn, size, ae, gen⟩]
  | _ => []

def Ledger.resolved (lg : Ledger) (f : Sp → Pkt → Nat) : Nat := ltot f lg.acked + ltot f lg.lost + ltot f lg.abandoned

theorem step_moved (g : G) (op : Op) (hp : (g.step op).lg.panicked = false) :
    g.lg.panicked = false ∧ ∃ out, Moved g.st (g.step op).st op.sp op.pkts out ∧
      (g.step op).lg.sent = op.pkts.map (fun p => (op.sp, p)) ++ g.lg.sent ∧
      ∀ f, (g.step op).lg.resolved f = tot (f op.sp) out + g.lg.resolved f := by
  revert hp
  -- the outcomes in the order of `G.step`: sent (panic, ok), ack (panic, nothing found, found), lost (the same
  -- three), discard (panic, ok)
  fun_cases G.step g op <;> intro hp
  case case2 hs =>
    exact ⟨hp, _, (sent_moved hs).2, rfl, fun f => by
      simp only [Ledger.resolved, ltot_append, ltot_map]; exact Nat.add_left_comm ..⟩
  case case4 hs | case7 hs => exact ⟨hp, [], (resolve_moved hs).2, rfl, fun f => by simp⟩
  case case5 hs | case8 hs =>
    exact ⟨hp, [_], (resolve_moved hs).2, rfl, fun f => by simp only [Ledger.resolved, Op.sp, ltot_cons, tot_cons, tot_nil]; omega⟩
  case case10 hs =>
    exact ⟨hp, _, (discard_moved hs).2, rfl, fun f => by
      simp only [Ledger.resolved, ltot_append, ltot_map]; exact Nat.add_left_comm ..⟩
  all_goals cases hp

/-- every packet handed to `sent` is in exactly one of: acked, lost, abandoned, still tracked — for every
    way `f` of weighing packets (bytes, ack-eliciting count, "is it this packet", …) -/
def Balanced (g : G) : Prop :=
  ∀ f : Sp → Pkt → Nat, ltot f g.lg.sent = g.lg.resolved f + ltot f (outstanding g.st)

theorem balanced_init : Balanced {} := fun _ => rfl

theorem step_balanced (g : G) (op : Op) (hb : g.lg.panicked = false → Balanced g)
    (hp : (g.step op).lg.panicked = false) : Balanced (g.step op) := by
  obtain ⟨h0, out, hm, hs, hr⟩ := step_moved g op hp
  intro f
  have := hb h0 f; have := moved_total hm f
  rw [hs, hr f, ltot_append, ltot_map]
  omega

theorem run_balanced (ops : List Op) (g : G) (hb : Balanced g) :
    (g.run ops).lg.panicked = false → Balanced (g.run ops) :=
  List.foldlRecOn ops G.step (motive := fun g => g.lg.panicked = false → Balanced g) (fun _ => hb)
    fun g ih op _ => step_balanced g op ih

def Op.genOK (g0 : Nat) : Op → Prop
  | .sent _ _ _ _ gen => gen = g0
  | _ => True

theorem step_tracks (g : G) (op : Op) (ht : g.lg.panicked = false → Tracks g.st) (hop : op.genOK g.st.gen)
    (hp : (g.step op).lg.panicked = false) : Tracks (g.step op).st := by
  obtain ⟨h0, out, hm, _⟩ := step_moved g op hp
  refine moved_tracks hm (ht h0) ?_
  cases op with
  | sent => exact List.forall_mem_singleton.2 hop
  | _ => exact fun _ h => nomatch h

/-- every packet handed to `PathData::sent` carries the generation of the path (what
    `PacketBuilder::finish_and_track` does) -/
def GenDisc : G → List Op → Prop
  | _, [] => True
  | g, op :: t => op.genOK g.st.gen ∧ GenDisc (g.step op) t

theorem run_tracks (ops : List Op) (g : G) (ht : Tracks g.st) (hg : GenDisc g ops)
    (hp : (g.run ops).lg.panicked = false) : Tracks (g.run ops).st := by
  -- what the induction carries: the state is tracked unless a panic has happened already
  replace ht := fun _ : g.lg.panicked = false => ht
  induction ops generalizing g with
  | nil => exact ht hp
  | cons op t ih => exact ih (g.step op) hg.2 hp (step_tracks g op ht hg.1)

def MAXT : Nat := Gen.maxUnackedNonAckElicitingTail

/-- non-ack-eliciting tracked packets above `largest_ack_eliciting_sent` -/
def inTail (la : Nat) (e : Nat × Pkt) : Bool := !e.2.ae && decide (e.1 > la)

def cntTail (la : Nat) (es : List (Nat × Pkt)) : Nat := es.countP (inTail la)

@[simp] theorem cntTail_nil (la : Nat) : cntTail la [] = 0 := rfl

theorem cntTail_eq_zero {la : Nat} {es : List (Nat × Pkt)} (h : ∀ e ∈ es, ¬ e.1 > la) : cntTail la es = 0 :=
  List.countP_eq_zero.2 fun e he hin => h e he (of_decide_eq_true (Bool.and_eq_true_iff.1 hin).2)

/-- The tail counter against the tracked entries `es`.  It may run ahead of the number of tail entries by up
    to `MAXT` (a first packet numbered 0 is counted without being above `largest_ack_eliciting_sent = 0`;
    `mem::take` empties the ring without resetting the counter).  `dead`: the ring was emptied while the
    counter was above the limit and no ack-eliciting packet has been sent since. -/
structure TailInv (es : List (Nat × Pkt)) (tail la : Nat) (dead : Bool) : Prop where
  nonAe : ∀ e ∈ es, e.1 > la → e.2.ae = false
  lo : cntTail la es ≤ tail
  hi : dead = false → tail ≤ cntTail la es + MAXT

theorem tailInv_erase {es es' a b : List (Nat × Pkt)} {e : Nat × Pkt} {tail la : Nat} {dead : Bool}
    (h : TailInv es tail la dead) (he : es = a ++ e :: b) (he' : es' = a ++ b) :
    (inTail la e = true → tail ≠ 0) ∧ TailInv es' (tail - if inTail la e then 1 else 0) la dead := by
  subst he he'
  obtain ⟨h1, h2, h3⟩ := h
  have hc : cntTail la (a ++ e :: b) = cntTail la (a ++ b) + (if inTail la e then 1 else 0) := by
    unfold cntTail; rw [List.countP_append, List.countP_cons, List.countP_append, Nat.add_assoc]
  rw [hc] at h2 h3
  refine ⟨fun hin => ?_, fun x hx => h1 x (((List.sublist_cons_self e b).append_left a).subset hx),
    Nat.le_sub_of_add_le h2, fun hd => ?_⟩
  · rw [if_pos hin] at h2; exact Nat.ne_of_gt (Nat.lt_of_lt_of_le (Nat.succ_pos _) h2)
  · exact Nat.sub_le_iff_le_add.2 (Nat.add_right_comm .. ▸ h3 hd)

theorem tailInv_push_ae {es : List (Nat × Pkt)} {pn : Nat} (v : Pkt) (h : ∀ e ∈ es, e.1 < pn) :
    TailInv (es ++ [(pn, v)]) 0 pn false := by
  have hle : ∀ e ∈ es ++ [(pn, v)], ¬ e.1 > pn :=
    List.forall_mem_append.2 ⟨fun e he => Nat.lt_asymm (h e he), List.forall_mem_singleton.2 (Nat.lt_irrefl pn)⟩
  exact ⟨fun e he hgt => absurd hgt (hle e he), Nat.le_of_eq (cntTail_eq_zero hle), fun _ => Nat.zero_le _⟩

/-- a non-ack-eliciting packet is counted; it is a tail entry unless it is the very first packet, numbered 0 -/
theorem tailInv_push {es : List (Nat × Pkt)} {tail la pn : Nat} {v : Pkt} (h : TailInv es tail la false)
    (hv : v.ae = false) (hpn : la < pn ∨ tail = 0) : TailInv (es ++ [(pn, v)]) (tail + 1) la false := by
  obtain ⟨h1, h2, h3⟩ := h
  have hc : cntTail la (es ++ [(pn, v)]) = cntTail la es + (if pn > la then 1 else 0) := by
    simp [cntTail, List.countP_append, List.countP_cons, inTail, hv]
  refine ⟨List.forall_mem_append.2 ⟨h1, List.forall_mem_singleton.2 fun _ => hv⟩,
    by rw [hc]; exact Nat.add_le_add h2 (by split <;> decide), fun _ => ?_⟩
  rw [hc]
  rcases hpn with hpn | hpn
  · rw [if_pos hpn, Nat.add_right_comm]; exact Nat.succ_le_succ (h3 rfl)
  · rw [hpn]; exact Nat.le_trans (by decide : 1 ≤ MAXT) (Nat.le_add_left ..)

/-- `n` = one more than the largest packet number ever sent in the space (0 = nothing sent yet) -/
structure SpaceInv (s : Space) (n : Nat) (dead : Bool) : Prop where
  wf : RingWF s.ring
  ringEnd : s.ring.stop ≤ n
  la : s.largestAe < n ∨ (s.tail = 0 ∧ s.largestAe = 0)
  laSmall : s.largestAe < 2^62
  tail : TailInv (entries s.ring) s.tail s.largestAe dead

theorem spaceInv_init : SpaceInv {} 0 false :=
  ⟨ringWF_default, Nat.le_refl _, Or.inr ⟨rfl, rfl⟩, by decide, nofun, Nat.le_refl _, fun _ => Nat.zero_le _⟩

theorem take_inv {s : Space} {n : Nat} {dead : Bool} (hi : SpaceInv s n dead) (pn : Nat) :
    (s.take pn).2 ≠ .panic ∧ SpaceInv (s.take pn).1 n dead := by
  unfold Space.take
  rcases remove_spec_wf hi.wf pn with ⟨heq, -⟩ | ⟨v, ring, a, b, heq, h1, h2, hwf, hend⟩ <;> rw [heq]
  · exact ⟨nofun, hi⟩
  · obtain ⟨hne, ht⟩ := tailInv_erase hi.tail h1 h2
    have hend' : ring.stop ≤ n := hend ▸ hi.ringEnd
    refine iteInduction (motive := fun x : Space × R (Option Pkt) => x.2 ≠ .panic ∧ SpaceInv x.1 n dead) (fun hin => ?_) fun hin => ?_
    · rw [if_pos (show inTail s.largestAe (pn, v) = true from hin)] at ht
      rw [if_neg (hne hin)]
      exact ⟨nofun, hwf, hend', hi.la.imp id fun h => absurd h.1 (hne hin), hi.laSmall, ht⟩
    · rw [if_neg (show ¬ inTail s.largestAe (pn, v) = true from hin)] at ht
      exact ⟨nofun, hwf, hend', hi.la, hi.laSmall, ht⟩

theorem discard_inv {s : Space} {n : Nat} {dead : Bool} (hi : SpaceInv s n dead) :
    SpaceInv { s with ring := {} } n (dead || decide (s.tail > MAXT)) := by
  refine ⟨ringWF_default, Nat.zero_le _, hi.la, hi.laSmall, nofun, Nat.zero_le _, fun hd => ?_⟩
  simp only [Bool.or_eq_false_iff, decide_eq_false_iff_not] at hd
  exact (Nat.zero_add MAXT).symm ▸ Nat.le_of_not_lt hd.2

/-- `Space.ins` is the common end of the three branches of `PacketSpace::sent` -/
theorem ins_inv {s : Space} {pn : Nat} {dead : Bool} (v : Pkt) (fg : Option Pkt) (hw : RingWF s.ring)
    (hend : s.ring.stop ≤ pn) (hla : s.largestAe ≤ pn) (hsm : s.largestAe < 2^62)
    (ht : TailInv (entries s.ring ++ [(pn, v)]) s.tail s.largestAe dead) :
    (Space.ins s pn v fg).2 ≠ .panic ∧ SpaceInv (Space.ins s pn v fg).1 (pn + 1) dead := by
  have hok := insert_ok_of s.ring pn v hend
  obtain ⟨he, -, hen⟩ := insert_spec s.ring pn v hok
  have hwf := ringWF_insert s.ring pn v hw hok
  unfold Space.ins
  generalize insert s.ring pn v = x at hok he hen hwf
  obtain ⟨ring, res⟩ := x
  cases hok
  exact ⟨nofun, hwf, Nat.le_of_eq hen, Or.inl (Nat.lt_succ_of_le hla), hsm, he ▸ ht⟩

/-- `hdead`: no non-ack-eliciting packet in a space that was emptied with an overflowed tail counter -/
theorem sent_inv {s : Space} {n : Nat} {dead : Bool} (hi : SpaceInv s n dead) (pn : Nat) (v : Pkt)
    (hpn : n ≤ pn) (hsmall : pn < 2^62) (hdead : v.ae = false → dead = false) :
    (s.sent pn v).2 ≠ .panic ∧ SpaceInv (s.sent pn v).1 (pn + 1) (if v.ae then false else dead) := by
  have hend : s.ring.stop ≤ pn := Nat.le_trans hi.ringEnd hpn
  have hlt : ∀ e ∈ entries s.ring, e.1 < pn := fun e he => Nat.lt_of_lt_of_le (entries_lt_stop _ e he) hend
  have hla : s.largestAe ≤ pn :=
    hi.la.elim (fun h => Nat.le_of_lt (Nat.lt_of_lt_of_le h hpn)) fun h => h.2 ▸ Nat.zero_le _
  unfold Space.sent
  by_cases hae : v.ae = true
  · rw [if_pos hae, if_pos hae]
    exact ins_inv (s := { s with tail := 0, largestAe := pn }) v none hi.wf hend (Nat.le_refl _) hsmall
      (tailInv_push_ae v hlt)
  · rw [if_neg hae, if_neg hae]
    have hae : v.ae = false := Bool.eq_false_iff.2 hae
    cases hdead hae
    by_cases ht : s.tail > Gen.maxUnackedNonAckElicitingTail
    · -- the tail overflowed: forget the oldest packet above largest_ack_eliciting_sent
      rw [if_pos ht, range_above s.ring _ (Nat.lt_trans hi.laSmall (by decide))]
      generalize hf : (entries s.ring).filter (fun e => decide (s.largestAe < e.1)) = fl
      rcases fl with _ | ⟨⟨opn, p0⟩, rest⟩
      · -- no entry above largest_ack_eliciting_sent, so the tail counter is within the limit
        have := hi.tail.hi rfl
        rw [cntTail_eq_zero fun e he h => List.filter_eq_nil_iff.1 hf e he (decide_eq_true h),
          Nat.zero_add] at this
        exact absurd ht (Nat.not_lt.2 this)
      · obtain ⟨hmE, hcond⟩ := List.mem_filter.1 (hf ▸ List.mem_cons_self)
        have hogt : opn > s.largestAe := of_decide_eq_true hcond
        dsimp only
        rcases remove_spec_wf hi.wf opn with ⟨-, hn⟩ | ⟨p, ring1, a, b, heq, hE, hE1, hwf1, hend1⟩
        · cases hn.symm.trans ((abs_eq_some_iff s.ring opn p0).2 hmE)
        · have hp0 : p.ae = false := hi.tail.nonAe (opn, p) (hE ▸ List.mem_append_right a List.mem_cons_self) hogt
          rw [heq]
          dsimp only
          rw [if_neg (Bool.eq_false_iff.1 hp0)]
          obtain ⟨hne, ht1⟩ := tailInv_erase hi.tail hE hE1
          have hin1 : inTail s.largestAe (opn, p) = true := by simp [inTail, hp0, hogt]
          rw [if_pos hin1] at ht1
          exact ins_inv (s := { s with ring := ring1 }) v (some p) hwf1 (hend1 ▸ hend) hla hi.laSmall
            (Nat.sub_add_cancel (Nat.pos_of_ne_zero (hne hin1)) ▸ tailInv_push ht1 hae (Or.inl (Nat.lt_trans hogt (hlt _ hmE))))
    · rw [if_neg ht]
      exact ins_inv (s := { s with tail := s.tail + 1 }) v none hi.wf hend hla hi.laSmall
        (tailInv_push hi.tail hae (hi.la.imp (fun h => Nat.lt_of_lt_of_le h hpn) And.left))

/-- what `Connection` guarantees but the components do not check:
    `next i` = one more than the largest packet number used in space `i`, `dead i` see `TailInv` -/
structure D where
  next : Sp → Nat := fun _ => 0
  dead : Sp → Bool := fun _ => false

def upd {α : Type} (f : Sp → α) (i : Sp) (x : α) : Sp → α := fun j => if j = i then x else f j

@[simp] theorem upd_same {α : Type} (f : Sp → α) (i : Sp) (x : α) : upd f i x i = x := if_pos rfl
theorem upd_ne {α : Type} (f : Sp → α) (i : Sp) (x : α) {j : Sp} (h : j ≠ i) : upd f i x j = f j := if_neg h

def D.step (d : D) (g : G) : Op → D
  | .sent i pn _ ae _ => { next := upd d.next i (pn + 1), dead := upd d.dead i (if ae then false else d.dead i) }
  | .discard i => { d with dead := upd d.dead i (d.dead i || decide ((g.st.space i).tail > MAXT)) }
  | _ => d

/-- caller discipline for one event: packets carry the path's generation; packet numbers of a space
    increase and are below 2^62; no non-ack-eliciting packet is sent in a space that was emptied
    (Retry / 0-RTT rejection / discard) while its non-ack-eliciting tail counter was above the limit;
    fewer than 2^64 bytes / packets were ever sent -/
def Disc (g : G) (d : D) : Op → Prop
  | .sent i pn size ae gen =>
    gen = g.st.gen ∧ d.next i ≤ pn ∧ pn < 2^62 ∧ (ae = false → d.dead i = false) ∧
    ltot szF g.lg.sent + size < 2^64 ∧ ltot aeF g.lg.sent + (if ae then 1 else 0) < 2^64
  | _ => True

def Disciplined : G → D → List Op → Prop
  | _, _, [] => True
  | g, d, op :: t => Disc g d op ∧ Disciplined (g.step op) (d.step g op) t

theorem disc_genOK {g : G} {d : D} {op : Op} (h : Disc g d op) : op.genOK g.st.gen := by
  cases op <;> first | trivial | exact h.1

structure RunInv (g : G) (d : D) : Prop where
  ok : g.lg.panicked = false
  bal : Balanced g
  trk : Tracks g.st
  sp : ∀ i, SpaceInv (g.st.space i) (d.next i) (d.dead i)
  below : ∀ e ∈ g.lg.sent, e.2.tag < d.next e.1
  nodup : g.lg.sent.Nodup

theorem runInv_init : RunInv {} {} :=
  ⟨rfl, balanced_init, tracks_init, fun i => by cases i <;> exact spaceInv_init, nofun, List.nodup_nil⟩

theorem dstep_ne (d : D) (g : G) (op : Op) {j : Sp} (hj : j ≠ op.sp) :
    (d.step g op).next j = d.next j ∧ (d.step g op).dead j = d.dead j := by
  cases op with
  | sent => exact ⟨upd_ne _ _ _ hj, upd_ne _ _ _ hj⟩
  | discard => exact ⟨rfl, upd_ne _ _ _ hj⟩
  | _ => exact ⟨rfl, rfl⟩

theorem step_fresh (g : G) (d : D) (op : Op) (hd : Disc g d op)
    (hb : ∀ e ∈ g.lg.sent, e.2.tag < d.next e.1) (hn : g.lg.sent.Nodup) :
    (∀ e ∈ op.pkts.map (fun p => (op.sp, p)) ++ g.lg.sent, e.2.tag < (d.step g op).next e.1) ∧
    (op.pkts.map (fun p => (op.sp, p)) ++ g.lg.sent).Nodup := by
  cases op with
  | sent i pn size ae gen =>
    have hpn := hd.2.1
    refine ⟨fun e he => ?_, List.nodup_cons.2 ⟨fun hmem => Nat.lt_irrefl pn (Nat.lt_of_lt_of_le (hb _ hmem) hpn), hn⟩⟩
    dsimp only [D.step]
    rcases List.mem_cons.1 he with rfl | he
    · simp [Op.sp]
    · have := hb e he
      by_cases hj : e.1 = i
      · rw [hj, upd_same]; rw [hj] at this; omega
      · rw [upd_ne _ _ _ hj]; exact this
  | _ => exact ⟨hb, hn⟩

theorem step_runInv (g : G) (d : D) (op : Op) (hn : RunInv g d) (hd : Disc g d op) :
    RunInv (g.step op) (d.step g op) := by
  -- the outcomes are numbered as in `step_moved`
  have hstep : (g.step op).lg.panicked = false ∧
      SpaceInv ((g.step op).st.space op.sp) ((d.step g op).next op.sp) ((d.step g op).dead op.sp) := by
    have hres {i pn st' x} (heq : g.st.resolve i pn = (st', .ok x)) :
        g.lg.panicked = false ∧ SpaceInv (st'.space i) (d.next i) (d.dead i) :=
      ⟨hn.ok, by simpa only [(resolve_moved heq).1] using (take_inv (hn.sp i) pn).2⟩
    fun_cases G.step g op
    case case1 i pn size ae gen _ heq =>
      obtain ⟨-, hpn, hsm, hdd, hob, hoa⟩ := hd
      have hbs := hn.bal szF; have hba := hn.bal aeF
      have hb := hn.trk.bytes; have ha := hn.trk.ae
      rcases sent_moved heq with h | h | h | h
      · dsimp only at h; omega
      · simp only [aeN] at h; omega
      · exact absurd h (sent_inv (hn.sp i) pn ⟨pn, size, ae, gen⟩ hpn hsm hdd).1
      · exact absurd hn.trk h
    case case2 i pn size ae gen _ _ heq =>
      obtain ⟨-, hpn, hsm, hdd, -, -⟩ := hd
      exact ⟨hn.ok, by simpa only [D.step, Op.sp, upd_same, (sent_moved heq).1] using
        (sent_inv (hn.sp i) pn ⟨pn, size, ae, gen⟩ hpn hsm hdd).2⟩
    case case3 i pn _ heq | case6 i pn _ heq =>
      exact (resolve_moved heq).elim (fun h => absurd h (take_inv (hn.sp i) pn).1) (absurd hn.trk)
    case case4 heq | case5 heq | case7 heq | case8 heq => exact hres heq
    case case9 heq => exact absurd hn.trk (discard_moved heq)
    case case10 i _ _ heq =>
      exact ⟨hn.ok, by simpa only [D.step, Op.sp, upd_same, (discard_moved heq).1] using discard_inv (hn.sp i)⟩
  obtain ⟨_, out, hm, hs, _⟩ := step_moved g op hstep.1
  have hf := step_fresh g d op hd hn.below hn.nodup
  rw [← hs] at hf
  refine ⟨hstep.1, step_balanced g op (fun _ => hn.bal) hstep.1, step_tracks g op (fun _ => hn.trk) (disc_genOK hd) hstep.1, fun j => ?_, hf.1, hf.2⟩
  by_cases hj : j = op.sp
  · exact hj ▸ hstep.2
  · rw [(dstep_ne d g op hj).1, (dstep_ne d g op hj).2, hm.others j hj]; exact hn.sp j

theorem disciplined_runInv (ops : List Op) (g : G) (d : D) (hn : RunInv g d) (hd : Disciplined g d ops) :
    ∃ d', RunInv (g.run ops) d' := by
  induction ops generalizing g d with
  | nil => exact ⟨d, hn⟩
  | cons op t ih => exact ih (g.step op) (d.step g op) (step_runInv g d op hn hd.1) hd.2

theorem disciplined_genDisc (ops : List Op) (g : G) (d : D) (h : Disciplined g d ops) : GenDisc g ops := by
  induction ops generalizing g d with
  | nil => trivial
  | cons op t ih =>
    exact ⟨disc_genOK h.1, ih _ _ h.2⟩

end QM.InFlight
