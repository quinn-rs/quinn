import QuinnModel.Lemmas.StreamsC05
/-
C17 — 0-RTT at the stream layer: what `zero_rtt_rejected` resets, and that
`retransmit_all_for_0rtt` leaves nothing unsent.
-/
namespace QM.Streams

theorem zeroRttRejected_cases {s s' : State} (h : s.zeroRttRejected = some s') :
    ∃ s1 s2, s.zeroRttDir .bi = some s1 ∧ s1.zeroRttDir .uni = some s2 ∧
      s' = { s2 with pending := s2.pending.clear, sendStreams := 0, dataSent := 0, connectionBlocked := [],
                     unackedData := 0, maxData := 0, streamsBlocked := ⟨false, false⟩ } := by
  revert h
  fun_cases State.zeroRttRejected s <;> intro h
  case case3 => cases h; exact ⟨_, _, ‹_›, ‹_›, rfl⟩
  all_goals contradiction

theorem zeroRttLoop_send (side : Side) (dir : Dir) : ∀ (n : Nat) (send send' : Map (Option Send))
    (recv recv' : Map (Option Recv)) (i : Nat),
    zeroRttLoop side dir send recv n i = some (send', recv') →
    (∀ j, i ≤ j → j < i + n → send'.find? (sidNew side dir j) = none) ∧
    (∀ k, (∀ j, i ≤ j → j < i + n → k ≠ sidNew side dir j) → send'.find? k = send.find? k) := by
  intro n send send' recv recv' i
  fun_induction zeroRttLoop side dir send recv n i <;> intro h
  case case1 => cases h; exact ⟨fun j h1 h2 => by omega, fun k _ => rfl⟩
  case case4 ih | case5 ih =>
    obtain ⟨h1, h2⟩ := ih h
    constructor
    · intro j hj1 hj2
      rcases Nat.eq_or_lt_of_le hj1 with rfl | hlt
      · rw [h2 _ (fun j' hj1' _ hc => by have := (sidNew_inj hc).2.2; omega)]
        exact Map.find?_erase_self _ _
      · exact h1 j hlt (by omega)
    · intro k hk
      rw [h2 k (fun j hj1 hj2 => hk j (by omega) (by omega))]
      exact Map.find?_erase_ne _ _ _ (hk _ (Nat.le_refl _) (by omega))
  all_goals contradiction

theorem zeroRttDir_spec {s s' : State} {d : Dir} (h : s.zeroRttDir d = some s') :
    s'.side = s.side ∧ s'.next = s.next.set d 0 ∧
    (∀ j, j < s.next.get d → s'.send.find? (sidNew s.side d j) = none) ∧
    (∀ k, (∀ j, j < s.next.get d → k ≠ sidNew s.side d j) → s'.send.find? k = s.send.find? k) := by
  revert h
  fun_cases State.zeroRttDir s d <;> intro h
  · contradiction
  next hz _ =>
  have hl := zeroRttLoop_send _ _ _ _ _ _ _ _ hz
  cases h
  exact ⟨rfl, rfl, fun j hj => hl.1 j (Nat.zero_le _) (by omega), fun k hk => hl.2 k (fun j _ hj => hk j (by omega))⟩

theorem zeroRttRejected_scalars {s s' : State} (h : s.zeroRttRejected = some s') :
    s'.maxData = 0 ∧ s'.unackedData = 0 ∧ s'.dataSent = 0 ∧
    s'.next = ⟨0, 0⟩ ∧ s'.sendStreams = 0 ∧ s'.connectionBlocked = [] ∧
    s'.streamsBlocked = ⟨false, false⟩ ∧ s'.side = s.side := by
  obtain ⟨s1, s2, h1, h2, rfl⟩ := zeroRttRejected_cases h
  obtain ⟨hs1, hn1, _⟩ := zeroRttDir_spec h1
  obtain ⟨hs2, hn2, _⟩ := zeroRttDir_spec h2
  refine ⟨rfl, rfl, rfl, ?_, rfl, rfl, rfl, hs2.trans hs1⟩
  show s2.next = _
  rw [hn2, hn1]
  rfl

theorem zeroRttRejected_send {s s' : State} (h : s.zeroRttRejected = some s') :
    (∀ d j, j < s.next.get d → s'.send.find? (sidNew s.side d j) = none) ∧
    (∀ k, (∀ d j, j < s.next.get d → k ≠ sidNew s.side d j) → s'.send.find? k = s.send.find? k) := by
  obtain ⟨s1, s2, h1, h2, rfl⟩ := zeroRttRejected_cases h
  obtain ⟨hside, hnext, a1, b1⟩ := zeroRttDir_spec h1
  obtain ⟨_, _, a2, b2⟩ := zeroRttDir_spec h2
  rw [hside, hnext] at a2 b2
  refine ⟨fun d j hj => ?_, fun k hk => (b2 k fun j hj => hk .uni j hj).trans (b1 k fun j hj => hk .bi j hj)⟩
  show s2.send.find? _ = none
  cases d with
  | bi =>
    -- the second loop does not touch bidirectional ids
    rw [b2 _ fun _ _ hc => Dir.noConfusion (sidNew_inj hc).2.1]; exact a1 j hj
  | uni => exact a2 j hj

/-- what `retransmit_all_for_0rtt` leaves behind for a stream: every byte that is not acknowledged is
    scheduled again from offset 0 (or nothing is outstanding), and the FIN of a finished stream whose
    FIN is not acknowledged is queued again -/
def Resent (x : Send) : Prop :=
  ((x.pending.isFullyAcked && !x.finPending) = false → x.pending.unsent = 0) ∧
  (x.state = .dataSent false → x.finPending = true)

/-- what one direction of `retransmit_all_for_0rtt` guarantees about the send map afterwards: an instantiated half
    under one of the ids of index `i … i+n-1` is `Resent`, any other was there before, unchanged -/
def Rtx0Post (dir : Dir) (s s' : State) (i n : Nat) : Prop :=
  ∀ k x', s'.send.find? k = some (some x') →
    (∃ j, i ≤ j ∧ j < i + n ∧ k = sidNew .client dir j ∧ Resent x') ∨
    ((∀ j, i ≤ j → j < i + n → k ≠ sidNew .client dir j) ∧ s.send.find? k = some (some x'))

theorem Rtx0Post.step {dir : Dir} {s s1 s' : State} {i n : Nat} (ih : Rtx0Post dir s1 s' (i + 1) n)
    (hcur : ∀ x1, s1.send.find? (sidNew .client dir i) = some (some x1) → Resent x1)
    (hoth : ∀ k x1, k ≠ sidNew .client dir i → s1.send.find? k = some (some x1) → s.send.find? k = some (some x1)) :
    Rtx0Post dir s s' i (n + 1) := by
  intro k x' hf
  rcases ih k x' hf with ⟨j, h1, h2, rfl, hr⟩ | ⟨hout, h1⟩
  · exact Or.inl ⟨j, by omega, by omega, rfl, hr⟩
  · by_cases hk : k = sidNew .client dir i
    · exact Or.inl ⟨i, Nat.le_refl _, by omega, hk, hcur x' (hk ▸ h1)⟩
    · refine Or.inr ⟨fun j hj1 hj2 hc => ?_, hoth k x' hk h1⟩
      rcases Nat.eq_or_lt_of_le hj1 with rfl | hlt
      · exact hk hc
      · exact hout j hlt (by omega) hc

theorem rtx0Loop_post (dir : Dir) : ∀ (n : Nat) {s s' : State} {i : Nat},
    s.rtx0Loop dir n i = some s' → Rtx0Post dir s s' i n := by
  intro n s s' i
  fun_induction State.rtx0Loop s dir n i <;> intro h
  case case1 => cases h; exact fun k x' hf => Or.inr ⟨fun j h1 h2 => by omega, hf⟩
  case case2 x hx hskip ih =>
    -- skipped: fully acknowledged, no FIN pending, and not a finished stream with an unacknowledged FIN
    refine (ih h).step (fun x1 hx1 => ?_) fun k x1 _ hk => hk
    cases hx.symm.trans hx1
    simp only [Bool.and_eq_true, Bool.not_eq_eq_eq_not, Bool.not_true] at hskip
    refine ⟨fun hna => by simp [hskip.1.1, hskip.1.2] at hna, fun hst => ?_⟩
    have : x.rtx0Finished = true := by unfold Send.rtx0Finished; simp [Gen.rtx0RequeuesFin, hst]
    rw [this] at hskip; exact absurd hskip.2 (by simp)
  case case3 => contradiction
  case case4 x hx _ _ p hp ih =>
    refine (ih h).step (fun x1 hx1 => ?_) fun k x1 hk hf => (Map.find?_set_ne _ _ _ _ hk).symm.trans hf
    cases (Map.find?_set_self _ _ _ _ hx).symm.trans hx1
    refine ⟨fun _ => ?_, fun hst => ?_⟩
    · unfold SendBuf.retransmitAllFor0rtt at hp
      split at hp
      · cases hp; rfl
      · contradiction
    · have : x.rtx0Finished = true := by
        unfold Send.rtx0Finished; simp only [Gen.rtx0RequeuesFin, Bool.true_and]; simpa using hst
      simp [this]
  case case5 hno ih => exact (ih h).step (fun x1 hx1 => absurd hx1 (hno x1)) fun k x1 _ hk => hk

theorem rtx0_resent {s s' : State} (h : s.retransmitAllFor0rtt = some s') (d : Dir) (j : Nat)
    (hj : j < s.next.get d) (x' : Send) (hf : s'.send.find? (sidNew .client d j) = some (some x')) :
    Resent x' := by
  revert h
  fun_cases State.retransmitAllFor0rtt s <;> intro h
  · contradiction
  next s1 h1 =>
  have hnext : s1.next = s.next := by rw [(shuffle_rtx0Loop _ _ h1).rest]
  rcases rtx0Loop_post _ _ h _ x' hf with ⟨_, _, _, _, hr⟩ | ⟨hout, hf1⟩
  · exact hr
  -- not a key of the second loop: a bidirectional id, which the first loop handled
  cases d with
  | uni => exact absurd rfl (hout j (Nat.zero_le _) (by rw [hnext]; omega))
  | bi =>
    rcases rtx0Loop_post _ _ h1 _ x' hf1 with ⟨_, _, _, _, hr⟩ | ⟨hout1, _⟩
    · exact hr
    · exact absurd rfl (hout1 j (Nat.zero_le _) (by omega))

theorem rtx0_nothing_unsent {s s' : State} (h : s.retransmitAllFor0rtt = some s') (d : Dir) (j : Nat)
    (hj : j < s.next.get d) (x' : Send) (hf : s'.send.find? (sidNew .client d j) = some (some x'))
    (hna : (x'.pending.isFullyAcked && !x'.finPending) = false) : x'.pending.unsent = 0 :=
  (rtx0_resent h d j hj x' hf).1 hna

/-- what an application and the peer can observe of the sender side: stream numbering, stream and
    connection credit, queues (map contents are covered by `zeroRttRejected_send`) -/
structure Proj where
  next : Two Nat
  max : Two Nat
  sendStreams : Nat
  dataSent : Nat
  unackedData : Nat
  maxData : Nat
  connectionBlocked : List Nat
  streamsBlocked : Two Bool
  pendingStreams : List PStream
  pendingNext : Option PStream
  initialMaxStreamDataUni : Nat
  initialMaxStreamDataBidiLocal : Nat
  initialMaxStreamDataBidiRemote : Nat
deriving DecidableEq

def State.proj (s : State) : Proj :=
  ⟨s.next, s.max, s.sendStreams, s.dataSent, s.unackedData, s.maxData, s.connectionBlocked,
   s.streamsBlocked, s.pending.streams, s.pending.next, s.initialMaxStreamDataUni, s.initialMaxStreamDataBidiLocal,
   s.initialMaxStreamDataBidiRemote⟩

theorem fresh_proj {c : Config} {s0 : State} (h : State.new c = some s0) (p : Params) :
    (s0.setParams p).proj =
      ⟨⟨0, 0⟩, ⟨p.initialMaxStreamsBidi, p.initialMaxStreamsUni⟩, 0, 0, 0, p.initialMaxData, [],
       ⟨false, false⟩, [], none,
       p.initialMaxStreamDataUni, p.initialMaxStreamDataBidiLocal, p.initialMaxStreamDataBidiRemote⟩ := by
  obtain ⟨s1, a1, a2⟩ := alloc_new h
  rw [a2.rest, a1.rest]
  simp only [State.proj, State.setParams, State.receivedMaxData, State.bare, natMax_eq, Nat.zero_max]

end QM.Streams
