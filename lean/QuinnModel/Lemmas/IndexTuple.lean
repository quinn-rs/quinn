import QuinnModel.Lemmas.Index
/-
Zero-length connection IDs: the address-tuple tables.  `ConnectionIndex::insert_conn` overwrites the entry of
a key (`HashMap::insert`), `ConnectionIndex::remove` drops an entry only if it still belongs to the connection
being removed.  What a call does to these tables is said once (`TupleStep`): the entry of a live connection stays
unless the connection drains or a newer one takes its key.  So every live connection is registered (`tinv_run`)
as long as no two simultaneously live connections of the same side use the same key (`AddsDisjoint`).  Most
calls touch neither the tuple tables nor the side or addresses of a live connection (`Frame`); only `connect`,
`accept` and `Drained` need an argument of their own.
-/
namespace QM.Index

/-- the connections (side, tuple) and (side', tuple') use the same slot of the same tuple table -/
def SameKey (side : Side) (a : FourTuple) (side' : Side) (a' : FourTuple) : Prop :=
  side' = side ∧ ((side = .server ∧ a' = a) ∨ (side = .client ∧ a'.remote = a.remote))

instance (side : Side) (a : FourTuple) (side' : Side) (a' : FourTuple) : Decidable (SameKey side a side' a') := by
  unfold SameKey; exact inferInstance

/-- zero-length CIDs: every live connection is registered under its address tuple -/
def TupleComplete (s : State) : Prop :=
  ∀ h m, s.conns.get h = some m →
    (m.side = .server → alookup m.addresses s.index.inRemotes = some h) ∧
    (m.side = .client → alookup m.addresses.remote s.index.outRemotes = some h)

structure TInv (s : State) : Prop where
  complete : s.cidLen = 0 → TupleComplete s

/-- the call adds no connection whose tuple-table key is in use by a live connection of the same side
    (only matters for zero-length CIDs) -/
def AddsDisjoint (s : State) : Op → Prop
  | .connect remote _ _ _ => s.cidLen = 0 → ∀ h m, s.conns.get h = some m →
      ¬ SameKey .client ⟨remote, none⟩ m.side m.addresses
  | .accept idx _ _ => s.cidLen = 0 → ∀ p, s.incoming.get idx = some p → ∀ h m, s.conns.get h = some m →
      ¬ SameKey .server p.addresses m.side m.addresses
  | _ => True

/-- the call neither drains connection `h` nor establishes a newer incoming connection on tuple `a` -/
def KeepsIn (a : FourTuple) (h : Nat) (s : State) : Op → Prop
  | .accept idx _ _ => ∀ p, s.incoming.get idx = some p → p.addresses ≠ a
  | .event ch _ .drained => ch ≠ h
  | _ => True

/-- the call neither drains connection `h` nor establishes a newer outgoing connection to remote `r` -/
def KeepsOut (r : Addr) (h : Nat) (_ : State) : Op → Prop
  | .connect remote _ _ _ => remote ≠ r
  | .event ch _ .drained => ch ≠ h
  | _ => True

section
variable {s s' s1 : State} {ch idx seq : Nat} {cands c1 : List Cid} {d initCid loc dcid : Cid} {ix : Index}
  {inc : Slab Pending} {remote : Addr} {token : Token} {allow tls : Bool} {res : ConnectResult}
  {a : FourTuple} {data : Bytes} {mode : AcceptMode} {op : Op} {m m' : Meta}

structure Frame (s s' : State) : Prop where
  cidLen : s'.cidLen = s.cidLen
  inR : s'.index.inRemotes = s.index.inRemotes
  outR : s'.index.outRemotes = s.index.outRemotes
  fwd : ∀ h m', s'.conns.get h = some m' →
    ∃ m, s.conns.get h = some m ∧ m.side = m'.side ∧ m.addresses = m'.addresses

theorem Frame.refl (s : State) : Frame s s := ⟨rfl, rfl, rfl, fun _ m h => ⟨m, h, rfl, rfl⟩⟩

theorem Frame.trans {a b c : State} (h1 : Frame a b) (h2 : Frame b c) : Frame a c := by
  refine ⟨h2.cidLen.trans h1.cidLen, h2.inR.trans h1.inR, h2.outR.trans h1.outR, ?_⟩
  intro h m' hm'
  obtain ⟨m1, g1, g2, g3⟩ := h2.fwd h m' hm'
  obtain ⟨m0, k1, k2, k3⟩ := h1.fwd h m1 g1
  exact ⟨m0, k1, k2.trans g2, k3.trans g3⟩

theorem frame_index (hi : ix.inRemotes = s.index.inRemotes)
    (ho : ix.outRemotes = s.index.outRemotes) : Frame s { s with incoming := inc, index := ix } :=
  ⟨rfl, hi, ho, fun _ m h => ⟨m, h, rfl, rfl⟩⟩

theorem frame_set {ix : Index} (hm : s.conns.get ch = some m) (hside : m'.side = m.side := by rfl)
    (haddr : m'.addresses = m.addresses := by rfl) (hi : ix.inRemotes = s.index.inRemotes := by rfl)
    (ho : ix.outRemotes = s.index.outRemotes := by rfl) :
    Frame s { s with conns := s.conns.set ch m', index := ix } := by
  have u := Slab.upd_set hm m'
  refine ⟨rfl, hi, ho, fun h mm hmm => ?_⟩
  by_cases hh : h = ch
  · subst hh; rw [u.new] at hmm; cases hmm
    exact ⟨m, hm, hside.symm, haddr.symm⟩
  · rw [u.off h hh] at hmm
    exact ⟨mm, hmm, rfl, rfl⟩

theorem frame_newCid {id : Cid}
    (h : newCid s ch cands = some (id, s1, c1)) : Frame s s1 := by
  obtain ⟨-, -, ids', rfl, -⟩ := newCid_spec h
  exact frame_index (inc := s.incoming) rfl rfl

theorem frame_sendNewIdentifiers {n : Nat} {c' : List Cid} {ids : List (Nat × Cid)}
    (h : sendNewIdentifiers s ch n cands = some (s', ids, c')) : Frame s s' := by
  fun_induction sendNewIdentifiers s ch n cands generalizing ids
  case case1 => cases h; exact Frame.refl _
  case case5 s n cands id s1 c1 hnew m hm seq m' s2 ids2 c2 hrec ih =>
    cases h; exact (frame_newCid hnew).trans ((frame_set hm).trans (ih hrec))
  all_goals cases h

theorem frame_resetToken (h : evResetToken s ch remote token = some s') : Frame s s' := by
  revert h
  fun_cases evResetToken s ch remote token
  case case1 => intro h; cases h
  case case2 m hm conns toks => intro h; cases h; exact frame_set hm

theorem frame_retire
    {r : Option (List (Nat × Cid))} (h : evRetire s ch seq allow cands = some (s', r)) : Frame s s' := by
  revert h
  fun_cases evRetire s ch seq allow cands
  case case2 => intro h; cases h; exact Frame.refl _
  case case4 m hm cid hcid s1 _ s2 ids c2 hsend =>
    intro h; cases h; exact (frame_set hm).trans (frame_sendNewIdentifiers hsend)
  case case5 m hm cid hcid s1 _ => intro h; rw [← (Prod.mk.inj (Option.some.inj h)).1]; exact frame_set hm
  all_goals intro h; cases h

theorem frame_firstPacket {r : FirstResult}
    (h : firstPacket s a dcid data = some (s', r)) : Frame s s' := by
  revert h
  fun_cases firstPacket s a dcid data
  case case1 => intro h; cases h; exact Frame.refl _
  case case2 => intro h; cases h
  case case3 idx inc _ =>
    intro h; cases h
    obtain ⟨tbl, e, -⟩ := insertInitial_spec s.index dcid (.incoming idx)
    rw [Index.insertInitialIncoming, e]; exact frame_index rfl rfl

theorem frame_removeInitial
    (h : s.index.removeInitial d = some ix) : Frame s { s with incoming := inc, index := ix } := by
  obtain ⟨tbl, rfl, -⟩ := removeInitial_spec h
  exact frame_index rfl rfl

theorem frame_cleanUp (h : cleanUpIncoming s idx = some s') : Frame s s' := by
  revert h
  fun_cases cleanUpIncoming s idx
  case case4 ix hri p' inc hrem => intro h; cases h; exact frame_removeInitial hri
  all_goals intro h; cases h

/-- zero-length CIDs: connection `h` is registered under its tuple-table key (`TupleComplete`: every live one is) -/
def Registered (s : State) (h : Nat) (m : Meta) : Prop :=
  (m.side = .server → alookup m.addresses s.index.inRemotes = some h) ∧
  (m.side = .client → alookup m.addresses.remote s.index.outRemotes = some h)

/-- what a call does to the tuple tables: the entry of a live connection survives unless the connection drains or
    a newer one takes the key; whoever is alive afterwards was alive before, or is new and registered -/
structure TupleStep (s : State) (op : Op) (s' : State) : Prop where
  cidLen : s'.cidLen = s.cidLen
  inR : ∀ a h m, alookup a s.index.inRemotes = some h → s.conns.get h = some m → KeepsIn a h s op →
    alookup a s'.index.inRemotes = some h
  outR : ∀ r h m, alookup r s.index.outRemotes = some h → s.conns.get h = some m → KeepsOut r h s op →
    alookup r s'.index.outRemotes = some h
  live : ∀ h m', s'.conns.get h = some m' →
    (∃ m, s.conns.get h = some m ∧ m.side = m'.side ∧ m.addresses = m'.addresses) ∨
      (s.cidLen = 0 → Registered s' h m')
  vacated : ∀ ch c, op = .event ch c .drained → s'.conns.get ch = none

theorem TupleStep.frame (f : Frame s s') (hop : ∀ ch c, op ≠ .event ch c .drained) : TupleStep s op s' :=
  ⟨f.cidLen, fun _ _ _ hl _ _ => by rw [f.inR]; exact hl, fun _ _ _ hl _ _ => by rw [f.outR]; exact hl,
    fun h m' g => Or.inl (f.fwd h m' g), fun ch c e => absurd e (hop ch c)⟩

/-- the tuple tables after `Added`: other keys untouched, the new connection registered -/
theorem Added.tuples {s3 : State} {side : Side} {pref : Option Cid}
    (ha : Added { s with incoming := inc } ch initCid loc a side pref s3) :
    (∀ a' h, alookup a' s.index.inRemotes = some h → (side = .server → a ≠ a') →
      alookup a' s3.index.inRemotes = some h) ∧
    (∀ r h, alookup r s.index.outRemotes = some h → (side = .client → a.remote ≠ r) →
      alookup r s3.index.outRemotes = some h) ∧
    ∀ h m', s3.conns.get h = some m' →
      (∃ m, s.conns.get h = some m ∧ m.side = m'.side ∧ m.addresses = m'.addresses) ∨
        (s.cidLen = 0 → Registered s3 h m') := by
  refine ⟨fun a' h hl hk => ?_, fun r h hl hk => ?_, fun h m' g => ?_⟩
  · rw [ha.inR, if_neg fun hc => hk hc.2.1 hc.2.2]; exact hl
  · rw [ha.outR, if_neg fun hc => hk hc.2.1 hc.2.2]; exact hl
  · by_cases e : h = ch
    · subst e
      rw [ha.conns.new] at g; cases g
      exact Or.inr fun h0 => ⟨fun e => by rw [ha.inR, if_pos ⟨ha.zero.mpr h0, e, rfl⟩],
        fun e => by rw [ha.outR, if_pos ⟨ha.zero.mpr h0, e, rfl⟩]⟩
    · exact Or.inl ⟨m', (ha.conns.off h e).symm.trans g, rfl, rfl⟩

theorem tuple_connect (h : connect s remote initCid tls cands = some (s', res)) :
    TupleStep s (.connect remote initCid tls cands) s' := by
  obtain ⟨rfl, -⟩ | ⟨ids', rfl, -⟩ | ⟨loc, ha, -⟩ := connect_cases h
  · exact .frame (.refl _) nofun
  · exact .frame (frame_index (inc := s.incoming) rfl rfl) nofun
  · obtain ⟨t1, t2, t3⟩ := Added.tuples (inc := s.incoming) ha
    exact ⟨ha.cidLen, fun a h _ hl _ _ => t1 a h hl nofun, fun r h _ hl _ hk => t2 r h hl fun _ => hk, t3, nofun⟩

/-- `EndpointEvent::Drained`: `remove` drops only entries that still belong to the connection removed -/
theorem tuple_drained (h : evDrained s ch = some s') : TupleStep s (.event ch cands .drained) s' := by
  obtain ⟨hv, rfl⟩ | ⟨conn, conns, ix, u, -, hrem, rfl⟩ := evDrained_cases h
  · exact ⟨rfl, fun _ _ _ hl _ _ => hl, fun _ _ _ hl _ _ => hl, fun h m' g => Or.inl ⟨m', g, rfl, rfl⟩,
      fun _ _ e => by cases e; exact hv⟩
  · have hne : ∀ {hh : Nat}, ch ≠ hh → ¬ some hh = some ch := fun hk e => hk (Option.some.inj e).symm
    refine ⟨rfl, fun a hh _ hl _ hk => ?_, fun r hh _ hl _ hk => ?_, fun h m' g => ?_,
      fun _ _ e => by cases e; exact u.new⟩
    · rw [hrem.inR, if_neg fun hc => hne hk (hl.symm.trans hc.2)]; exact hl
    · rw [hrem.outR, if_neg fun hc => hne hk (hl.symm.trans hc.2)]; exact hl
    · have e1 : h ≠ ch := fun e => by rw [e, show conns.get ch = none from u.new] at g; cases g
      exact Or.inl ⟨m', (u.off h e1).symm.trans g, rfl, rfl⟩

theorem tuple_accept {r : AcceptResult} (h : accept s idx mode cands = some (s', r)) :
    TupleStep s (.accept idx mode cands) s' := by
  obtain ⟨p, inc, hrem, ⟨ix, hri, rfl, -⟩ | ⟨loc, pref, s3, s4, ha, rfl, hs'⟩⟩ := accept_cases h
  · exact .frame (frame_removeInitial hri) nofun
  · obtain ⟨t1, t2, t3⟩ := Added.tuples ha
    obtain ⟨tbl, e, -⟩ := insertInitial_spec s3.index p.dcid (.connection s.conns.vacantKey)
    rw [Index.insertInitial, e] at hs'
    rcases hs' with ⟨rfl, -⟩ | ⟨hdr, -⟩
    · exact ⟨ha.cidLen, fun a h _ hl _ hk => t1 a h hl fun _ => hk p hrem.old, fun r h _ hl _ _ => t2 r h hl nofun,
        t3, nofun⟩
    · -- the first packet is rejected and the half-built connection drained again: its slot was vacant, so no
      -- entry of a live connection points at it, and `remove` drops only entries that do
      obtain ⟨hv, rfl⟩ | ⟨conn, conns, ix, u, -, hrem', rfl⟩ := evDrained_cases hdr
      · cases ha.conns.new.symm.trans hv
      · have hvk : ∀ {h m}, s.conns.get h = some m → ¬ some h = some s.conns.vacantKey := fun g e => by
          rw [Option.some.inj e, show s.conns.get s.conns.vacantKey = none from ha.conns.old] at g; cases g
        refine ⟨ha.cidLen, fun a h m hl g hk => ?_, fun r h m hl g _ => ?_, fun h m' g => ?_, nofun⟩
        · have hl3 := t1 a h hl fun _ => hk p hrem.old
          rw [hrem'.inR, if_neg fun hc => hvk g (hl3.symm.trans hc.2)]; exact hl3
        · have hl3 := t2 r h hl nofun
          rw [hrem'.outR, if_neg fun hc => hvk g (hl3.symm.trans hc.2)]; exact hl3
        · have e1 : h ≠ s.conns.vacantKey := fun e => by
            rw [e, show conns.get s.conns.vacantKey = none from u.new] at g; cases g
          exact Or.inl ⟨m', (ha.conns.off h e1).symm.trans ((u.off h e1).symm.trans g), rfl, rfl⟩

theorem tuple_step (h : step s op = some s') : TupleStep s op s' :=
  step_cases (R := TupleStep) tuple_connect (fun h => .frame (frame_firstPacket h) nofun) tuple_accept
    (fun h => .frame (frame_cleanUp h) nofun) (fun h => .frame (frame_cleanUp h) nofun)
    (fun h => .frame (frame_sendNewIdentifiers h) nofun) (fun h => .frame (frame_resetToken h) nofun)
    (fun h => .frame (frame_retire h) nofun) tuple_drained h

/-- a live connection that the call neither drains nor supersedes stays registered; `AddsDisjoint` says that
    none is superseded -/
theorem tinv_step (ht : TInv s) (hd : AddsDisjoint s op) (hst : step s op = some s') : TInv s' := by
  have t := tuple_step hst
  refine ⟨fun h0 h m' g => ?_⟩
  have h0 : s.cidLen = 0 := t.cidLen.symm.trans h0
  obtain ⟨m, gm, e1, e2⟩ | hreg := t.live h m' g
  · have tc := ht.complete h0 h m gm
    have hk : (m.side = .server → KeepsIn m.addresses h s op) ∧
        (m.side = .client → KeepsOut m.addresses.remote h s op) := by
      cases op with
      | connect r _ _ _ => exact ⟨fun _ => trivial, fun e ea => hd h0 h m gm ⟨e, Or.inr ⟨rfl, ea.symm⟩⟩⟩
      | accept idx _ _ => exact ⟨fun e p hp ea => hd h0 p hp h m gm ⟨e, Or.inl ⟨rfl, ea.symm⟩⟩, fun _ => trivial⟩
      | event ch c ev =>
        cases ev with
        | drained =>
          -- `h` is still alive, so it is not the connection drained
          have : ch ≠ h := fun ec => by rw [← ec, t.vacated ch c rfl] at g; cases g
          exact ⟨fun _ => this, fun _ => this⟩
        | _ => exact ⟨fun _ => trivial, fun _ => trivial⟩
      | _ => exact ⟨fun _ => trivial, fun _ => trivial⟩
    rw [← e1, ← e2]
    exact ⟨fun e => t.inR _ _ m (tc.1 e) gm (hk.1 e), fun e => t.outR _ _ m (tc.2 e) gm (hk.2 e)⟩
  · exact hreg h0

theorem tinv_init (n : Nat) (b : Bool) : TInv (init n b) := by
  constructor
  intro _ h m g; simp [init, Slab.get, Slab.empty] at g

theorem tinv_run {cidLen : Nat} {pref : Bool} {ops : List Op}
    (hal : Along AddsDisjoint (init cidLen pref) ops) (hr : run cidLen pref ops = some s) : TInv s :=
  inv_runFrom (fun _ _ _ ht hd h => tinv_step ht hd h) (tinv_init cidLen pref) hal hr

theorem cidLen_run {cidLen : Nat} {pref : Bool} {ops : List Op}
    (hr : run cidLen pref ops = some s) : s.cidLen = cidLen :=
  inv_runFrom (P := fun _ _ => True) (Inv := fun s => s.cidLen = cidLen)
    (fun _ _ _ hi _ h => (tuple_step h).cidLen.trans hi) rfl (along_true _ _) hr

/-- the connection a successful `connect` returns is registered under its remote -/
theorem connect_registered (h : connect s remote initCid tls cands = some (s', .ok ch)) (h0 : s.cidLen = 0) :
    alookup remote s'.index.outRemotes = some ch := by
  obtain ⟨-, hres⟩ | ⟨_, -, -, -, e⟩ | ⟨loc, ha, e⟩ := connect_cases h
  · exact absurd rfl (hres ch)
  · cases e
  · cases e; exact (ha.outR remote).trans (if_pos ⟨ha.zero.mpr h0, rfl, rfl⟩)

/-- the connection a successful `accept` returns is registered under the pending attempt's tuple -/
theorem accept_registered {p : Pending} (h : accept s idx mode cands = some (s', .ok ch))
    (hp : s.incoming.get idx = some p) (h0 : s.cidLen = 0) : alookup p.addresses s'.index.inRemotes = some ch := by
  obtain ⟨p', inc, hrem, ⟨ix, -, -, hres⟩ | ⟨loc, pref, s3, s4, ha, rfl, ⟨rfl, e⟩ | ⟨-, e⟩⟩⟩ := accept_cases h
  · exact absurd rfl (hres ch)
  · cases e; cases hp.symm.trans hrem.old
    obtain ⟨tbl, e, -⟩ := insertInitial_spec s3.index p.dcid (.connection s.conns.vacantKey)
    rw [Index.insertInitial, e]
    exact (ha.inR p.addresses).trans (if_pos ⟨ha.zero.mpr h0, rfl, rfl⟩)
  · cases e

end

theorem along_addsDisjoint_of_cidLen {ops : List Op} {s : State} (h : s.cidLen ≠ 0) :
    Along AddsDisjoint s ops := by
  induction ops generalizing s with
  | nil => trivial
  | cons op ops ih =>
    refine along_cons_iff.mpr ⟨?_, fun s' hs' => ih (by rw [(tuple_step hs').cidLen]; exact h)⟩
    cases op <;> first | trivial | (intro h0; exact absurd h0 h)

end QM.Index
