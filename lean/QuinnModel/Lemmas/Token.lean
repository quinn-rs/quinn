import QuinnModel.Lemmas.TokenPayload
import QuinnModel.Lemmas.BloomLog
/- The validation decision `IncomingToken::from_header` under ideal AEAD. -/
namespace QM.Token
open QM

section Decode
variable (A : Aead) (key : Nat) (S : Nat → Bytes → Prop) (hA : Ideal A key S)
  (hS : ∀ n pt, S n pt → WF pt)
include hA hS

/-- whatever `decode` gets the AEAD to open is, byte for byte, a string sealed under `key` -/
theorem decode_opened (token : Bytes) (hT : WF token) (data : Bytes) (hl : ¬ token.length < Gen.tokenNonceBytes)
    {m : Nat} (hm : m = leVal (token.drop (token.length - Gen.tokenNonceBytes)))
    (ho : A.openWith key m (token.take (token.length - Gen.tokenNonceBytes)) = some data) :
    m < 2 ^ 128 ∧ S m data ∧ WF data ∧ token = A.sealWith key m data ++ leBytes Gen.tokenNonceBytes m := by
  subst hm
  unfold Gen.tokenNonceBytes at *
  have ⟨hs, hseal⟩ := hA.open_only _ _ _ ho
  have hdl : (token.drop (token.length - 16)).length = 16 := by rw [List.length_drop]; omega
  have hlt := leVal_lt _ (WF_drop (token.length - 16) hT)
  rw [hdl] at hlt
  have hcanon := leBytes_leVal _ (WF_drop (token.length - 16) hT)
  rw [hdl] at hcanon
  refine ⟨by simpa using hlt, hs, hS _ _ hs, ?_⟩
  rw [hcanon, ← hseal, List.take_append_drop]

omit hS in
theorem decode_encode (n : Nat) (p : Payload) (hn : n < 2 ^ 128) (hv : p.Valid) (hs : S n (encodePayload p)) :
    decode A key (encode A key n p) = .ok (n, p.wire) := by
  unfold decode encode
  have hnl : (leBytes Gen.tokenNonceBytes n).length = Gen.tokenNonceBytes := leBytes_length _ _
  have hl : ¬ (A.sealWith key n (encodePayload p) ++ leBytes Gen.tokenNonceBytes n).length < Gen.tokenNonceBytes := by
    rw [List.length_append, hnl]; omega
  have hstart : (A.sealWith key n (encodePayload p) ++ leBytes Gen.tokenNonceBytes n).length - Gen.tokenNonceBytes
      = (A.sealWith key n (encodePayload p)).length := by
    rw [List.length_append, hnl]; omega
  have hval : leVal (leBytes Gen.tokenNonceBytes n) = n := by
    rw [leVal_leBytes]; unfold Gen.tokenNonceBytes; exact Nat.mod_eq_of_lt (by simpa using hn)
  simp only [hl, if_false, hstart, List.take_left, List.drop_left, hval, hA.open_seal n _ hs,
    decodePayload_encodePayload p hv]

theorem decode_sound (token : Bytes) (hT : WF token) (n : Nat) (p : Payload)
    (h : decode A key token = .ok (n, p)) :
    n < 2 ^ 128 ∧ p.Valid ∧ p.wire = p ∧ S n (encodePayload p) ∧ token = encode A key n p := by
  revert h
  fun_cases decode A key token
  case case5 hl start nonce data ho q hd =>
    intro h
    obtain ⟨h1, rfl⟩ := Prod.mk.inj (Res.ok.inj h)
    subst h1
    have ⟨hm, hs, hw, htok⟩ := decode_opened A key S hA hS token hT data hl rfl ho
    have ⟨hdata, hv, hwire⟩ := decodePayload_sound data hw q hd
    subst hdata
    exact ⟨hm, hv, hwire, hs, htok⟩
  all_goals nofun

theorem decode_none_of_forged (token : Bytes) (hT : WF token)
    (hf : ∀ n pt, S n pt → token ≠ A.sealWith key n pt ++ leBytes Gen.tokenNonceBytes n) :
    decode A key token = .none := by
  fun_cases decode A key token
  case case1 => rfl
  case case2 => rfl
  case case3 hl _ _ data ho _ | case4 hl _ _ data ho _ | case5 hl _ _ data ho _ _ =>
    have ⟨_, hs, _, htok⟩ := decode_opened A key S hA hS token hT data hl rfl ho
    exact absurd htok (hf _ data hs)

end Decode

/-- `issued + lifetime` is a representable `SystemTime` and is not before `now` -/
def Fresh (issuedSecs lifetime now : Nat) : Prop :=
  issuedSecs * SysTime.nsPerSec + lifetime < SysTime.limit ∧ ¬ issuedSecs * SysTime.nsPerSec + lifetime < now

/-- what `from_header` requires of the content of a genuine token -/
def Accepts {σ : Type} (cfg : Cfg) (log : σ → Nat → Nat → Nat → Option (σ × Bool)) (ls : σ) (remote : Addr)
    (now nonce : Nat) : Payload → Prop
  | .retry a _ i => a.wire = remote ∧ Fresh i cfg.retryLifetime now
  | .validation ip i => ip = remote.ip ∧ Fresh i cfg.validationLifetime now ∧
      ∃ ls', log ls nonce (i * SysTime.nsPerSec) cfg.validationLifetime = some (ls', true)

section FromHeader
variable {σ : Type} (A : Aead) (cfg : Cfg) (log : σ → Nat → Nat → Nat → Option (σ × Bool)) (ls : σ)
  (token dcid : Bytes) (remote : Addr) (now : Nat)

theorem fromHeader_none (hd : decode A cfg.key token = .none) :
    fromHeader A cfg log ls token dcid remote now = (ls, .ok (unvalidated dcid)) := by
  unfold fromHeader
  by_cases he : token.isEmpty = true
  · rw [if_pos he]
  · rw [if_neg he, hd]

theorem fromHeader_panic (hd : decode A cfg.key token = .panic) :
    fromHeader A cfg log ls token dcid remote now = (ls, .panic) ∨
      fromHeader A cfg log ls token dcid remote now = (ls, .ok (unvalidated dcid)) := by
  unfold fromHeader
  by_cases he : token.isEmpty = true
  · rw [if_pos he]; exact Or.inr rfl
  · rw [if_neg he, hd]; exact Or.inl rfl

theorem token_nonempty_of_decode_ok {x : Nat × Payload} (hd : decode A cfg.key token = .ok x) :
    ¬ token.isEmpty = true := by
  cases token with
  | nil => simp [decode, Gen.tokenNonceBytes] at hd
  | cons _ _ => exact Bool.false_ne_true

/-- the test both kinds of token go through -/
theorem expiry_test {β : Type} (t life : Nat) (exp : Nat → Nat → Bool) (hexp : ∀ e, exp e now = decide (e < now))
    (pan stale k : β) :
    (match SysTime.add t life with
      | none => pan
      | some e => if exp e now then stale else k) =
    if ¬ t + life < SysTime.limit then pan else if t + life < now then stale else k := by
  by_cases hr : t + life < SysTime.limit
  · rw [SysTime.add_some _ _ hr, if_neg (not_not_intro hr)]
    simp only [hexp, decide_eq_true_eq]
  · rw [SysTime.add_none _ _ hr, if_pos hr]

theorem fromHeader_retry {n : Nat} {a : Addr} {c : Bytes} {i : Nat}
    (hd : decode A cfg.key token = .ok (n, .retry a c i)) :
    fromHeader A cfg log ls token dcid remote now =
      if a ≠ remote then (ls, .invalidRetry)
      else if ¬ i * SysTime.nsPerSec + cfg.retryLifetime < SysTime.limit then (ls, .panic)
      else if i * SysTime.nsPerSec + cfg.retryLifetime < now then (ls, .invalidRetry)
      else (ls, .ok ⟨some dcid, c, true⟩) := by
  unfold fromHeader
  rw [if_neg (token_nonempty_of_decode_ok A cfg token hd), hd]
  dsimp only
  by_cases hm : a ≠ remote
  · rw [if_pos hm, if_pos hm]
  · rw [if_neg hm, if_neg hm]
    exact expiry_test now _ _ Gen.tokenRetryExpired (fun _ => rfl) _ _ _

theorem fromHeader_validation {n : Nat} {ip : Ip} {i : Nat}
    (hd : decode A cfg.key token = .ok (n, .validation ip i)) :
    fromHeader A cfg log ls token dcid remote now =
      if ip ≠ remote.ip then (ls, .ok (unvalidated dcid))
      else if ¬ i * SysTime.nsPerSec + cfg.validationLifetime < SysTime.limit then (ls, .panic)
      else if i * SysTime.nsPerSec + cfg.validationLifetime < now then (ls, .ok (unvalidated dcid))
      else match log ls n (i * SysTime.nsPerSec) cfg.validationLifetime with
        | none => (ls, .panic)
        | some (ls', accepted) =>
          if accepted then (ls', .ok ⟨none, dcid, true⟩) else (ls', .ok (unvalidated dcid)) := by
  unfold fromHeader
  rw [if_neg (token_nonempty_of_decode_ok A cfg token hd), hd]
  dsimp only
  by_cases hm : ip ≠ remote.ip
  · rw [if_pos hm, if_pos hm]
  · rw [if_neg hm, if_neg hm]
    exact expiry_test now _ _ Gen.tokenValidationExpired (fun _ => rfl) _ _ _

theorem not_validated {l : σ} {d : Decision} (h : d = .panic ∨ d = .invalidRetry ∨ d = .ok (unvalidated dcid)) :
    ¬ ∃ ls' inc, (l, d) = (ls', Decision.ok inc) ∧ inc.validated = true := by
  rintro ⟨_, inc, he, hv⟩
  rcases h with rfl | rfl | rfl
  · nomatch he
  · nomatch he
  · obtain rfl := Decision.ok.inj (Prod.mk.inj he).2
    exact Bool.false_ne_true hv

/-- the content of a genuine token that is answered with INVALID_TOKEN: a Retry token that is moved or stale -/
def Refused (cfg : Cfg) (remote : Addr) (now : Nat) : Payload → Prop
  | .retry a _ i => a.wire ≠ remote ∨ i * SysTime.nsPerSec + cfg.retryLifetime < now
  | .validation _ _ => False

/-- the decision on a genuine token, walked once and read twice at every leaf: is the address validated, is the answer
    INVALID_TOKEN (for a clock beyond the representable range a stale token can panic instead, hence `now < limit`) -/
theorem genuine_table (n : Nat) (p : Payload) (hd : decode A cfg.key token = .ok (n, p)) (hw : p.wire = p) :
    ((∃ ls' inc, fromHeader A cfg log ls token dcid remote now = (ls', .ok inc) ∧ inc.validated = true)
      ↔ Accepts cfg log ls remote now n p) ∧
    (now < SysTime.limit →
      ((∃ ls', fromHeader A cfg log ls token dcid remote now = (ls', .invalidRetry)) ↔ Refused cfg remote now p)) := by
  have no : ∀ {l : σ} {d : Decision}, d ≠ .invalidRetry → ¬ ∃ ls', (l, d) = (ls', Decision.invalidRetry) :=
    fun hne ⟨_, h⟩ => hne (Prod.mk.inj h).2
  cases p with
  | retry a c i =>
    rw [fromHeader_retry A cfg log ls token dcid remote now hd, Accepts, Refused, Fresh, (Payload.retry.inj hw).1]
    generalize i * SysTime.nsPerSec + cfg.retryLifetime = e
    by_cases hm : a ≠ remote
    · rw [if_pos hm]
      exact ⟨iff_of_false (not_validated dcid (.inr (.inl rfl))) fun h => hm h.1, fun _ => iff_of_true ⟨ls, rfl⟩ (.inl hm)⟩
    rw [if_neg hm]
    by_cases he : e < now
    · refine ⟨?_, fun hnow => ?_⟩
      · by_cases hr : e < SysTime.limit
        · rw [if_neg (not_not_intro hr), if_pos he]
          exact iff_of_false (not_validated dcid (.inr (.inl rfl))) fun h => h.2.2 he
        · rw [if_pos hr]
          exact iff_of_false (not_validated dcid (.inl rfl)) fun h => hr h.2.1
      · -- a stale token has a representable expiry, since `now` is representable
        rw [if_neg (not_not_intro (Nat.lt_trans he hnow)), if_pos he]
        exact iff_of_true ⟨ls, rfl⟩ (.inr he)
    · by_cases hr : e < SysTime.limit
      · rw [if_neg (not_not_intro hr), if_neg he]
        exact ⟨iff_of_true ⟨ls, _, rfl, rfl⟩ ⟨Decidable.not_not.mp hm, hr, he⟩, fun _ => iff_of_false (no nofun) fun h => h.elim hm he⟩
      · rw [if_pos hr]
        exact ⟨iff_of_false (not_validated dcid (.inl rfl)) fun h => hr h.2.1, fun _ => iff_of_false (no nofun) fun h => h.elim hm he⟩
  | validation ip i =>
    rw [fromHeader_validation A cfg log ls token dcid remote now hd, Accepts, Refused, Fresh]
    generalize i * SysTime.nsPerSec + cfg.validationLifetime = e
    by_cases hm : ip ≠ remote.ip
    · rw [if_pos hm]
      exact ⟨iff_of_false (not_validated dcid (.inr (.inr rfl))) fun h => hm h.1, fun _ => iff_of_false (no nofun) id⟩
    rw [if_neg hm]
    by_cases hr : e < SysTime.limit
    · rw [if_neg (not_not_intro hr)]
      by_cases he : e < now
      · rw [if_pos he]
        exact ⟨iff_of_false (not_validated dcid (.inr (.inr rfl))) fun h => h.2.1.2 he, fun _ => iff_of_false (no nofun) id⟩
      rw [if_neg he]
      cases hlog : log ls n (i * SysTime.nsPerSec) cfg.validationLifetime with
      | none => exact ⟨iff_of_false (not_validated dcid (.inl rfl)) fun ⟨_, _, _, h⟩ => (nomatch h), fun _ => iff_of_false (no nofun) id⟩
      | some r =>
        obtain ⟨ls1, acc⟩ := r
        cases acc with
        | false =>
          exact ⟨iff_of_false (not_validated dcid (.inr (.inr rfl)))
            fun ⟨_, _, _, h⟩ => (nomatch (Prod.mk.inj (Option.some.inj h)).2), fun _ => iff_of_false (no nofun) id⟩
        | true =>
          exact ⟨iff_of_true ⟨ls1, _, rfl, rfl⟩ ⟨Decidable.not_not.mp hm, ⟨hr, he⟩, ls1, rfl⟩, fun _ => iff_of_false (no nofun) id⟩
    · rw [if_pos hr]
      exact ⟨iff_of_false (not_validated dcid (.inl rfl)) fun h => hr h.2.1.1, fun _ => iff_of_false (no nofun) id⟩
end FromHeader

section Main
variable {σ : Type} (A : Aead) (S : Nat → Bytes → Prop) (cfg : Cfg) (hA : Ideal A cfg.key S)
  (hS : ∀ n pt, S n pt → WF pt)
  (log : σ → Nat → Nat → Nat → Option (σ × Bool)) (ls : σ)
  (token dcid : Bytes) (remote : Addr) (now : Nat) (hT : WF token)
include hA hS hT

/-- a property `Q` of the outcome that neither a panic nor the treatment of an absent token has holds exactly for the
    genuine tokens whose content makes it hold (`R`, decided by `hR` on what the token decodes to) -/
theorem genuine_iff (Q : σ × Decision → Prop) (R : Nat → Payload → Prop) (hp : ¬ Q (ls, .panic))
    (hu : ¬ Q (ls, .ok (unvalidated dcid)))
    (hR : ∀ tok n p, decode A cfg.key tok = .ok (n, p) → p.wire = p →
      (Q (fromHeader A cfg log ls tok dcid remote now) ↔ R n p))
    (hRw : ∀ n p, R n p.wire ↔ R n p) :
    Q (fromHeader A cfg log ls token dcid remote now) ↔
      ∃ n p, n < 2 ^ 128 ∧ p.Valid ∧ S n (encodePayload p) ∧ token = encode A cfg.key n p ∧ R n p := by
  constructor
  · intro h
    cases hd : decode A cfg.key token with
    | panic =>
      rcases fromHeader_panic A cfg log ls token dcid remote now hd with h1 | h1 <;> rw [h1] at h
      · exact absurd h hp
      · exact absurd h hu
    | none =>
      rw [fromHeader_none A cfg log ls token dcid remote now hd] at h
      exact absurd h hu
    | ok x =>
      obtain ⟨n, p⟩ := x
      obtain ⟨hn, hval, hwire, hs, htok⟩ := decode_sound A cfg.key S hA hS token hT n p hd
      exact ⟨n, p, hn, hval, hs, htok, (hR token n p hd hwire).mp h⟩
  · rintro ⟨n, p, hn, hval, hs, rfl, hr⟩
    exact (hR _ n p.wire (decode_encode A cfg.key S hA n p hn hval hs) (Payload.wire_wire p)).mpr ((hRw n p).mpr hr)

theorem token_validates_iff :
    (∃ ls' inc, fromHeader A cfg log ls token dcid remote now = (ls', .ok inc) ∧ inc.validated = true) ↔
      ∃ n p, n < 2 ^ 128 ∧ p.Valid ∧ S n (encodePayload p) ∧ token = encode A cfg.key n p ∧
        Accepts cfg log ls remote now n p :=
  genuine_iff A S cfg hA hS log ls token dcid remote now hT
    (fun x => ∃ ls' inc, x = (ls', .ok inc) ∧ inc.validated = true) (Accepts cfg log ls remote now)
    (not_validated dcid (.inl rfl)) (not_validated dcid (.inr (.inr rfl)))
    (fun tok n p hd hw => (genuine_table A cfg log ls tok dcid remote now n p hd hw).1)
    (fun n p => by cases p <;> simp [Payload.wire, Accepts])

theorem altered_token_is_absent
    (hf : ∀ n pt, S n pt → token ≠ A.sealWith cfg.key n pt ++ leBytes Gen.tokenNonceBytes n) :
    fromHeader A cfg log ls token dcid remote now = (ls, .ok (unvalidated dcid)) :=
  fromHeader_none A cfg log ls token dcid remote now (decode_none_of_forged A cfg.key S hA hS token hT hf)

end Main

end QM.Token
