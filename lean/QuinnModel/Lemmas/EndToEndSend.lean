import QuinnModel.Lemmas.EndToEnd
/-
C01 end to end: the sender's events preserve the invariant.
-/
namespace QM.E2E
open QM QM.RangeSet
open QM.Assembler (stream delivered)

/-- a sender event that leaves the written bytes, `finish` and `reset` alone: only the sender's and the
    network's part of the invariant have to be shown again -/
theorem inv_send {g : Nat → Nat} {s : St} {sb' : SendBuffer.SendBuffer} {F' ackd' : List (Nat × Nat)}
    {half' : Streams.Send} {live' : Bool} {rc' : Option Nat} {T' : List (Nat × Nat × Bool)} {net' : List Frame}
    (i : Inv g s)
    (S : SInv g { s with sys := ⟨sb', F', s.sys.w, ackd'⟩, half := half', live := live', resetCode := rc', T := T',
                         net := net' })
    (G : GInv { s with sys := ⟨sb', F', s.sys.w, ackd'⟩ }) :
    Inv g { s with sys := ⟨sb', F', s.sys.w, ackd'⟩, half := half', live := live', resetCode := rc', T := T',
                   net := net' } :=
  ⟨S, G,
    i.R.sender i.S rfl rfl rfl rfl (Nat.le_refl _) (fun _ => rfl) (fun _ h => h) (fun _ h => h)⟩

theorem send_write_ok {h h' : Streams.Send} {n limit k : Nat} (hw : h.write n limit = some (.ok (k, h'))) :
    h.state = .ready := by
  unfold Streams.Send.write at hw
  split at hw
  · cases hw
  · rename_i hn
    simpa [Streams.Send.isWritable] using hn

theorem inv_write {g : Nat → Nat} {s s' : St} {d : Bytes} {limit : Nat} (i : Inv g s)
    (h : write s d limit = some s') (hp : Pre g s'.sys.w) : Inv g s' := by
  revert h hp
  fun_cases write s d limit
  all_goals intro h hp; cases h
  case case1 => exact i
  case case3 => exact i
  case case5 k _ hw sys' hs =>
    have hready := send_write_ok hw
    have hnone := i.S.ready hready
    have hi' := SendBuffer.step_inv _ _ _ i.S.sb hs
    obtain ⟨sb', F', rfl⟩ := SendBuffer.step_frame hs
    have hlen : s.sys.w.length ≤ (s.sys.w ++ d.take k).length := by
      rw [List.length_append]; exact Nat.le_add_right _ _
    refine ⟨{ i.S with
        sb := hi', wg := hp, pend := rfl, fin_at := fun n hn => ?_, netS := fun off bytes fin hf => ?_,
        netR := fun c fs hf => ?_, finLive := fun _ hst => ?_ },
      i.G,
      i.R.sender i.S rfl rfl rfl rfl hlen (fun hne => absurd hready hne) (fun n hn => hn) (fun c hc => hc)⟩
    · rw [hnone.1] at hn; cases hn
    · obtain ⟨b1, b2, b3⟩ := i.S.netS off bytes fin hf
      exact ⟨b1, Nat.le_trans b2 hlen, b3⟩
    · have := (i.S.netR c fs hf).1
      rw [hnone.2] at this; cases this
    · have : s.half.state = .dataSent false := hst
      rw [hready] at this; cases this

theorem inv_finish {g : Nat → Nat} {s s' : St} (i : Inv g s) (h : finish s = some s') : Inv g s' := by
  revert h
  fun_cases finish s
  all_goals intro h; cases h
  case case1 => exact i
  case case2 => exact i
  case case3 h' hf =>
    revert hf
    fun_cases Streams.Send.finish s.half
    all_goals intro hf; cases hf
    rename_i hready
    have hnone := i.S.ready hready
    refine ⟨{ i.S with
        ready := nofun, fin_at := fun n hn => ?_, ds_fin := fun _ => nofun,
        rs := ⟨fun hne => absurd hnone.2 hne, nofun⟩, netS := fun off bytes fin hf => ?_,
        finLive := fun _ _ => Or.inl rfl },
      i.G,
      i.R.sender i.S rfl rfl rfl rfl (Nat.le_refl _) (fun _ => rfl)
        (fun n hn => by rw [hnone.1] at hn; cases hn) (fun c hc => hc)⟩
    · obtain rfl := Option.some.inj hn
      exact ⟨i.S.sb.wlen.symm, nofun⟩
    · obtain ⟨b1, b2, b3⟩ := i.S.netS off bytes fin hf
      refine ⟨b1, b2, fun hfin => ?_⟩
      have := b3 hfin; rw [hnone.1] at this; cases this

theorem send_reset_state {h : Streams.Send} : h.reset = { h with state := .resetSent } := by
  obtain ⟨_, st, _, _, _, _, _⟩ := h
  cases st <;> rfl

theorem inv_reset {g : Nat → Nat} {s s' : St} {code : Nat} (i : Inv g s) (h : reset s code = some s') :
    Inv g s' := by
  revert h
  fun_cases reset s code
  all_goals intro h; cases h
  case case1 => exact i
  case case2 => exact i
  case case3 hns =>
    have hnone : s.appReset = none := Classical.byContradiction fun ha => hns (i.S.rs.mp ha)
    rw [send_reset_state]
    refine ⟨{ i.S with
        ready := nofun, fin_at := fun n hn => ⟨(i.S.fin_at n hn).1, nofun⟩, ds_fin := nofun,
        rs := ⟨fun _ => rfl, fun _ => nofun⟩, rcode := rfl, netR := fun c fs hf => ?_, finLive := fun _ => nofun },
      i.G,
      i.R.sender i.S rfl rfl rfl rfl (Nat.le_refl _) (fun _ => rfl) (fun n hn => hn)
        (fun c hc => by rw [hnone] at hc; cases hc)⟩
    have := (i.S.netR c fs hf).1
    rw [hnone] at this; cases this

/-- the half changed only in fields the invariant does not look at -/
theorem inv_half {g : Nat → Nat} {s : St} {h' : Streams.Send} (i : Inv g s) (h1 : h'.state = s.half.state)
    (h2 : h'.pending = s.half.pending) (h3 : h'.finPending = s.half.finPending) :
    Inv g { s with half := h' } := by
  refine inv_send i { i.S with
    pend := h2.trans i.S.pend, ready := ?_, fin_at := ?_, ds_fin := ?_, rs := ?_, finLive := ?_ } i.G
  · show h'.state = .ready → _; rw [h1]; exact i.S.ready
  · intro n hn; show _ ∧ h'.state ≠ .ready; rw [h1]; exact i.S.fin_at n hn
  · show isDataSent h'.state = true → _; rw [h1]; exact i.S.ds_fin
  · show _ ↔ h'.state = .resetSent; rw [h1]; exact i.S.rs
  · show _ → h'.state = .dataSent false → h'.finPending = true ∨ _; rw [h1, h3]; exact i.S.finLive

theorem inv_maxStreamData {g : Nat → Nat} {s s' : St} {v : Nat} (i : Inv g s)
    (h : maxStreamData s v = some s') : Inv g s' := by
  revert h
  fun_cases maxStreamData s v
  all_goals intro h; cases h
  case case1 => exact i
  case case2 => apply inv_half i <;> (unfold Streams.Send.increaseMaxData; split <;> rfl)

theorem inv_stopSending {g : Nat → Nat} {s s' : St} (i : Inv g s) (h : stopSending s = some s') :
    Inv g s' := by
  revert h
  fun_cases stopSending s
  all_goals intro h; cases h
  case case2 => exact i
  case case3 => apply inv_half i <;> (unfold Streams.Send.tryStop; split <;> rfl)

theorem inv_transmitReset {g : Nat → Nat} {s s' : St} (i : Inv g s) (h : transmitReset s = some s') :
    Inv g s' := by
  revert h
  fun_cases transmitReset s
  all_goals intro h; cases h
  case case3 c hc =>
    refine inv_send i { i.S with netS := fun off bytes fin hf => ?_, netR := fun c' fs hf => ?_ }
      i.G
    · rcases List.mem_cons.mp hf with hf | hf
      · cases hf
      · exact i.S.netS off bytes fin hf
    · rcases List.mem_cons.mp hf with hf | hf
      · obtain ⟨rfl, rfl⟩ := Frame.reset.inj hf
        refine ⟨i.S.rcode ▸ hc, ?_⟩
        show s.half.pending.offset = _
        rw [i.S.pend]; exact i.S.sb.wlen.symm
      · exact i.S.netR c' fs hf

theorem inv_ackReset {g : Nat → Nat} {s s' : St} (i : Inv g s) (h : ackReset s = some s') : Inv g s' := by
  revert h
  fun_cases ackReset s
  all_goals intro h; cases h
  case case2 =>
    exact inv_send i { i.S with finLive := nofun } i.G
  case case3 => exact i

theorem inv_transmit {g : Nat → Nat} {s s' : St} {n : Nat} (i : Inv g s) (h : transmit s n = some s') :
    Inv g s' := by
  revert h
  fun_cases transmit s n
  all_goals intro h; cases h
  case case4 sb' r enc hp bytes hc fin =>
    have hstep : SendBuffer.step s.sys (.poll n) = some { s.sys with sb := sb', F := r :: s.sys.F } := by
      simp only [SendBuffer.step, hp]
    have hi' := SendBuffer.step_inv _ _ _ i.S.sb hstep
    -- the frame just polled is in flight, so it lies inside what was written and the copy loop returns those bytes
    have c2 : r.1 ≤ r.2 := (hi'.boundF r List.mem_cons_self).1
    have c3 : r.2 ≤ s.sys.w.length :=
      Nat.le_trans (hi'.boundF r List.mem_cons_self).2.1 (Nat.le_trans hi'.unsent_le (Nat.le_of_eq hi'.wlen.symm))
    have hb : bytes = (s.sys.w.drop r.1).take (r.2 - r.1) :=
      Option.some.inj (hc.symm.trans (SendBuffer.copyLoop_inflight _ hi' r List.mem_cons_self))
    have hlen : bytes.length = r.2 - r.1 := by
      rw [hb, List.length_take, List.length_drop]
      exact Nat.min_eq_left (Nat.sub_le_sub_right c3 r.1)
    have hend : r.1 + bytes.length = r.2 := by rw [hlen]; exact Nat.add_sub_of_le c2
    refine inv_send i { i.S with
        sb := hi', pend := rfl, netS := fun off b fin' hf => ?_, netR := fun c fs hf => ?_,
        finLive := fun hl hst => ?_ }
      i.G
    · rcases List.mem_cons.mp hf with hf | hf
      · obtain ⟨rfl, rfl, rfl⟩ := Frame.stream.inj hf
        refine ⟨?_, hend ▸ c3, fun hfin => ?_⟩
        · rw [hlen, i.S.wg.sub r.1 (r.2 - r.1) (by rw [Nat.add_sub_of_le c2]; exact c3)]; exact hb
        · simp only [fin, Bool.and_eq_true, beq_iff_eq] at hfin
          cases hfa : s.finishedAt with
          | none => exact absurd hfa (i.S.ds_fin hfin.2)
          | some m =>
            show some m = some (r.1 + b.length)
            rw [hend, (i.S.fin_at m hfa).1, hfin.1]; exact congrArg some hi'.wlen
      · exact i.S.netS off b fin' hf
    · rcases List.mem_cons.mp hf with hf | hf
      · cases hf
      · exact i.S.netR c fs hf
    · show (if fin = true then false else s.half.finPending) = true ∨ _
      by_cases hfin : fin = true
      · exact Or.inr ⟨(r.1, r.2, fin), List.mem_cons_self, hfin⟩
      · rw [if_neg hfin]
        rcases i.S.finLive hl hst with h1 | ⟨t, ht, h2⟩
        · exact Or.inl h1
        · exact Or.inr ⟨t, List.mem_cons_of_mem _ ht, h2⟩

theorem gotStream_spec {s : St} {a e : Nat} {fin : Bool} (h : s.gotStream a e fin = true) :
    ∃ bytes, Frame.stream a bytes fin ∈ s.got ∧ bytes.length = e - a := by
  unfold St.gotStream at h
  obtain ⟨f, hf, hm⟩ := List.any_eq_true.mp h
  cases f with
  | stream o b f' =>
    simp only [Bool.and_eq_true, beq_iff_eq] at hm
    obtain ⟨⟨rfl, h2⟩, rfl⟩ := hm
    exact ⟨b, hf, h2⟩
  | reset c fs => cases hm

theorem inv_eraseT {g : Nat → Nat} {s : St} {t : Nat × Nat × Bool} (i : Inv g s)
    (hd : s.live = true → s.half.state = .dataSent false → False) : Inv g { s with T := s.T.erase t } :=
  inv_send i { i.S with finLive := fun hl hst => (hd hl hst).elim } i.G

theorem inv_ack {g : Nat → Nat} {s s' : St} {a e : Nat} {fin : Bool} (i : Inv g s)
    (h : ack s a e fin = some s') : Inv g s' := by
  have hG (hen : ¬((a, e, fin) ∉ s.T ∨ (a, e) ∉ s.sys.F ∨ s.gotStream a e fin = false)) :
      ∀ r ∈ (a, e) :: s.sys.ackd, ∃ bytes fin, Frame.stream r.1 bytes fin ∈ s.got ∧ bytes.length = r.2 - r.1 := by
    obtain ⟨gb, hgb, hgl⟩ := gotStream_spec
      ((Bool.eq_false_or_eq_true _).resolve_right fun hg => hen (Or.inr (Or.inr hg)))
    intro r hr
    rcases List.mem_cons.mp hr with rfl | hr
    · exact ⟨gb, fin, hgb, hgl⟩
    · exact i.G r hr
  revert h
  fun_cases ack s a e fin
  all_goals intro h; cases h
  case case2 hdead =>
    refine inv_eraseT i fun hl hst => ?_
    simp only [hl, Bool.not_true, Bool.false_or, Streams.Send.isReset, hst] at hdead
    cases hdead
  case case4 hen hlive sys' hs fa hst =>
    have hl : s.live = true := by revert hlive; cases s.live <;> simp
    have hi' := SendBuffer.step_inv _ _ _ i.S.sb hs
    obtain ⟨sb', F', rfl⟩ := SendBuffer.step_frame hs
    have hnr : s.appReset = none := Classical.byContradiction fun ha => by
      have := i.S.rs.mp ha; rw [hst] at this; cases this
    refine inv_send i { i.S with
        sb := hi', pend := rfl, ready := nofun, fin_at := fun n hn => ⟨(i.S.fin_at n hn).1, nofun⟩,
        ds_fin := fun _ => i.S.ds_fin (by rw [hst]; rfl), rs := ⟨fun hne => absurd hnr hne, nofun⟩,
        finLive := fun _ hst' => ?_ }
      (hG hen)
    obtain ⟨rfl, rfl⟩ := Bool.or_eq_false_iff.mp (Streams.SendState.dataSent.inj hst')
    rcases i.S.finLive hl hst with h1 | ⟨t, ht, h2⟩
    · exact Or.inl h1
    · refine Or.inr ⟨t, (List.mem_erase_of_ne ?_).mpr ht, h2⟩
      intro heq; rw [heq] at h2; cases h2
  case case5 hen _ sys' hs hnd =>
    have hi' := SendBuffer.step_inv _ _ _ i.S.sb hs
    obtain ⟨sb', F', rfl⟩ := SendBuffer.step_frame hs
    exact inv_send i { i.S with sb := hi', pend := rfl, finLive := fun _ hst' => absurd hst' (hnd false) }
      (hG hen)

theorem inv_lose {g : Nat → Nat} {s s' : St} {a e : Nat} {fin : Bool} (i : Inv g s)
    (h : lose s a e fin = some s') : Inv g s' := by
  revert h
  fun_cases lose s a e fin
  all_goals intro h; cases h
  case case2 hdead => exact inv_eraseT i fun hl _ => by simp [hl] at hdead
  case case4 hlive sys' hs =>
    have hi' := SendBuffer.step_inv _ _ _ i.S.sb hs
    obtain ⟨sb', F', rfl⟩ := SendBuffer.step_frame hs
    refine inv_send i { i.S with sb := hi', pend := rfl, finLive := fun _ hst => ?_ }
      i.G
    show (s.half.finPending || fin) = true ∨ _
    rcases i.S.finLive (by simpa using hlive) hst with h1 | ⟨t, ht, h2⟩
    · left; rw [h1]; rfl
    · by_cases heq : t = (a, e, fin)
      · left; rw [heq] at h2; simp only at h2; rw [h2]; simp
      · exact Or.inr ⟨t, (List.mem_erase_of_ne heq).mpr ht, h2⟩

end QM.E2E
