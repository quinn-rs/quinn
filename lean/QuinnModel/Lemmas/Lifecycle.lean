import QuinnModel.Conn.Lifecycle
namespace QM.Life

def Ev.isPacket : Ev → Bool
  | .pktErr .. | .peerClose .. | .peerCloseEarly .. | .closeFrameWhileClosed | .authed .. => true
  | _ => false

/-- well-driven history: once the connection is drained the endpoint has forgotten it, so no packet event
    reaches it any more (timeouts, polls and application calls may still happen) -/
def WD : L → List Ev → Prop
  | _, [] => True
  | l, e :: rest => (l.st = .drained → e.isPacket = false) ∧ WD (step l e) rest

/- What each event does, as a record update: one table for a connection that is still open (`isClosed = false`), one for a
connection that has left the open states. The invariants below are proved from the two tables; none of them unfolds `step`. -/

variable {l : L} {now : Nat}

theorem not_drained_of_open (h : l.st.isClosed = false) : l.st ≠ .drained := by
  intro hd; rw [hd] at h; cases h

theorem closing_of_closed (h : l.st.isClosed = true) (hd : l.st ≠ .drained) :
    l.st = .closed ∨ l.st = .draining := by
  cases hs : l.st <;> simp_all [St.isClosed]

theorem closed_of_closing (h : l.st = .closed ∨ l.st = .draining) : l.st.isClosed = true := by
  rcases h with h | h <;> rw [h] <;> rfl

theorem step_pollTransmit : step l .pollTransmit = if transmitsClose l then { l with closeFlag := false } else l := by
  cases hs : l.st <;> simp [step, transmitsClose, hs]

theorem step_open (ho : l.st.isClosed = false) (e : Ev) : step l e = match e with
    | .close now p => { l with closeTimer := some (now + p), idleTimer := none, closeFlag := true, st := .closed, localClose := true }
    | .pktErr .toClosed now p sp =>
      { l with error := true, st := .closed, closeTimer := some (now + p), idleTimer := none, closeFlag := sp }
    | .pktErr .toDraining now p _ | .peerCloseEarly now p =>
      { l with error := true, st := .draining, closeTimer := some (now + p), idleTimer := none }
    | .pktErr .toDrained _ _ _ =>
      { l with error := true, st := .drained, closeTimer := none, idleTimer := none, drainedEv := l.drainedEv + 1 }
    | .peerClose now p =>
      { l with error := true, st := .draining, closeFlag := true, closeTimer := some (now + p), idleTimer := none }
    | .established => if l.st = .handshake then { l with st := .established } else l
    | .authed now idle => { l with idleTimer := some (now + idle) }
    | .timeout now => fireClose (fireIdle l now) now
    | .poll => if l.error then { l with error := false, lost := l.lost + 1 } else l
    | _ => l := by
  have hd := not_drained_of_open ho
  have hcl : l.st ≠ .closed := fun h => by rw [h] at ho; cases ho
  have c1 : St.closed.isClosed = true := rfl
  have c2 : St.draining.isClosed = true := rfl
  have c3 : St.drained.isClosed = true := rfl
  cases e with
  | pktErr k now p sp => cases k <;> simp [step, afterPacket, ho, hd, stopTimers, c1, c2, c3]
  | pollTransmit => rw [step_pollTransmit]; cases hs : l.st <;> simp_all [transmitsClose, St.isClosed]
  | _ => simp [step, afterPacket, ho, hcl, stopTimers, c2]

theorem step_closed (hc : l.st.isClosed = true) (e : Ev) : step l e = match e with
    | .close _ _ => { l with localClose := true }
    | .pktErr .toClosed _ _ sp => { l with error := true, st := .closed, closeFlag := sp }
    | .pktErr .toDraining _ _ _ => { l with error := true, st := .draining }
    | .pktErr .toDrained _ _ _ =>
      if l.st = .drained then { l with error := true }
      else { l with error := true, st := .drained, closeTimer := none, drainedEv := l.drainedEv + 1 }
    | .closeFrameWhileClosed => if l.st = .closed then { l with st := .draining } else l
    | .timeout now => fireClose (fireIdle l now) now
    | .poll => if l.error then { l with error := false, lost := l.lost + 1 } else l
    | .pollTransmit => if transmitsClose l then { l with closeFlag := false } else l
    | _ => l := by
  have hh : l.st ≠ .handshake := fun h => by rw [h] at hc; cases hc
  cases e with
  | pktErr k now p sp =>
    cases k with
    | toDrained =>
      by_cases hd : l.st = .drained
      · have : { l with error := true, st := .drained } = { l with error := true } := by rw [← hd]
        simp [step, afterPacket, hd, this, show St.drained.isClosed = true from rfl]
      · simp [step, afterPacket, hc, hd]
    | _ => simp [step, afterPacket, hc]
  | pollTransmit => exact step_pollTransmit
  | closeFrameWhileClosed => by_cases hs : l.st = .closed <;> simp [step, afterPacket, hs]
  | _ => simp [step, hc, hh]

theorem fireIdle_cases {P : L → Prop} (h0 : (∀ t, l.idleTimer = some t → now < t) → P l)
    (h1 : ∀ t, l.idleTimer = some t → t ≤ now →
      P { l with closeTimer := none, idleTimer := none, error := true, st := .drained, drainedEv := l.drainedEv + 1 }) :
    P (fireIdle l now) := by
  unfold fireIdle
  cases ht : l.idleTimer with
  | none => exact h0 fun t h => by rw [ht] at h; cases h
  | some t =>
    exact iteInduction (fun hn => h1 t ht hn) fun hn => h0 fun t' h => by rw [ht] at h; cases h; exact Nat.not_le.1 hn

theorem fireClose_cases {P : L → Prop} (h0 : (∀ t, l.closeTimer = some t → now < t) → P l)
    (h1 : ∀ t, l.closeTimer = some t → t ≤ now →
      P { l with closeTimer := none, st := .drained, drainedEv := l.drainedEv + 1 }) : P (fireClose l now) := by
  unfold fireClose
  cases ht : l.closeTimer with
  | none => exact h0 fun t h => by rw [ht] at h; cases h
  | some t =>
    exact iteInduction (fun hn => h1 t ht hn) fun hn => h0 fun t' h => by rw [ht] at h; cases h; exact Nat.not_le.1 hn

theorem fireIdle_future (l : L) (now : Nat) (hi : ∀ t, l.idleTimer = some t → now < t) : fireIdle l now = l :=
  fireIdle_cases (P := fun l' => l' = l) (fun _ => rfl) fun t ht hn => absurd hn (Nat.not_le.2 (hi t ht))

/-- Servicing the timers fires at most one of them, whatever the state: the idle timer, when it fires, stops the close timer. -/
theorem timeout_cases {P : L → Prop} (l : L) (now : Nat)
    (quiet : (∀ t, l.idleTimer = some t → now < t) → (∀ t, l.closeTimer = some t → now < t) → P l)
    (idle : ∀ t, l.idleTimer = some t → t ≤ now →
      P { l with closeTimer := none, idleTimer := none, error := true, st := .drained, drainedEv := l.drainedEv + 1 })
    (close : (∀ t, l.idleTimer = some t → now < t) → ∀ t, l.closeTimer = some t → t ≤ now →
      P { l with closeTimer := none, st := .drained, drainedEv := l.drainedEv + 1 }) :
    P (step l (.timeout now)) :=
  fireIdle_cases (P := fun l' => P (fireClose l' now)) (fun hi => fireClose_cases (quiet hi) (close hi)) idle

/-- a timer that is never armed in regime `b` and is armed now: the regime is the other one -/
theorem regime_of_armed {x b : Bool} {o : Option Nat} {t : Nat} (h : x = b → o = none) (ht : o = some t) : x = !b :=
  Bool.eq_not_of_ne fun hx => by rw [h hx] at ht; cases ht

/-- the regime (open; closed or draining; drained) determines the timers and the notification count -/
structure Inv (l : L) : Prop where
  drainedTimers : l.st = .drained → l.closeTimer = none ∧ l.idleTimer = none
  closedNoIdle : l.st.isClosed = true → l.idleTimer = none
  drainedCount : l.drainedEv = if l.st = .drained then 1 else 0
  closingHasTimer : (l.st = .closed ∨ l.st = .draining) → l.closeTimer.isSome = true
  openNoCloseTimer : l.st.isClosed = false → l.closeTimer = none

theorem Inv.of_open (ho : l.st.isClosed = false) (hc : l.closeTimer = none) (hd : l.drainedEv = 0) : Inv l := by
  have hnd := not_drained_of_open ho
  refine ⟨fun h => absurd h hnd, fun h => ?_, by rw [hd, if_neg hnd], fun h => ?_, fun _ => hc⟩
  · rw [ho] at h; cases h
  · rw [closed_of_closing h] at ho; cases ho

theorem Inv.of_closing (hs : l.st = .closed ∨ l.st = .draining) (hi : l.idleTimer = none)
    (hc : l.closeTimer.isSome = true) (hd : l.drainedEv = 0) : Inv l := by
  have hnd : l.st ≠ .drained := by rcases hs with h | h <;> rw [h] <;> simp
  refine ⟨fun h => absurd h hnd, fun _ => hi, by rw [hd, if_neg hnd], fun _ => hc, fun h => ?_⟩
  rw [closed_of_closing hs] at h; cases h

theorem Inv.of_drained (hs : l.st = .drained) (hc : l.closeTimer = none) (hi : l.idleTimer = none)
    (hd : l.drainedEv = 1) : Inv l := by
  refine ⟨fun _ => ⟨hc, hi⟩, fun _ => hi, by rw [hd, if_pos hs], fun h => ?_, fun _ => hc⟩
  rw [hs] at h; simp at h

theorem Inv.drainedEv_zero (h : Inv l) (hnd : l.st ≠ .drained) : l.drainedEv = 0 := by
  rw [h.drainedCount, if_neg hnd]

theorem init_inv : Inv init := .of_open rfl rfl rfl

theorem step_inv (l : L) (e : Ev) (h : Inv l) (hd : l.st = .drained → e.isPacket = false) : Inv (step l e) := by
  have zero := h.drainedEv_zero
  have timeout : ∀ now, Inv (step l (.timeout now)) := fun now =>
    timeout_cases l now (fun _ _ => h)
      -- an armed idle timer means the connection is open, so this is its first `Drained`
      (fun t ht _ => .of_drained rfl rfl rfl
        (by rw [zero (not_drained_of_open (regime_of_armed h.closedNoIdle ht))]))
      -- an armed close timer means closed or draining
      fun _ t ht _ =>
        have hnd : l.st ≠ .drained := fun hd => by rw [(h.drainedTimers hd).1] at ht; cases ht
        .of_drained rfl rfl (h.closedNoIdle (regime_of_armed h.openNoCloseTimer ht)) (by rw [zero hnd])
  cases hc : l.st.isClosed with
  | false =>
    have z := zero (not_drained_of_open hc)
    rw [step_open hc]
    cases e with
    | close now p => exact .of_closing (.inl rfl) rfl rfl z
    | pktErr k now p sp =>
      cases k with
      | toClosed => exact .of_closing (.inl rfl) rfl rfl z
      | toDraining => exact .of_closing (.inr rfl) rfl rfl z
      | toDrained => exact .of_drained rfl rfl rfl (by rw [z])
    | peerClose _ _ | peerCloseEarly _ _ => exact .of_closing (.inr rfl) rfl rfl z
    | established => exact iteInduction (fun _ => .of_open rfl (h.openNoCloseTimer hc) z) fun _ => h
    | authed now idle => exact .of_open hc (h.openNoCloseTimer hc) z
    | timeout now => exact timeout now
    | poll => exact iteInduction (fun _ => { h with }) fun _ => h
    | _ => exact h
  | true =>
    -- a packet event finds the connection closed or draining, and leaves it so unless it drains it
    have pkt : e.isPacket = true → ∀ l' : L, (l'.st = .closed ∨ l'.st = .draining) →
        l'.closeTimer = l.closeTimer → l'.idleTimer = l.idleTimer → l'.drainedEv = l.drainedEv → Inv l' := by
      intro hp l' hs' hct hit hdr
      have hnd : l.st ≠ .drained := fun hs => by rw [hd hs] at hp; cases hp
      exact .of_closing hs' (hit ▸ h.closedNoIdle hc) (hct ▸ h.closingHasTimer (closing_of_closed hc hnd))
        (hdr ▸ zero hnd)
    rw [step_closed hc]
    cases e with
    | close now p => exact { h with }
    | pktErr k now p sp =>
      cases k with
      | toClosed => exact pkt rfl _ (.inl rfl) rfl rfl rfl
      | toDraining => exact pkt rfl _ (.inr rfl) rfl rfl rfl
      | toDrained =>
        exact iteInduction (fun hs => nomatch hd hs) fun hnd =>
          .of_drained rfl rfl (h.closedNoIdle hc) (by rw [zero hnd])
    | closeFrameWhileClosed => exact iteInduction (fun _ => pkt rfl _ (.inr rfl) rfl rfl rfl) fun _ => h
    | timeout now => exact timeout now
    | poll | pollTransmit => exact iteInduction (fun _ => { h with }) fun _ => h
    | _ => exact h

theorem run_inv (evs : List Ev) : ∀ l, Inv l → WD l evs → Inv (run l evs) := by
  induction evs with
  | nil => intro l h _; exact h
  | cons e rest ih => intro l h hw; exact ih _ (step_inv l e h hw.1) hw.2

def Closing (d : Nat) (l : L) : Prop :=
  l.st = .drained ∨ ((l.st = .closed ∨ l.st = .draining) ∧ l.closeTimer = some d)

theorem Closing.closed {d : Nat} (h : Closing d l) : l.st.isClosed = true := by
  rcases h with h | ⟨h, _⟩
  · rw [h]; rfl
  · exact closed_of_closing h

/-- needs no other invariant: whichever timer fires, the connection is drained -/
theorem step_closing (d : Nat) (l : L) (e : Ev) (hd : l.st = .drained → e.isPacket = false)
    (h : Closing d l) : Closing d (step l e) := by
  have hc := h.closed
  -- a packet event finds the connection closed or draining; it may move it between the two
  have pkt : e.isPacket = true → ∀ l' : L, (l'.st = .closed ∨ l'.st = .draining) → l'.closeTimer = l.closeTimer →
      Closing d l' := fun hp l' hs ht => by
    rcases h with h | ⟨_, h⟩
    · rw [hd h] at hp; cases hp
    · exact .inr ⟨hs, ht.trans h⟩
  rw [step_closed hc]
  cases e with
  | pktErr k now p sp =>
    cases k with
    | toClosed => exact pkt rfl _ (.inl rfl) rfl
    | toDraining => exact pkt rfl _ (.inr rfl) rfl
    | toDrained => exact iteInduction (fun hs => nomatch hd hs) fun _ => .inl rfl
  | closeFrameWhileClosed => exact iteInduction (fun _ => pkt rfl _ (.inr rfl) rfl) fun _ => h
  | timeout now => exact timeout_cases l now (fun _ _ => h) (fun _ _ _ => .inl rfl) fun _ _ _ _ => .inl rfl
  | poll | pollTransmit => exact iteInduction (fun _ => h) fun _ => h
  | _ => exact h

theorem run_closing (d : Nat) (evs : List Ev) : ∀ l, WD l evs → Closing d l → Closing d (run l evs) := by
  induction evs with
  | nil => intro l _ h; exact h
  | cons e rest ih => intro l hw h; exact ih _ hw.2 (step_closing d l e hw.1 h)

theorem timeout_drains (d now : Nat) (l : L) (h : Closing d l) (hn : d ≤ now) :
    (step l (.timeout now)).st = .drained :=
  timeout_cases (P := fun l' => l'.st = .drained) l now
    (fun _ hc => h.elim id fun ⟨_, ht⟩ => absurd hn (Nat.not_le.2 (hc d ht))) (fun _ _ _ => rfl) fun _ _ _ _ => rfl

theorem drained_absorbing (evs : List Ev) : ∀ l, WD l evs → l.st = .drained → (run l evs).st = .drained := by
  intro l hw hd
  -- drained is `Closing d` for every `d`, and a close timer cannot stand at two deadlines
  rcases run_closing 0 evs l hw (.inl hd) with h | ⟨_, h0⟩
  · exact h
  · rcases run_closing 1 evs l hw (.inl hd) with h | ⟨_, h1⟩
    · exact h
    · rw [h0] at h1; cases h1

/-- no packet error is processed while the connection is already closed -/
def NoLateErr : L → List Ev → Prop
  | _, [] => True
  | l, e :: rest => (match e with | .pktErr .. => l.st.isClosed = false | _ => True) ∧ NoLateErr (step l e) rest

def b2n (b : Bool) : Nat := if b then 1 else 0

/-- reports made + report pending ≤ 1, and nothing at all before the connection is closed -/
structure LostInv (l : L) : Prop where
  atMostOne : l.lost + b2n l.error ≤ 1
  openClean : l.st.isClosed = false → l.lost = 0 ∧ l.error = false
  closedNoIdle : l.st.isClosed = true → l.idleTimer = none
  openNoClose : l.st.isClosed = false → l.closeTimer = none

theorem LostInv.of_open (ho : l.st.isClosed = false) (hl : l.lost = 0) (he : l.error = false)
    (hc : l.closeTimer = none) : LostInv l :=
  ⟨by rw [hl, he]; decide, fun _ => ⟨hl, he⟩, fun h => (by rw [ho] at h; cases h), fun _ => hc⟩

theorem LostInv.of_closed (hc : l.st.isClosed = true) (h1 : l.lost + b2n l.error ≤ 1)
    (hi : l.idleTimer = none) : LostInv l :=
  ⟨h1, fun h => (by rw [hc] at h; cases h), fun _ => hi, fun h => (by rw [hc] at h; cases h)⟩

theorem init_lost : LostInv init := .of_open rfl rfl rfl rfl

theorem LostInv.first (h : LostInv l) (ho : l.st.isClosed = false) : l.lost + b2n true ≤ 1 := by
  rw [(h.openClean ho).1]; decide

/-- On a connection that has left the open states, with no late packet error, the reason is neither gained nor lost:
    a poll only moves it from `error` to `lost`. -/
theorem step_closed_tally {P : L → Prop} (l : L) (e : Ev) (hc : l.st.isClosed = true) (hi : l.idleTimer = none)
    (hg : match e with | .pktErr .. => l.st.isClosed = false | _ => True)
    (hP : ∀ l' : L, l'.st.isClosed = true → l'.idleTimer = none → l'.lost + b2n l'.error = l.lost + b2n l.error → P l') :
    P (step l e) := by
  have h := hP l hc hi rfl
  rw [step_closed hc]
  cases e with
  | close now p => exact hP _ hc hi rfl
  | pktErr k now p sp => have ho : l.st.isClosed = false := hg; rw [hc] at ho; cases ho
  | closeFrameWhileClosed => exact iteInduction (fun _ => hP _ rfl hi rfl) fun _ => h
  | timeout now =>
    exact timeout_cases l now (fun _ _ => h) (fun _ ht => by rw [hi] at ht; cases ht) fun _ _ _ _ => hP _ rfl hi rfl
  | poll => exact iteInduction (fun he => hP _ hc hi (by rw [he]; rfl)) fun _ => h
  | pollTransmit => exact iteInduction (fun _ => hP _ hc hi rfl) fun _ => h
  | _ => exact h

theorem step_lost (l : L) (e : Ev) (h : LostInv l)
    (hg : match e with | .pktErr .. => l.st.isClosed = false | _ => True) : LostInv (step l e) := by
  cases hc : l.st.isClosed with
  | false =>
    have first := h.first hc
    have ⟨hl, he⟩ := h.openClean hc
    have ht := h.openNoClose hc
    rw [step_open hc]
    cases e with
    | close now p => exact .of_closed rfl h.atMostOne rfl
    | pktErr k now p sp => cases k <;> exact .of_closed rfl first rfl
    | peerClose _ _ | peerCloseEarly _ _ => exact .of_closed rfl first rfl
    | established => exact iteInduction (fun _ => .of_open rfl hl he ht) fun _ => h
    | authed now idle => exact .of_open hc hl he ht
    | timeout now =>
      -- no close timer is armed, so only the idle timer can fire
      exact timeout_cases l now (fun _ _ => h) (fun _ _ _ => .of_closed rfl first rfl)
        fun _ _ ht' => by rw [ht] at ht'; cases ht'
    | poll => exact iteInduction (fun he' => by rw [he] at he'; cases he') fun _ => h
    | _ => exact h
  | true =>
    exact step_closed_tally l e hc (h.closedNoIdle hc) hg fun l' h1 h2 h3 =>
      .of_closed h1 (Nat.le_trans (Nat.le_of_eq h3) h.atMostOne) h2

theorem run_lost (evs : List Ev) : ∀ l, LostInv l → NoLateErr l evs → LostInv (run l evs) := by
  induction evs with
  | nil => intro l h _; exact h
  | cons e rest ih => intro l h hn; exact ih _ (step_lost l e h hn.1) hn.2

/-- after a local close of an open connection nothing is ever reported, as long as no packet error is processed -/
structure Silent (l : L) : Prop where
  closed : l.st.isClosed = true
  quiet : l.lost = 0 ∧ l.error = false
  noIdle : l.idleTimer = none

theorem step_silent (l : L) (e : Ev) (h : Silent l)
    (hg : match e with | .pktErr .. => l.st.isClosed = false | _ => True) : Silent (step l e) := by
  refine step_closed_tally l e h.closed h.noIdle hg fun l' h1 h2 h3 => ?_
  rw [h.quiet.1, h.quiet.2] at h3
  have h0 := Nat.eq_zero_of_add_eq_zero h3
  refine ⟨h1, ⟨h0.1, ?_⟩, h2⟩
  cases he : l'.error with
  | false => rfl
  | true => rw [he] at h0; cases h0.2

theorem run_silent (evs : List Ev) : ∀ l, Silent l → NoLateErr l evs → Silent (run l evs) := by
  induction evs with
  | nil => intro l h _; exact h
  | cons e rest ih => intro l h hn; exact ih _ (step_silent l e h hn.1) hn.2

end QM.Life
