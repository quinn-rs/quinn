import QuinnModel.Lemmas.StreamsFrame
/-
What whole operations do, whatever the property: the transmit, poll and retransmit loops `Shuffle`; the
application's calls on one sending half as case lemmas (`finish_inv`, `sendReset_cases`, `write_cases`, `open_cases`) and as `Touch`
(`touch_*`), with what `Send::write` itself answers (`Send.write_ok`, `Send.write_err`); the reader's calls as case
lemmas (`read_inv`, `stop_inv`, `recvReceivedReset_inv`, with the abstraction `absRecv` of a receiving half they speak of).

The proofs follow the branches of each definition in the order it tests them (`fun_cases`,
`fun_induction` for the loops); branches ending in `none` (the implementation panics) fall to the
final `contradiction`.
-/
namespace QM.Streams

theorem ackLoop_offset : ∀ (fuel : Nat) {b b' : SendBuf}, SendBuf.ackLoop fuel b = some b' → b'.offset = b.offset := by
  intro fuel b b'
  fun_induction SendBuf.ackLoop fuel b <;> intro h
  case case1 | case3 | case6 => cases h; rfl
  case case5 ih => exact ih h
  all_goals contradiction

theorem SendBuf.ack_offset {b b' : SendBuf} {a e : Nat} (h : b.ack a e = some b') : b'.offset = b.offset := by
  revert h
  fun_cases SendBuf.ack b a e <;> intro h
  · contradiction
  · exact (ackLoop_offset _ h :)

theorem SendBuf.pollTransmit_offset {b b' : SendBuf} {m a e : Nat} {enc : Bool}
    (h : b.pollTransmit m = some (a, e, enc, b')) : b'.offset = b.offset := by
  revert h
  fun_cases SendBuf.pollTransmit b m <;> intro h
  case case2 | case5 => simp only [Option.some.injEq, Prod.mk.injEq] at h; rw [← h.2.2.2]
  all_goals contradiction

theorem SendBuf.retransmit_offset {b b' : SendBuf} {a e : Nat} (h : b.retransmit a e = some b') :
    b'.offset = b.offset := by
  revert h
  fun_cases SendBuf.retransmit b a e <;> intro h
  · cases h; rfl
  · contradiction

theorem SendBuf.retransmitAllFor0rtt_offset {b b' : SendBuf} (h : b.retransmitAllFor0rtt = some b') :
    b'.offset = b.offset := by
  revert h
  fun_cases SendBuf.retransmitAllFor0rtt b <;> intro h
  · cases h; rfl
  · contradiction

theorem shuffle_retransmit {s s' : State} {id a e : Nat} {fin : Bool}
    (h : s.retransmit id a e fin = some s') : Shuffle s s' := by
  revert h
  fun_cases State.retransmit s id a e fin <;> intro h
  case case2 hx _ _ hp => cases h; exact .put hx rfl ⟨rfl, rfl, rfl, SendBuf.retransmit_offset hp⟩
  case case3 => cases h; exact .refl _
  all_goals contradiction

theorem shuffle_rtx0Loop (dir : Dir) : ∀ (n : Nat) {s s' : State} {i : Nat},
    s.rtx0Loop dir n i = some s' → Shuffle s s' := by
  intro n s s' i
  fun_induction State.rtx0Loop s dir n i <;> intro h
  case case1 => cases h; exact .refl _
  case case2 ih | case5 ih => exact ih h
  case case4 hx _ _ _ hp ih =>
    exact (ih h).after (.put hx rfl ⟨rfl, rfl, rfl, SendBuf.retransmitAllFor0rtt_offset hp⟩)
  all_goals contradiction

theorem shuffle_retransmitAllFor0rtt {s s' : State} (h : s.retransmitAllFor0rtt = some s') : Shuffle s s' := by
  revert h
  fun_cases State.retransmitAllFor0rtt s <;> intro h
  · contradiction
  next h1 => exact (shuffle_rtx0Loop _ _ h).after (shuffle_rtx0Loop _ _ h1)

theorem length_dropLast_lt {α} (l : List α) (x : α) (h : l.getLast? = some x) : l.dropLast.length < l.length := by
  obtain ⟨ys, rfl⟩ := List.getLast?_eq_some_iff.mp h
  rw [List.dropLast_concat, List.length_append]; exact Nat.lt_succ_self _

/-- `e` is taken off the list of connection-blocked streams, which only shrinks -/
theorem shuffle_pollBlocked : ∀ (fuel : Nat) {s s' : State} {e : Option Event},
    s.pollBlocked fuel = some (s', e) → Shuffle s s' ∧ (∀ ev, e = some ev → ∃ id, ev = .writable id) ∧
      s'.connectionBlocked.length + (if e.isSome then 1 else 0) ≤ s.connectionBlocked.length := by
  intro fuel s s' e
  fun_induction State.pollBlocked s fuel <;> intro h
  case case1 | case2 => cases h; exact ⟨.refl _, nofun, Nat.le_refl _⟩
  case case4 hx _ _ _ _ =>
    obtain ⟨rfl, rfl⟩ := Prod.mk.inj (Option.some.inj h)
    exact ⟨.put hx rfl ⟨rfl, rfl, rfl, rfl⟩, fun _ he => ⟨_, (Option.some.inj he).symm⟩, length_dropLast_lt _ _ ‹_›⟩
  case case5 hx _ _ _ _ ih =>
    exact ⟨(ih h).1.after (.put hx rfl ⟨rfl, rfl, rfl, rfl⟩), (ih h).2.1,
      Nat.le_trans (ih h).2.2 (Nat.le_of_lt (length_dropLast_lt _ _ ‹_›))⟩
  case case6 ih =>
    exact ⟨(ih h).1.after (.of_queues rfl), (ih h).2.1,
      Nat.le_trans (ih h).2.2 (Nat.le_of_lt (length_dropLast_lt _ _ ‹_›))⟩
  all_goals contradiction

/-- `poll` shuffles (the connection-blocked list) and then takes a flag or an event off -/
theorem poll_shuffle {s s' : State} {e : Option Event} (h : s.poll = some (s', e)) :
    ∃ s1, Shuffle s s1 ∧ s' = { s1 with opened := s'.opened, events := s'.events } := by
  have hb : ∀ {c s1 e1}, s.pollBlockedIf c = some (s1, e1) → Shuffle s s1 := by
    intro c s1 e1
    fun_cases State.pollBlockedIf s c <;> intro hp
    · exact (shuffle_pollBlocked _ hp).1
    · cases hp; exact .refl _
  revert h
  fun_cases State.poll s <;> intro h
  case case1 | case2 => cases h; exact ⟨s, .refl _, rfl⟩
  case case5 | case6 => cases h; exact ⟨_, hb ‹_›, rfl⟩
  case case7 hp _ _ _ => cases h; exact ⟨_, hb hp, rfl⟩
  all_goals contradiction

theorem shuffle_writeStreamFrames (maxBuf : Nat) (fair : Bool) : ∀ (fuel : Nat) {s s' : State}
    {bl bl' : Nat} {acc fs : List SentFrame},
    s.writeStreamFrames maxBuf fair fuel bl acc = some (s', bl', fs) → Shuffle s s' := by
  intro fuel s s' bl bl' acc fs
  fun_induction State.writeStreamFrames s maxBuf fair fuel bl acc <;> intro h
  case case1 | case2 | case3 => cases h; exact .refl _
  case case4 ih | case11 ih => exact (ih h).after (.of_queues rfl)
  case case10 ih =>
    have hx : Map.find? _ _ = some (some _) := ‹_›
    have hp : SendBuf.pollTransmit _ _ = _ := ‹_›
    exact (ih h).after (.put hx rfl ⟨rfl, rfl, rfl, SendBuf.pollTransmit_offset hp⟩)
  all_goals contradiction

theorem sendReset_cases {s s' : State} {id code : Nat} {b : Bool} (h : s.reset id code = some (s', b)) :
    (s.getOrInsertSend id = none ∧ s' = s ∧ b = false) ∨
    ∃ x s1, s.getOrInsertSend id = some (x, s1) ∧
      ((x.state = .resetSent ∧ s' = s1 ∧ b = false) ∨
       ∃ u ua, x.state ≠ .resetSent ∧ x.pending.unacked = some u ∧ subU s1.unackedData u = some ua ∧ b = true ∧
         s' = { (s1.putSend id x.reset) with
                unackedData := ua
                rtx := { s1.rtx with resetStream := s1.rtx.resetStream ++ [(id, code)] } }) := by
  revert h
  fun_cases State.reset s id code <;> intro h
  case case1 => cases h; exact Or.inl ⟨‹_›, rfl, rfl⟩
  case case2 => cases h; exact Or.inr ⟨_, _, ‹_›, Or.inl ⟨‹_›, rfl, rfl⟩⟩
  case case5 => cases h; exact Or.inr ⟨_, _, ‹_›, Or.inr ⟨_, _, ‹_›, ‹_›, ‹_›, rfl, rfl⟩⟩
  all_goals contradiction

theorem receivedStopSending_cases (s : State) (id code : Nat) :
    (s.getOrInsertSend id = none ∧ s.receivedStopSending id code = s) ∨
    ∃ x s1, s.getOrInsertSend id = some (x, s1) ∧
      ((x.stopReason ≠ none ∧ s.receivedStopSending id code = s1) ∨
       (x.stopReason = none ∧ s.receivedStopSending id code =
          ({ (s1.putSend id { x with stopReason := some code }) with
             events := s1.events ++ [Event.stopped id code] }).onStreamFrame false id)) := by
  unfold State.receivedStopSending
  cases hg : s.getOrInsertSend id with
  | none => exact Or.inl ⟨rfl, rfl⟩
  | some p =>
    refine Or.inr ⟨p.1, p.2, rfl, ?_⟩
    cases hsr : p.1.stopReason with
    | some c => exact Or.inl ⟨nofun, by simp only [Send.tryStop, hsr, Bool.false_eq_true, ↓reduceIte]⟩
    | none => exact Or.inr ⟨rfl, by simp only [Send.tryStop, hsr, ↓reduceIte]⟩

theorem getOrInsertSend_unacked {s s1 : State} {id : Nat} {x : Send}
    (h : s.getOrInsertSend id = some (x, s1)) : s1.unackedData = s.unackedData := by
  rcases getOrInsertSend_eq h with ⟨_, rfl⟩ | ⟨_, _, rfl⟩ <;> rfl

theorem reset_restores_window {s s' : State} {id code : Nat} (h : s.reset id code = some (s', true)) :
    ∃ x s1 u, s.getOrInsertSend id = some (x, s1) ∧ x.pending.unacked = some u ∧
      s'.unackedData + u = s.unackedData := by
  rcases sendReset_cases h with ⟨_, _, hb⟩ | ⟨x, s1, hg, ⟨_, _, hb⟩ | ⟨u, ua, _, hu, hsub, _, rfl⟩⟩
  · cases hb
  · cases hb
  refine ⟨x, s1, u, hg, hu, ?_⟩
  rw [← getOrInsertSend_unacked hg]
  obtain ⟨rfl, hle⟩ := subU_eq hsub
  show s1.unackedData - u + u = _; omega

theorem writeLimit_some {s : State} {l : Nat} (h : s.writeLimit = some l) :
    s.dataSent ≤ s.maxData ∧ l = Gen.writeLimit s.maxData s.dataSent s.sendWindow s.unackedData := by
  unfold State.writeLimit at h
  split at h
  · cases h; exact ⟨‹_›, rfl⟩
  · contradiction

theorem write_cases {s s' : State} {id n : Nat} {r : Except WriteErr Nat} (h : s.write id n = some (s', r)) :
    (s.connClosed = true ∧ s' = s ∧ r = .error .blocked) ∨
    ∃ limit, s.connClosed = false ∧ s.writeLimit = some limit ∧
     ((s.getOrInsertSend id = none ∧ s' = s ∧ r = .error .closedStream) ∨
      ∃ x s1, s.getOrInsertSend id = some (x, s1) ∧
       ((x.closedFirst = true ∧ s' = s1 ∧ r = .error .closedStream) ∨
        (x.closedFirst = false ∧ ∃ c, x.stoppedFirst = some c ∧ s' = s1 ∧ r = .error (.stopped c)) ∨
        (x.closedFirst = false ∧ x.stoppedFirst = none ∧ limit = 0 ∧ r = .error .blocked ∧
          ((x.connectionBlocked = true ∧ s' = s1) ∨
           (x.connectionBlocked = false ∧
            s' = { (s1.putSend id { x with connectionBlocked := true }) with
                   connectionBlocked := s1.connectionBlocked ++ [id] }))) ∨
        (x.closedFirst = false ∧ x.stoppedFirst = none ∧ limit ≠ 0 ∧
          ((∃ e, x.write n limit = some (.error e) ∧ s' = s1 ∧ r = .error e) ∨
           (∃ k x' q, x.write n limit = some (.ok (k, x')) ∧ r = .ok k ∧
              s' = { s1 with send := s1.send.set id (some x'), dataSent := s1.dataSent + k,
                             unackedData := s1.unackedData + k, pending := q }))))) := by
  revert h
  fun_cases State.write s id n <;> intro h
  case case1 => cases h; exact Or.inl ⟨‹_›, rfl, rfl⟩
  case case2 | case8 => contradiction
  all_goals
    have hc : s.connClosed = false := Bool.eq_false_iff.mpr ‹_›
    refine Or.inr ⟨_, hc, ‹_›, ?_⟩
  case case3 => cases h; exact Or.inl ⟨‹_›, rfl, rfl⟩
  all_goals refine Or.inr ⟨_, _, ‹_›, ?_⟩
  case case4 => cases h; exact Or.inl ⟨‹_›, rfl, rfl⟩
  all_goals
    have hcf : Send.closedFirst _ = false := Bool.eq_false_iff.mpr ‹_›
  case case5 => cases h; exact Or.inr (Or.inl ⟨hcf, _, ‹_›, rfl, rfl⟩)
  case case6 hb _ =>
    cases h
    exact Or.inr (Or.inr (Or.inl ⟨hcf, ‹_›, rfl, rfl, Or.inr ⟨by simpa using hb, rfl⟩⟩))
  case case7 hb _ =>
    cases h
    exact Or.inr (Or.inr (Or.inl ⟨hcf, ‹_›, rfl, rfl, Or.inl ⟨by simpa using hb, rfl⟩⟩))
  case case9 => cases h; exact Or.inr (Or.inr (Or.inr ⟨hcf, ‹_›, ‹_›, Or.inl ⟨_, ‹_›, rfl, rfl⟩⟩))
  case case10 wp _ _ _ _ _ =>
    obtain ⟨rfl, rfl⟩ := Prod.mk.inj (Option.some.inj h)
    refine Or.inr (Or.inr (Or.inr ⟨hcf, ‹_›, ‹_›, Or.inr ?_⟩))
    by_cases hp : (!wp) = true
    · exact ⟨_, _, _, ‹_›, rfl, if_pos hp⟩
    · exact ⟨_, _, _, ‹_›, rfl, if_neg hp⟩

/-- `q`: the stream is entered in the pending queue unless it is there already -/
theorem finish_inv {s s' : State} {id : Nat} {r : Except WriteErr Unit} (h : s.finish id = (s', r)) :
    (s.getOrInsertSend id = none ∧ s' = s ∧ r = .error .closedStream) ∨
    ∃ x s1, s.getOrInsertSend id = some (x, s1) ∧
      ((∃ e, x.finish = .error e ∧ s' = s1 ∧ r = .error e) ∨
       ∃ x' q, x.finish = .ok x' ∧ s' = { (s1.putSend id x') with pending := q } ∧ r = .ok ()) := by
  revert h
  fun_cases State.finish s id <;> intro h <;> cases h
  · exact Or.inl ⟨‹_›, rfl, rfl⟩
  · exact Or.inr ⟨_, _, ‹_›, Or.inl ⟨_, ‹_›, rfl, rfl⟩⟩
  · refine Or.inr ⟨_, _, ‹_›, Or.inr ?_⟩
    split <;> exact ⟨_, _, ‹_›, rfl, rfl⟩

theorem touch_finish {s s' : State} {id : Nat} {r : Except WriteErr Unit} (h : s.finish id = (s', r)) :
    Touch (fun x x' => x.finish = .ok x') s s' id := by
  rcases finish_inv h with ⟨_, rfl, _⟩ | ⟨x, s1, hg, ⟨_, _, rfl, _⟩ | ⟨x', q, hf, rfl, _⟩⟩
  · exact .inl rfl
  · exact .inr ⟨_, _, hg, .inl rfl⟩
  · exact .inr ⟨_, _, hg, .inr ⟨_, hf, rfl⟩⟩

theorem touch_reset {s s' : State} {id code : Nat} {b : Bool} (h : s.reset id code = some (s', b)) :
    Touch (fun x x' => x' = x.reset) s s' id := by
  rcases sendReset_cases h with ⟨_, rfl, _⟩ | ⟨x, s1, hg, ⟨_, rfl, _⟩ | ⟨u, ua, _, _, _, _, rfl⟩⟩
  · exact .inl rfl
  · exact .inr ⟨_, _, hg, .inl rfl⟩
  · exact .inr ⟨_, _, hg, .inr ⟨_, rfl, rfl⟩⟩

theorem touch_setPriority {s s' : State} {id : Nat} {p : Int} {b : Bool} (h : s.setPriority id p = (s', b)) :
    Touch (fun x x' => x' = { x with priority := p }) s s' id := by
  revert h
  fun_cases State.setPriority s id p <;> intro h
  · cases h; exact .inl rfl
  next hg => cases h; exact .inr ⟨_, _, hg, .inr ⟨_, rfl, rfl⟩⟩

/-- a refused `write`; an accepted one also moves `data_sent` (`write_ok_put`) -/
theorem touch_write_err {s s' : State} {id n : Nat} {e : WriteErr} (h : s.write id n = some (s', .error e)) :
    Touch (fun x x' => x' = { x with connectionBlocked := true }) s s' id := by
  rcases write_cases h with ⟨_, rfl, _⟩ | ⟨limit, _, _, ⟨_, rfl, _⟩ | ⟨x, s1, hg, hb⟩⟩
  · exact .inl rfl
  · exact .inl rfl
  refine .inr ⟨x, s1, hg, ?_⟩
  rcases hb with ⟨_, rfl, _⟩ | ⟨_, _, _, rfl, _⟩ | ⟨_, _, _, _, ⟨_, rfl⟩ | ⟨_, rfl⟩⟩ |
    ⟨_, _, _, ⟨_, _, rfl, _⟩ | ⟨_, _, _, _, hr, _⟩⟩
  · exact .inl rfl
  · exact .inl rfl
  · exact .inl rfl
  · exact .inr ⟨_, rfl, rfl⟩
  · exact .inl rfl
  · cases hr

/-- an accepted `write`: there was connection-level room `l`, `Send::write` accepted `k` bytes under it, and beside the
    half and the queue only the two counters move, by `k` -/
theorem write_ok_put {s s' : State} {id n k : Nat} (h : s.write id n = some (s', .ok k)) :
    ∃ x s1 x' l, s.writeLimit = some l ∧ l ≠ 0 ∧ s.getOrInsertSend id = some (x, s1) ∧
      x.write n l = some (.ok (k, x')) ∧
      s' = { s1 with send := s1.send.set id (some x'), dataSent := s1.dataSent + k, unackedData := s1.unackedData + k,
                     pending := s'.pending } := by
  rcases write_cases h with ⟨_, _, hr⟩ | ⟨limit, _, hl, ⟨_, _, hr⟩ | ⟨x, s1, hg, hb⟩⟩
  · cases hr
  · cases hr
  rcases hb with ⟨_, _, hr⟩ | ⟨_, _, _, _, hr⟩ | ⟨_, _, _, hr, _⟩ | ⟨_, _, h0, ⟨_, _, _, hr⟩ | ⟨k, x', q, hw, hr, rfl⟩⟩
  any_goals cases hr
  exact ⟨x, s1, x', limit, hl, h0, hg, hw, rfl⟩

theorem open_cases {s s' : State} {d : Dir} {r : Option Nat} (h : s.open_ d = some (s', r)) :
    (s.connClosed = true ∧ s' = s ∧ r = none) ∨
    (s.connClosed = false ∧ s.max.get d ≤ s.next.get d ∧ r = none ∧
      s' = { s with streamsBlocked := s.streamsBlocked.set d true }) ∨
    (s.connClosed = false ∧ s.next.get d < s.max.get d ∧ r = some (sidNew s.side d (s.next.get d)) ∧
      ∃ s2, ({ s with next := s.next.set d (s.next.get d + 1) } : State).insert false
          (sidNew s.side d (s.next.get d)) = some s2 ∧
        s' = { s2 with sendStreams := s2.sendStreams + 1 }) := by
  have hx : Gen.openExhausted (s.next.get d) (s.max.get d) = decide (s.next.get d ≥ s.max.get d) := rfl
  revert h
  fun_cases State.open_ s d <;> intro h
  case case1 => cases h; exact Or.inl ⟨‹_›, rfl, rfl⟩
  case case2 hc hex =>
    cases h
    exact Or.inr (Or.inl ⟨Bool.eq_false_iff.mpr hc, of_decide_eq_true (hx ▸ hex), rfl, rfl⟩)
  case case3 => contradiction
  case case4 hc hex _ id s2 hins =>
    have hid : id = sidNew s.side d (s.next.get d) := by
      simp +zetaDelta only [Two.get_set, ↓reduceIte, Nat.add_sub_cancel]
    obtain ⟨rfl, rfl⟩ := Prod.mk.inj (Option.some.inj h)
    exact Or.inr (Or.inr ⟨Bool.eq_false_iff.mpr hc, Nat.lt_of_not_le fun hle => hex (hx ▸ decide_eq_true hle),
      congrArg some hid, s2, hid ▸ hins, rfl⟩)

theorem open_none_iff {s s' : State} {d : Dir} {r : Option Nat} (h : s.open_ d = some (s', r)) :
    r = none ↔ (s.connClosed = true ∨ s.max.get d ≤ s.next.get d) := by
  rcases open_cases h with ⟨hc, _, rfl⟩ | ⟨_, hle, rfl, _⟩ | ⟨hc, hlt, rfl, _⟩
  · simp [hc]
  · simp [hle]
  · simp [hc]; omega

theorem find_putSend_self {s : State} {id : Nat} {x x' : Send} (hx : s.send.find? id = some (some x)) :
    (s.putSend id x').send.find? id = some (some x') := by
  simp only [State.putSend]; exact Map.find?_set_self _ _ _ _ hx

/-- `Send::write` that accepts `k` of `n` bytes under the connection-level `limit`: there was room, `k` is the minimum
    the code computes, and only the buffer moves -/
theorem Send.write_ok {x x' : Send} {n limit k : Nat} (h : x.write n limit = some (.ok (k, x'))) :
    0 < x.maxData - x.pending.offset ∧ k = Nat.min n (Nat.min limit (x.maxData - x.pending.offset)) ∧
    x' = { x with pending := x.pending.write k } := by
  revert h
  fun_cases Send.write x n limit <;> intro h
  case case4 hb _ =>
    obtain ⟨rfl, rfl⟩ := Prod.mk.inj (Except.ok.inj (Option.some.inj h))
    exact ⟨Nat.pos_of_ne_zero hb, rfl, rfl⟩
  case case5 => contradiction
  all_goals cases h

theorem Send.write_err {x : Send} {n limit : Nat} {e : WriteErr} (h : x.write n limit = some (.error e)) :
    (x.isWritable = false ∧ e = .closedStream) ∨
    (x.isWritable = true ∧ ∃ c, x.stopReason = some c ∧ e = .stopped c) ∨
    (x.isWritable = true ∧ x.stopReason = none ∧ x.maxData - x.pending.offset = 0 ∧ e = .blocked) := by
  revert h
  fun_cases Send.write x n limit <;> intro h
  case case1 hw => cases h; exact Or.inl ⟨by simpa using hw, rfl⟩
  case case2 hw c hsr => cases h; exact Or.inr (Or.inl ⟨by simpa using hw, c, hsr, rfl⟩)
  case case3 hw hsr _ _ hb => cases h; exact Or.inr (Or.inr ⟨by simpa using hw, hsr, hb, rfl⟩)
  case case4 => obtain h := Option.some.inj h; cases h
  case case5 => contradiction

theorem stoppedFirst_some {x : Send} {c : Nat} :
    x.stoppedFirst = some c ↔ (x.isWritable = true ∧ x.stopReason = some c) := by
  unfold Send.stoppedFirst
  simp only [Gen.writeStoppedFirst, Bool.true_and]
  constructor
  · intro h; split at h
    · exact ⟨‹_›, h⟩
    · contradiction
  · intro ⟨h1, h2⟩; simp [h1, h2]

theorem stoppedFirst_none {x : Send} :
    x.stoppedFirst = none ↔ (x.isWritable = false ∨ x.stopReason = none) := by
  unfold Send.stoppedFirst
  simp only [Gen.writeStoppedFirst, Bool.true_and]
  cases x.isWritable <;> simp

theorem closedFirst_iff {x : Send} : x.closedFirst = true ↔ x.isWritable = false := by
  unfold Send.closedFirst
  simp [Gen.writeClosedFirst]

/-- in the order of the code; `k` bytes are delivered, `rs1` is the half after that -/
theorem read_inv {s s' : State} {id budget : Nat} {res : ReadRes} (h : s.read id budget = some (s', res)) :
    (s.getOrInsertRecv id = none ∧ s' = s ∧ res = .closedStream) ∨
    ∃ rs s1, s.getOrInsertRecv id = some (rs, s1) ∧
      ((rs.stopped = true ∧ s' = s1 ∧ res = .closedStream) ∨
       ∃ k rs1 e fr s3 s4 t0 s5 t01 s6 t2, rs.stopped = false ∧ k = Nat.min budget rs.assembler.available ∧
        rs1 = { rs with assembler := rs.assembler.consume k } ∧ rs1.readEnd k budget = some (e, fr) ∧
        State.freeIf { s1 with recv := s1.recv.erase id } fr id = some s3 ∧
        s3.queueMaxStreamId = some (s4, t0) ∧ s4.finalizeReadable id rs1 fr t0 = some (s5, t01) ∧
        s5.addReadCredits k = some (s6, t2) ∧
        s' = { s6 with rtx := { s6.rtx with maxData := s6.rtx.maxData || t2 } } ∧ res = .ok k e (t01 || t2)) := by
  revert h
  fun_cases State.read s id budget <;> intro h <;> cases h
  · exact Or.inl ⟨‹_›, rfl, rfl⟩
  · exact Or.inr ⟨_, _, ‹_›, Or.inl ⟨‹_›, rfl, rfl⟩⟩
  · exact Or.inr ⟨_, _, ‹_›, Or.inr ⟨_, _, _, _, _, _, _, _, _, _, _, eq_false_of_ne_true ‹_›, rfl, rfl, ‹_›, ‹_›, ‹_›,
      ‹_›, ‹_›, rfl, rfl⟩⟩

theorem Recv.stop_stopped {rs : Recv} {o : Option (Nat × Bool × Recv)} (h : rs.stop = some o) :
    rs.stopped = o.isNone := by
  revert h
  fun_cases Recv.stop rs <;> intro h <;> cases h
  · exact ‹_›
  · exact eq_false_of_ne_true ‹_›

theorem stop_inv {s s' : State} {id code : Nat} {b : Bool} (h : s.stop id code = some (s', b)) :
    (s.getOrInsertRecv id = none ∧ s' = s ∧ b = false) ∨
    ∃ rs s1, s.getOrInsertRecv id = some (rs, s1) ∧
      ((rs.stopped = true ∧ s' = s1 ∧ b = false) ∨
       ∃ credits ss rs' s4 s4q t, rs.stopped = false ∧
        ((s1.putRecv id rs').queueStopSending ss id code).freeRecvIf (!rs'.finalOffsetUnknown) id = some s4 ∧
        s4.queueMaxIf (!rs'.finalOffsetUnknown) = some s4q ∧ s4q.creditAndQueue credits = some (s', t) ∧
        b = true) := by
  revert h
  fun_cases State.stop s id code <;> intro h <;> cases h
  · exact Or.inl ⟨‹_›, rfl, rfl⟩
  · exact Or.inr ⟨_, _, ‹_›, Or.inl ⟨Recv.stop_stopped ‹_›, rfl, rfl⟩⟩
  · exact Or.inr ⟨_, _, ‹_›, Or.inr ⟨_, _, _, _, _, _, Recv.stop_stopped ‹_›, ‹_›, ‹_›, ‹_›, rfl⟩⟩

inductive RecvHalf
  /-- not (or no longer) in the receive map -/
  | gone
  /-- receiving; `sizeKnown` once the FIN arrived -/
  | open_ (sizeKnown : Bool)
  /-- RESET_STREAM arrived, the application has not seen it yet -/
  | resetRecvd (code : Nat)
  /-- stopped by the application, kept only for flow-control accounting -/
  | stopped
deriving DecidableEq, Repr

def RecvHalf.ofRecv (r : Recv) : RecvHalf :=
  if r.stopped then .stopped
  else match r.state with
    | .recv sz => .open_ sz.isSome
    | .resetRecvd _ c => .resetRecvd c

def absRecv (s : State) (id : Nat) : RecvHalf :=
  match s.recv.find? id with
  | none => .gone
  | some none => .open_ false
  | some (some r) => RecvHalf.ofRecv r

theorem ofRecv_resetCode {rs : Recv} (hst : ¬ rs.stopped = true) :
    match rs.resetCode with
    | none => ∃ b, RecvHalf.ofRecv rs = .open_ b
    | some c => RecvHalf.ofRecv rs = .resetRecvd c := by
  unfold RecvHalf.ofRecv Recv.resetCode
  rw [if_neg hst]
  cases rs.state with
  | recv sz => exact ⟨_, rfl⟩
  | resetRecvd sz c => rfl

theorem recvReceivedReset_inv {s s' : State} {id : Nat} {r : Option (Option Nat)}
    (h : s.recvReceivedReset id = some (s', r)) :
    (s' = s ∧ (∀ c, r ≠ some (some c)) ∧
      r = match absRecv s id with
        | .gone | .stopped => none
        | .open_ _ => some none
        | .resetRecvd c => some (some c)) ∨
    ∃ c rs s1 t, absRecv s id = .resetRecvd c ∧ s.recv.find? id = some (some rs) ∧
      ({ s with recv := s.recv.erase id } : State).streamRecvFreed id = some s1 ∧
      s1.queueMaxStreamId = some (s', t) ∧ r = some (some c) := by
  revert h
  unfold absRecv
  fun_cases State.recvReceivedReset s id <;> intro h <;> cases h
  · exact Or.inl ⟨rfl, nofun, by rw [‹s.recv.find? id = _›]⟩
  · exact Or.inl ⟨rfl, nofun, by rw [‹s.recv.find? id = _›]⟩
  · exact Or.inl ⟨rfl, nofun, by simp only [‹s.recv.find? id = _›, RecvHalf.ofRecv, if_pos ‹Recv.stopped _ = true›]⟩
  · have := ofRecv_resetCode ‹¬ _›
    rw [‹Recv.resetCode _ = _›] at this
    obtain ⟨b, hb⟩ := this
    exact Or.inl ⟨rfl, nofun, by simp only [‹s.recv.find? id = _›, hb]⟩
  · have := ofRecv_resetCode ‹¬ _›
    rw [‹Recv.resetCode _ = _›] at this
    exact Or.inr ⟨_, _, _, _, by simp only [‹s.recv.find? id = _›, this], ‹_›, ‹_›, ‹_›, rfl⟩

end QM.Streams
