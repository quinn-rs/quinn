import QuinnModel.Lemmas.StreamsRecvFrame
import QuinnModel.Lemmas.StreamsC06
/-
C06 — receiver accounting invariants.  What one operation does to one receiving half (`HalfStep`, between optional
halves, so that steps compose and looking a half up is one) and to the receiver view (`Upd`, the chain of the
operation's helpers).  A step of the receiving side `Acts`: every half makes a `HalfStep`, with arrival and credit at
one stream only; it is `Still` if there is no flow at all.  The invariants are proved on `Acts`.
-/
namespace QM.Streams

structure RecvOk (srw : Nat) (r : Recv) : Prop where
  end_le : r.end_ ≤ r.sentMaxStreamData
  sent_le : r.sentMaxStreamData ≤ r.assembler.bytesRead + srw
  read_le : r.assembler.bytesRead ≤ r.end_
  buf_le : ∀ a b, (a, b) ∈ r.assembler.buf → b ≤ r.end_
  fin_le : ∀ fo, r.finalOffset = some fo → r.end_ ≤ fo

structure RInvV (v : RView) : Prop where
  lmd_u64 : v.core.localMaxData < 2 ^ 64
  recvd_le : v.core.dataRecvd ≤ v.core.localMaxData
  streams : ∀ id r, v.rv id = some r → RecvOk v.core.srw r

def RInv (s : State) : Prop := RInvV s.rvw

/-- credit balance: `C` = the consumed or discarded bytes for which connection-level credit was issued -/
def Bal (s : State) (C : Nat) : Prop :=
  s.localMaxData = s.receiveWindow + s.receiveWindowShrinkDebt + C

/-- no saturating arithmetic took effect -/
def Unsat (s : State) : Prop :=
  s.localMaxData < 2 ^ 64 - 1 ∧ s.receiveWindowShrinkDebt < 2 ^ 64 - 1

theorem Unsat.of_rvw {s s' : State} (h : s'.rvw = s.rvw) (u : Unsat s') : Unsat s := by
  have hc : s'.rcore = s.rcore := congrArg RView.core h
  simp only [State.rcore, RCore.mk.injEq] at hc
  unfold Unsat at *; omega

def RCore.credit (c : RCore) (n : Nat) : RCore :=
  if n > c.debt then { c with localMaxData := satAdd c.localMaxData (n - c.debt), debt := 0 }
  else { c with debt := c.debt - n }

theorem RCore.credit_zero (c : RCore) : c.credit 0 = c := by
  simp [RCore.credit]

theorem addReadCredits_view {s s' : State} {c : Nat} {t : Bool} (h : s.addReadCredits c = some (s', t)) :
    s'.rcore = s.rcore.credit c ∧ s'.recv = s.recv ∧ Ext s s' := by
  rw [addReadCredits_eq h]
  unfold State.applyCredits RCore.credit
  by_cases hd : c > s.receiveWindowShrinkDebt
  all_goals
    simp only [State.rcore, hd, ↓reduceIte, true_and]; exact Ext.same rfl rfl

theorem satAdd_of_lt {a b : Nat} (h : satAdd a b < 2 ^ 64 - 1) : satAdd a b = a + b := by
  simp only [satAdd, natMin_eq] at h ⊢; omega

theorem satAdd_bounds (a b : Nat) (h : a < 2 ^ 64) : a ≤ satAdd a b ∧ satAdd a b < 2 ^ 64 := by
  simp only [satAdd, natMin_eq]; omega

theorem satAdd_exact (a b : Nat) (h : a + b < 2 ^ 64) : satAdd a b = a + b := by
  simp only [satAdd, natMin_eq]; omega

theorem RCore.credit_facts (c : RCore) (n : Nat) :
    (c.credit n).dataRecvd = c.dataRecvd ∧ (c.credit n).receiveWindow = c.receiveWindow ∧
    (c.credit n).srw = c.srw ∧ (c.credit n).debt ≤ c.debt ∧
    (c.localMaxData < 2 ^ 64 → c.localMaxData ≤ (c.credit n).localMaxData ∧ (c.credit n).localMaxData < 2 ^ 64) ∧
    ((c.credit n).localMaxData < 2 ^ 64 - 1 →
      (c.credit n).localMaxData + c.debt = c.localMaxData + (c.credit n).debt + n) := by
  unfold RCore.credit
  split
  · refine ⟨rfl, rfl, rfl, Nat.zero_le _, satAdd_bounds _ _, fun u => ?_⟩
    rw [satAdd_of_lt u]; simp only; omega
  · exact ⟨rfl, rfl, rfl, Nat.sub_le _ _, fun hl => ⟨Nat.le_refl _, hl⟩, fun _ => by simp only; omega⟩

theorem insertNE_ends (M : Nat) : ∀ (rs : RangeSet) (a b : Nat), b ≤ M → (∀ x y, (x, y) ∈ rs → y ≤ M) →
    ∀ x y, (x, y) ∈ RangeSet.insertNE rs a b → y ≤ M := by
  intro rs
  induction rs with
  | nil => intro a b hb _ x y hm; simp [RangeSet.insertNE] at hm; omega
  | cons hd tl ih =>
    intro a b hb hall x y hm
    obtain ⟨s, e⟩ := hd
    unfold RangeSet.insertNE at hm
    have he : e ≤ M := hall s e (List.mem_cons_self ..)
    have htl : ∀ x y, (x, y) ∈ tl → y ≤ M := fun x y h => hall x y (List.mem_cons_of_mem _ h)
    split at hm
    · rcases List.mem_cons.mp hm with h1 | h1
      · simp only [Prod.mk.injEq] at h1; omega
      · exact ih a b hb htl x y h1
    · split at hm
      · rcases List.mem_cons.mp hm with h1 | h1
        · simp only [Prod.mk.injEq] at h1; omega
        · exact hall x y h1
      · exact ih _ _ (by simp only [natMax_eq]; omega) htl x y hm

theorem insert_ends (M : Nat) (rs : RangeSet) (a b : Nat) (hb : b ≤ M) (hall : ∀ x y, (x, y) ∈ rs → y ≤ M) :
    ∀ x y, (x, y) ∈ RangeSet.insert rs a b → y ≤ M := by
  unfold RangeSet.insert
  split
  · exact insertNE_ends M rs a b hb hall
  · exact hall

theorem available_le (a : Asm) (M : Nat) (hall : ∀ x y, (x, y) ∈ a.buf → y ≤ M) (hr : a.bytesRead ≤ M) :
    a.bytesRead + a.available ≤ M := by
  unfold Asm.available
  split
  · rename_i s e rest hb
    split
    · rename_i hs
      have := hall s e (by rw [hb]; exact List.mem_cons_self ..)
      omega
    · omega
  · omega

theorem consume_ok (a : Asm) (k M : Nat) (hk : k ≤ a.available) (hall : ∀ x y, (x, y) ∈ a.buf → y ≤ M) :
    (a.consume k).bytesRead = a.bytesRead + k ∧ ∀ x y, (x, y) ∈ (a.consume k).buf → y ≤ M := by
  unfold Asm.consume
  split
  · rename_i s e rest hb
    split
    · rename_i hk0; subst hk0; exact ⟨rfl, hall⟩
    · split
      · refine ⟨rfl, ?_⟩
        intro x y hm
        rcases List.mem_cons.mp hm with h1 | h1
        · simp only [Prod.mk.injEq] at h1
          have := hall s e (by rw [hb]; exact List.mem_cons_self ..); omega
        · exact hall x y (by rw [hb]; exact List.mem_cons_of_mem _ h1)
      · exact ⟨rfl, fun x y hm => hall x y (by rw [hb]; exact List.mem_cons_of_mem _ hm)⟩
  · rename_i hb
    unfold Asm.available at hk
    simp only [hb] at hk
    have : k = 0 := by omega
    subst this; exact ⟨rfl, hall⟩

def unread : Option Recv → Nat
  | some r => if r.isReceiving && !r.stopped then r.end_ - r.assembler.bytesRead else 0
  | none => 0

/-- a reset half has no buffered data: `Recv::reset` clears the assembler -/
def Clr (o : Option Recv) : Prop := ∀ r, o = some r → r.isReceiving = false → r.assembler.buf = []

theorem Clr.none : Clr none := fun _ h => by simp at h

theorem Clr.of_receiving {r : Recv} (h : r.isReceiving = true) : Clr (some r) := by
  intro x hx hr
  simp only [Option.some.injEq] at hx; subst hx; rw [h] at hr; contradiction

theorem Clr.of_buf {r : Recv} (h : r.assembler.buf = []) : Clr (some r) := by
  intro x hx _
  simp only [Option.some.injEq] at hx; subst hx; exact h

theorem unread_le (r : Recv) : unread (some r) ≤ r.end_ - r.assembler.bytesRead := by
  simp only [unread]; split <;> omega

theorem unread_stopped {r : Recv} (h : r.stopped = true) : unread (some r) = 0 := by
  simp [unread, h]

theorem unread_reset {r : Recv} (h : r.isReceiving = false) : unread (some r) = 0 := by
  simp [unread, h]

theorem unread_open {r : Recv} (h1 : r.isReceiving = true) (h2 : r.stopped = false) :
    unread (some r) = r.end_ - r.assembler.bytesRead := by
  simp [unread, h1, h2]

/-- every instantiated half is sound -/
def OkO (srw : Nat) (o : Option Recv) : Prop := ∀ r, o = some r → RecvOk srw r

/-- the half `o` of one stream becomes `o'` (`none`: not instantiated, or freed) while `nb` bytes are newly counted as
    received on it and `cr` read credits are issued for it: the new half is sound, and what is credited had left the
    unread bytes or has just arrived.  Steps compose, and looking a half up is one -/
structure HalfStep (srw : Nat) (o o' : Option Recv) (nb cr : Nat) : Prop where
  ok : OkO srw o → OkO srw o'
  clr : Clr o → Clr o'
  cover : OkO srw o → Clr o → cr + unread o' ≤ unread o + nb

namespace HalfStep
variable {srw nb cr nb' cr' : Nat} {o o1 o2 : Option Recv} {r : Recv}

theorem refl (srw : Nat) (o : Option Recv) : HalfStep srw o o 0 0 :=
  ⟨id, id, fun _ _ => Nat.le_of_eq (Nat.zero_add _)⟩

theorem trans (h1 : HalfStep srw o o1 nb cr) (h2 : HalfStep srw o1 o2 nb' cr') :
    HalfStep srw o o2 (nb' + nb) (cr' + cr) :=
  ⟨fun k => h2.ok (h1.ok k), fun c => h2.clr (h1.clr c), fun k c => by
    have := h1.cover k c; have := h2.cover (h1.ok k) (h1.clr c); omega⟩

/-- from an instantiated half -/
theorem of_some (ok : RecvOk srw r → OkO srw o) (clr : Clr (some r) → Clr o)
    (cover : RecvOk srw r → Clr (some r) → cr + unread o ≤ unread (some r) + nb) : HalfStep srw (some r) o nb cr :=
  ⟨fun k => ok (k r rfl), clr, fun k => cover (k r rfl)⟩

/-- the half may be freed after the step: what was credited stays covered -/
theorem free (h : HalfStep srw o o1 nb cr) {c : Bool} : HalfStep srw o (if c then none else o1) nb cr := by
  cases c
  · exact h
  · exact ⟨fun _ => nofun, fun _ => Clr.none, fun k cl => Nat.le_trans (Nat.le_add_right ..) (h.cover k cl)⟩

end HalfStep

theorem RInv.okO {s : State} (i : RInv s) (k : Nat) : OkO s.streamReceiveWindow (s.rv k) := i.streams k

theorem ingest_halfStep {srw : Nat} {r r' : Recv} {offset len received maxData nb : Nat} {fin cl : Bool}
    (h : r.ingest offset len fin received maxData = some (.ok (nb, cl, r'))) (hr : r.isReceiving = true) :
    HalfStep srw (some r) (if cl then none else some r') nb (if r.stopped then nb else 0) ∧
    nb = offset + len - r.end_ ∧ received + nb ≤ maxData ∧ r'.stopped = r.stopped ∧ cl = (fin && r.stopped) := by
  have hr' : r'.isReceiving = true := (ingest_receiving h).trans hr
  have hfin := fun hle => (ingest_end h hle).2.1
  rcases ingest_cases h with ⟨_, he⟩ | ⟨_, _, he⟩ | ⟨_, _, _, he⟩ | ⟨_, _, h3, h4, r'', he, e1, e2, e3, e4, e5⟩
  · contradiction
  · contradiction
  · contradiction
  simp only [Except.ok.injEq, Prod.mk.injEq] at he
  obtain ⟨rfl, rfl, rfl⟩ := he
  have ok' : RecvOk srw r → OkO srw (some r') := fun ok x hx => by
    cases hx
    -- the high-water mark only rises, and stays within the advertised limit
    have hold : ∀ x y, (x, y) ∈ r.assembler.buf → y ≤ Nat.max r.end_ (offset + len) :=
      fun x y hxy => Nat.le_trans (ok.buf_le x y hxy) (Nat.le_max_left ..)
    refine ⟨by rw [e1, e2]; exact Nat.max_le.mpr ⟨ok.end_le, h3⟩, by rw [e2, e4]; exact ok.sent_le,
      by rw [e4, e1]; exact Nat.le_trans ok.read_le (Nat.le_max_left ..), fun a b hab => ?_, hfin ok.fin_le⟩
    rw [e5] at hab; rw [e1]
    split at hab
    · exact insert_ends _ _ _ _ (Nat.le_max_right ..) hold a b hab
    · exact hold a b hab
  refine ⟨(HalfStep.of_some ok' (fun _ => Clr.of_receiving hr') fun ok _ => ?_).free, rfl, h4, e3, rfl⟩
  cases hs : r.stopped
  · rw [unread_open hr hs, unread_open hr' (e3.trans hs), e1, e4]
    have := ok.read_le; simp only [natMax_eq, Bool.false_eq_true, ↓reduceIte]; omega
  · rw [unread_stopped (e3.trans hs)]; simp only [↓reduceIte]; omega

/-- `credited`: what `received_reset` takes as already credited, in terms of the half before the reset -/
theorem reset_halfStep {srw : Nat} {r r' : Recv} {code fo received maxData : Nat}
    (h : r.reset code fo received maxData = some (.ok (true, r'))) :
    HalfStep srw (some r) (if r'.stopped then none else some r') (fo - r.end_)
      (fo - (if r.stopped then r.end_ else r.assembler.bytesRead)) ∧
    r.isReceiving = true ∧ received + (fo - r.end_) ≤ maxData ∧ r'.end_ = r.end_ ∧
    Gen.resetCredited r'.stopped r'.end_ r'.assembler.bytesRead = (if r.stopped then r.end_ else r.assembler.bytesRead) ∧
    (RecvOk srw r → r.end_ ≤ fo) := by
  obtain ⟨hse, hrc, ⟨hb, _⟩ | ⟨_, h4, rfl⟩⟩ := reset_ok h
  · cases hb
  have hend : RecvOk srw r → r.end_ ≤ fo := fun ok => (resetSizeErr_none hse ok.fin_le).2
  refine ⟨(HalfStep.of_some (fun ok x hx => ?_) (fun _ => Clr.of_buf rfl) fun ok _ => ?_).free,
    hrc, h4, rfl, rfl, hend⟩
  · cases hx
    exact ⟨ok.end_le, ok.sent_le, ok.read_le, nofun,
      by intro f hf; simp only [Recv.finalOffset, Option.some.injEq] at hf; subst hf; exact hend ok⟩
  · rw [unread_reset rfl]
    have := ok.read_le
    cases hs : r.stopped
    · rw [unread_open hrc hs]; simp only [Bool.false_eq_true, ↓reduceIte]; have := hend ok; omega
    · simp only [↓reduceIte]; omega

theorem stop_halfStep {srw : Nat} {r r' : Recv} {cr : Nat} {ss : Bool} (h : r.stop = some (some (cr, ss, r'))) :
    HalfStep srw (some r) (if !r'.finalOffsetUnknown then none else some r') 0 cr ∧
    cr = (if r.isReceiving then r.end_ - r.assembler.bytesRead else 0) := by
  unfold Recv.stop at h
  split at h
  · cases h
  rename_i hns
  have hns' : r.stopped = false := by simpa using hns
  split at h
  · contradiction
  rename_i c hsub
  simp only [Option.some.injEq, Prod.mk.injEq] at h
  obtain ⟨rfl, _, rfl⟩ := h
  simp only [Gen.stopCreditsOnlyReceiving, Bool.true_and] at hsub
  have hcr : c = (if r.isReceiving then r.end_ - r.assembler.bytesRead else 0) := by
    cases hrcv : r.isReceiving
    · simpa [hrcv] using hsub.symm
    · simp only [hrcv, Bool.not_true, Bool.false_eq_true, ↓reduceIte] at hsub ⊢
      exact (subU_eq hsub).1
  refine ⟨(HalfStep.of_some (fun ok x hx => ?_) (fun _ => Clr.of_buf rfl) fun _ _ => ?_).free, hcr⟩
  · cases hx
    exact ⟨ok.end_le, ok.sent_le, ok.read_le, nofun, ok.fin_le⟩
  · rw [hcr, unread_stopped rfl]
    cases hrcv : r.isReceiving
    · simp
    · rw [unread_open hrcv hns']; simp

theorem consume_halfStep {srw : Nat} {r : Recv} (k : Nat) (freed : Bool) (ha : k ≤ r.assembler.available)
    (hns : r.stopped = false) :
    HalfStep srw (some r) (if freed then none else some { r with assembler := r.assembler.consume k }) 0 k := by
  have key : RecvOk srw r → Clr (some r) →
      k + unread (some { r with assembler := r.assembler.consume k }) ≤ unread (some r) := by
    intro ok cl
    have hav := available_le r.assembler r.end_ ok.buf_le ok.read_le
    cases hrcv : r.isReceiving
    · have hb := cl r rfl hrcv
      have hav0 : r.assembler.available = 0 := by simp [Asm.available, hb]
      have hk0 : k = 0 := by omega
      have hcons : r.assembler.consume k = r.assembler := by simp [Asm.consume, hb]
      rw [hcons, hk0]; exact Nat.le_of_eq (Nat.zero_add _)
    · rw [unread_open hrcv hns]
      have hb := (consume_ok r.assembler k r.end_ ha ok.buf_le).1
      have := unread_le { r with assembler := r.assembler.consume k }
      simp only [hb] at this
      omega
  refine (HalfStep.of_some (fun ok x hx => ?_) (fun cl x hx hr' => ?_) key).free
  · cases hx
    obtain ⟨hbr, hbuf⟩ := consume_ok r.assembler k r.end_ ha ok.buf_le
    have hav := available_le r.assembler r.end_ ok.buf_le ok.read_le
    exact ⟨ok.end_le, by simp only [hbr]; have := ok.sent_le; omega, by simp only [hbr]; omega, hbuf, ok.fin_le⟩
  · cases hx
    have hb := cl r rfl hr'
    simp [Asm.consume, hb]

/-- each MAX_STREAM_DATA written records `bytes_read + window` as the advertised limit: `sent_le` with equality -/
theorem record_halfStep (srw : Nat) (r : Recv) :
    HalfStep srw (some r) (some (r.recordSentMaxStreamData (r.assembler.bytesRead + srw))) 0 0 := by
  unfold Recv.recordSentMaxStreamData
  split
  · refine .of_some (fun ok x hx => Option.some.inj hx ▸ ⟨?_, Nat.le_refl _, ok.read_le, ok.buf_le, ok.fin_le⟩)
      (fun c x hx => Option.some.inj hx ▸ c r rfl) fun _ _ => Nat.le_of_eq (Nat.zero_add _)
    have := ok.end_le; show r.end_ ≤ _ + srw; omega
  · exact .refl _ _

/-- what `get_or_insert_recv` did: the accounting is untouched, the entry of `id` holds `rs`, which was there before or
    is fresh -/
structure Looked (s s1 : State) (id : Nat) (rs : Recv) : Prop where
  core : s1.rcore = s.rcore
  rv : ∀ k, s1.rv k = if k = id then some rs else s.rv k
  origin : s.recv.find? id = some (some rs) ∨ (s.recv.find? id = some none ∧ rs = Recv.new s.streamReceiveWindow)

theorem getOrInsertRecv_spec {s s1 : State} {id : Nat} {rs : Recv}
    (h : s.getOrInsertRecv id = some (rs, s1)) : Looked s s1 id rs := by
  revert h
  fun_cases State.getOrInsertRecv s id <;> intro h
  · contradiction
  next r hy =>
    cases h
    refine ⟨rfl, fun k => ?_, Or.inl hy⟩
    by_cases hk : k = id
    · subst hk; simp only [State.rv, hy, ↓reduceIte]
    · simp only [hk, ↓reduceIte]
  next hy r =>
    obtain ⟨rfl, rfl⟩ := Prod.mk.inj (Option.some.inj h)
    exact ⟨rfl, rv_putRecv hy, Or.inr ⟨hy, rfl⟩⟩

theorem recvOk_new (srw : Nat) : RecvOk srw (Recv.new srw) :=
  ⟨Nat.zero_le _, by simp [Recv.new], Nat.le_refl _, by intro a b h; simp [Recv.new] at h,
   by intro fo h; simp [Recv.new, Recv.finalOffset] at h⟩

/-- `get_or_insert_recv`: a fresh half is sound and has nothing unread -/
theorem look_halfStep {s s1 : State} {id : Nat} {rs : Recv} (hg : s.getOrInsertRecv id = some (rs, s1)) :
    HalfStep s.streamReceiveWindow (s.rv id) (some rs) 0 0 := by
  rcases (getOrInsertRecv_spec hg).origin with hh | ⟨hh, rfl⟩
  · rw [rv_eq_some.mpr hh]; exact .refl _ _
  · exact ⟨fun _ r hr => Option.some.inj hr ▸ recvOk_new _, fun _ => Clr.of_receiving rfl, fun _ _ => Nat.zero_le _⟩

/-- from `s` to `s'` the stream bookkeeping only extends, the half of stream `id` becomes `o` (`none`: freed),
    `data_recvd` becomes `d` and `cr` read credits are issued; every other half is untouched.  The helpers of the
    model each extend such a description by their own effect (`Upd.look`, `.put`, `.free`, …), so an operation is
    the chain of its helpers -/
structure Upd (s s' : State) (id : Nat) (o : Option Recv) (d cr : Nat) : Prop where
  ext : Ext s s'
  core : s'.rcore = RCore.credit { s.rcore with dataRecvd := d } cr
  rv : ∀ k, s'.rv k = if k = id then o else s.rv k

namespace Upd
variable {s s0 s1 s2 : State} {id d : Nat} {o : Option Recv}

theorem mk0 (e : Ext s s1) (hc : s1.rcore = { s.rcore with dataRecvd := d })
    (hr : ∀ k, s1.rv k = if k = id then o else s.rv k) : Upd s s1 id o d 0 :=
  ⟨e, hc.trans (RCore.credit_zero _).symm, hr⟩

theorem core0 (u : Upd s s1 id o d 0) : s1.rcore = { s.rcore with dataRecvd := d } :=
  u.core.trans (RCore.credit_zero _)

theorem refl (s : State) (id : Nat) : Upd s s id (s.rv id) s.dataRecvd 0 :=
  mk0 (Ext.refl s) rfl fun k => by split <;> simp_all

theorem look {rs : Recv} (hg : s.getOrInsertRecv id = some (rs, s1)) : Upd s s1 id (some rs) s1.dataRecvd 0 := by
  obtain ⟨m, rfl⟩ := getOrInsertRecv_eq hg
  exact mk0 (Ext.same rfl rfl) rfl (getOrInsertRecv_spec hg).rv

theorem quiet {cr : Nat} (u : Upd s s1 id o d cr) (q : Quiet s1 s2) : Upd s s2 id o d cr :=
  ⟨u.ext.trans q.ext, (congrArg RView.core q.rvw).trans u.core, fun k => (rv_of_rvw q.rvw k).trans (u.rv k)⟩

theorem frame (u : Upd s s1 id o d 0) (hid : RLInv s → s.idOk id) (b : Bool) :
    Upd s (s1.onStreamFrame b id) id o d 0 :=
  mk0 (u.ext.frame hid b) ((congrArg RView.core (rvw_onStreamFrame s1 b id)).trans u.core0)
    fun k => (rv_of_rvw (rvw_onStreamFrame s1 b id) k).trans (u.rv k)

/-- `putRecv` only replaces an entry that exists -/
theorem put {r0 : Recv} (u : Upd s s1 id (some r0) d 0) (r : Recv) : Upd s (s1.putRecv id r) id (some r) d 0 :=
  have hw := rv_eq_some.mp ((u.rv id).trans (if_pos rfl))
  mk0 (u.ext.trans (Ext.same rfl rfl)) u.core0 fun k => by rw [rv_putRecv hw k, u.rv k]; split <;> rfl

theorem recvd (u : Upd s s1 id o d 0) (d' : Nat) : Upd s { s1 with dataRecvd := d' } id o d' 0 :=
  mk0 (u.ext.trans (Ext.same rfl rfl))
    (by have := u.core0; simp only [State.rcore, RCore.mk.injEq] at this ⊢; simp [this]) u.rv

theorem erase (u : Upd s s1 id o d 0) : Upd s { s1 with recv := s1.recv.erase id } id none d 0 :=
  mk0 (u.ext.trans (Ext.same rfl rfl)) u.core0 fun k => by rw [rv_erase, u.rv k]; split <;> rfl

/-- credits are issued last (`add_read_credits`) -/
theorem readCredits {cr : Nat} {t : Bool} (u : Upd s s1 id o d 0) (h : s1.addReadCredits cr = some (s2, t)) :
    Upd s s2 id o d cr :=
  have ⟨hc, hr, e⟩ := addReadCredits_view h
  ⟨u.ext.trans e, by rw [hc, u.core0], fun k => (show s2.rv k = s1.rv k by simp only [State.rv, hr]).trans (u.rv k)⟩

theorem credit {cr : Nat} {t : Bool} (u : Upd s s1 id o d 0) (h : s1.creditAndQueue cr = some (s2, t)) :
    Upd s s2 id o d cr := by
  unfold State.creditAndQueue at h
  split at h
  · contradiction
  · next h1 => cases h; exact (u.readCredits h1).quiet (Quiet.same rfl rfl rfl)

end Upd

/-- no data arrives and no credit is issued; halves may change in ways the accounting does not see.  Such steps
    compose: there is no flow to add up -/
structure Still (s s' : State) : Prop where
  ext : Ext s s'
  core : s'.rcore = s.rcore
  halves : RInv s → ∀ k, HalfStep s.streamReceiveWindow (s.rv k) (s'.rv k) 0 0

theorem Quiet.still {s s' : State} (q : Quiet s s') : Still s s' :=
  ⟨q.ext, congrArg RView.core q.rvw, fun _ k => rv_of_rvw q.rvw k ▸ .refl _ _⟩

/-- one step of the receiving side: `cr` read credits are issued, and given the invariant every half makes a
    `HalfStep`, with arrival and credit on the half of stream `id` alone; the arrival stays within the connection
    limit (which also makes the saturating addition to `data_recvd` exact) -/
structure Acts (s s' : State) (id cr : Nat) : Prop where
  ext : Ext s s'
  core : ∃ d, s'.rcore = RCore.credit { s.rcore with dataRecvd := d } cr
  flow : RInv s → ∃ nb, s'.dataRecvd = s.dataRecvd + nb ∧ s'.dataRecvd ≤ s.localMaxData ∧
    ∀ k, HalfStep s.streamReceiveWindow (s.rv k) (s'.rv k) (if k = id then nb else 0) (if k = id then cr else 0)

theorem Still.acts {s s' : State} (t : Still s s') (id : Nat) : Acts s s' id 0 :=
  have e : s'.dataRecvd = s.dataRecvd := congrArg RCore.dataRecvd t.core
  ⟨t.ext, ⟨s.dataRecvd, t.core.trans (RCore.credit_zero _).symm⟩, fun i =>
    ⟨0, e, Nat.le_trans (Nat.le_of_eq e) i.recvd_le, fun k => by have := t.halves i k; split <;> exact this⟩⟩

theorem Quiet.acts {s s' : State} (q : Quiet s s') (id : Nat) : Acts s s' id 0 := q.still.acts id

/-- what issuing `cr` credits does to the scalars: windows same, debt not grown, `local_max_data` only raised, and by
    the credits unless it saturates -/
structure CreditStep (s s' : State) (cr : Nat) : Prop where
  window : s'.receiveWindow = s.receiveWindow
  srw : s'.streamReceiveWindow = s.streamReceiveWindow
  debt_le : s'.receiveWindowShrinkDebt ≤ s.receiveWindowShrinkDebt
  lmd : s.localMaxData < 2 ^ 64 → s.localMaxData ≤ s'.localMaxData ∧ s'.localMaxData < 2 ^ 64
  sum : s'.localMaxData < 2 ^ 64 - 1 →
    s'.localMaxData + s.receiveWindowShrinkDebt = s.localMaxData + s'.receiveWindowShrinkDebt + cr

namespace Acts
variable {s s' : State} {id cr : Nat}

theorem facts (a : Acts s s' id cr) : CreditStep s s' cr := by
  obtain ⟨d, hc⟩ := a.core
  have f := RCore.credit_facts { s.rcore with dataRecvd := d } cr
  rw [← hc] at f
  obtain ⟨_, f1, f2, f3, f4, f5⟩ := f
  exact ⟨f1, f2, f3, f4, f5⟩

theorem cast {cr' : Nat} (a : Acts s s' id cr) (h : cr = cr') : Acts s s' id cr' := h ▸ a

/-- the receiver invariant and the credit balance on the description of one operation -/
theorem step (a : Acts s s' id cr) (i : RInv s) : RInv s' ∧ ∀ C, Bal s C → Unsat s' → Bal s' (C + cr) := by
  have f := a.facts
  obtain ⟨nb, _, room, hs⟩ := a.flow i
  have hl := f.lmd i.lmd_u64
  refine ⟨⟨hl.2, Nat.le_trans room hl.1, fun k r hk => ?_⟩, fun C b us => ?_⟩
  · show RecvOk s'.streamReceiveWindow r
    rw [f.srw]; exact (hs k).ok (i.okO k) r hk
  · have := f.window
    have := f.sum us.1
    unfold Bal at *; omega

/-- no credit is issued, so the balance is kept whether or not the arithmetic saturated -/
theorem bal0 {C : Nat} (a : Acts s s' id 0) (b : Bal s C) : Bal s' C := by
  obtain ⟨d, hc⟩ := a.core
  rw [RCore.credit_zero] at hc
  simp only [State.rcore, RCore.mk.injEq] at hc
  unfold Bal at *; omega

end Acts

theorem Still.rinv {s s' : State} (t : Still s s') (i : RInv s) : RInv s' := ((t.acts 0).step i).1

theorem Still.trans {a b c : State} (h1 : Still a b) (h2 : Still b c) : Still a c :=
  ⟨h1.ext.trans h2.ext, h2.core.trans h1.core, fun i k => by
    have e : b.streamReceiveWindow = a.streamReceiveWindow := congrArg RCore.srw h1.core
    exact (h1.halves i k).trans (e ▸ h2.halves (h1.rinv i) k)⟩

theorem Still.put {s : State} {id : Nat} {rs r' : Recv} (hf : s.recv.find? id = some (some rs))
    (hs : HalfStep s.streamReceiveWindow (some rs) (some r') 0 0) : Still s (s.putRecv id r') :=
  ⟨Ext.same rfl rfl, rfl, fun _ k => by
    rw [rv_putRecv hf]
    split
    · rename_i hk; rw [hk, rv_eq_some.mpr hf]; exact hs
    · exact .refl _ _⟩

/-- closing a description: the half under `id` made a `HalfStep` with the `d - data_recvd` bytes that arrived -/
theorem Upd.acts {s s' : State} {id d cr : Nat} {o : Option Recv} (u : Upd s s' id o d cr)
    (h : RInv s → ∃ nb, d = s.dataRecvd + nb ∧ d ≤ s.localMaxData ∧
      HalfStep s.streamReceiveWindow (s.rv id) o nb cr) : Acts s s' id cr :=
  have e : s'.dataRecvd = d := (congrArg RCore.dataRecvd u.core).trans (RCore.credit_facts _ cr).1
  ⟨u.ext, ⟨d, u.core⟩, fun i =>
    have ⟨nb, hd, room, hs⟩ := h i
    ⟨nb, e.trans hd, e ▸ room, fun k => by
      rw [u.rv k]; split
      · rename_i hk; exact hk ▸ hs
      · exact .refl _ _⟩⟩

theorem getOrInsertRecv_scalars {s s0 : State} {id : Nat} {rs : Recv} (hg : s.getOrInsertRecv id = some (rs, s0)) :
    s0.dataRecvd = s.dataRecvd ∧ s0.localMaxData = s.localMaxData := by
  obtain ⟨m, rfl⟩ := getOrInsertRecv_eq hg; exact ⟨rfl, rfl⟩

/-- within the connection limit the saturating addition to `data_recvd` is exact -/
theorem getOrInsertRecv_exact {s s0 : State} {id nb : Nat} {rs : Recv} (hg : s.getOrInsertRecv id = some (rs, s0))
    (room : s0.dataRecvd + nb ≤ s0.localMaxData) (i : RInv s) : satAdd s0.dataRecvd nb = s0.dataRecvd + nb := by
  have : s.localMaxData < 2 ^ 64 := i.lmd_u64
  rw [(getOrInsertRecv_scalars hg).2] at room
  exact satAdd_exact _ _ (by omega)

/-- closing a chain that began with the lookup of `rs`: `nb` bytes arrived; `d` is the new `data_recvd` as the code
    computes it from the state after the lookup, with a saturating addition that the invariant makes exact -/
theorem Upd.arrived {s s0 s' : State} {id d nb cr : Nat} {rs : Recv} {o : Option Recv} (u : Upd s s' id o d cr)
    (hg : s.getOrInsertRecv id = some (rs, s0)) (hs : HalfStep s.streamReceiveWindow (some rs) o nb cr)
    (hd : RInv s → d = s0.dataRecvd + nb) (room : RInv s → s0.dataRecvd + nb ≤ s0.localMaxData) :
    Acts s s' id cr :=
  u.acts fun i => by
    obtain ⟨e1, e2⟩ := getOrInsertRecv_scalars hg
    exact ⟨nb, e1 ▸ hd i, by have := room i; have := hd i; omega, (look_halfStep hg).trans hs⟩

/-- the same when nothing arrived -/
theorem Upd.kept {s s0 s' : State} {id cr : Nat} {rs : Recv} {o : Option Recv} (u : Upd s s' id o s0.dataRecvd cr)
    (hg : s.getOrInsertRecv id = some (rs, s0)) (hs : HalfStep s.streamReceiveWindow (some rs) o 0 cr) :
    Acts s s' id cr :=
  u.arrived hg hs (fun _ => rfl) fun i => by
    obtain ⟨e1, e2⟩ := getOrInsertRecv_scalars hg
    rw [e1, e2]; exact i.recvd_le

theorem Acts.look {s s1 : State} {id : Nat} {rs : Recv} (hg : s.getOrInsertRecv id = some (rs, s1)) :
    Acts s s1 id 0 :=
  (Upd.look hg).kept hg (.refl _ _)

end QM.Streams
