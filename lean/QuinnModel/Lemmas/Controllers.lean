import QuinnModel.Recovery.Controllers
/-
Window floors of the built-in controllers: `window() ≥ 2 · current_mtu` after every call of the
`Controller` trait, for ALL call histories and ALL values of the float-derived (observed) inputs.

Each update function is followed along its own branch structure with `fun_cases`, and shown to keep the floor: a
branch leaves the MTU and the window alone, or adds to the window, or ends in a clamp `max _ minimum`.
-/
namespace QM.Controllers

theorem natMax_eq (a b : Nat) : Nat.max a b = max a b := rfl
theorem natMin_eq (a b : Nat) : Nat.min a b = min a b := rfl

/-- All three controllers keep their windows up in the same way: by `max _ minimum`, where the minimum is at
    least two datagrams. -/
theorem floor_clamp {m k : Nat} (x : Nat) (h : 2 * m ≤ k) : 2 * m ≤ Nat.max x k :=
  Nat.le_trans h (Nat.le_max_right _ _)

theorem two_le_max4 (x m : Nat) : 2 * m ≤ Nat.max x (4 * m) := floor_clamp x (by omega)

inductive RenoOp where
  | sent
  | ack (sent bytes : Nat) (appLimited : Bool)
  | endAcks
  | cong (now sent : Nat) (persistent ecn : Bool) (lost : Nat)
  | spurious
  | mtu (m : Nat)

/-- one trait call (the state reached is the same whether or not the call ended in an overflow panic) -/
def Reno.step (c : Reno) : RenoOp → Reno
  | .sent => c
  | .ack sent bytes app => (c.onAck sent bytes app).1
  | .endAcks => c
  | .cong now sent persistent _ _ => c.onCongestionEvent now sent persistent
  | .spurious => c
  | .mtu m => c.onMtuUpdate m

def Reno.run (c : Reno) (ops : List RenoOp) : Reno := ops.foldl Reno.step c

def Reno.Floor (c : Reno) : Prop := 2 * c.mtu ≤ c.window

theorem reno_onAck_floor (c : Reno) (sent bytes : Nat) (app : Bool) (h : c.Floor) :
    (c.onAck sent bytes app).1.Floor := by
  have up {k} : 2 * c.mtu ≤ c.window + k := Nat.le_trans h (Nat.le_add_right _ _)
  fun_cases Reno.onAck c sent bytes app
  case case3 | case4 | case7 => exact up      -- after `window += bytes` or `window += current_mtu`
  all_goals exact h

theorem reno_cong_floor (c : Reno) (now sent : Nat) (p : Bool) (h : c.Floor) :
    (c.onCongestionEvent now sent p).Floor := by
  fun_cases Reno.onCongestionEvent c now sent p
  · exact h
  · exact Nat.le_refl _
  · exact floor_clamp _ (Nat.le_refl _)

theorem reno_step_floor (c : Reno) (op : RenoOp) (h : c.Floor) : (c.step op).Floor := by
  cases op with
  | ack s b a => exact reno_onAck_floor c s b a h
  | cong n s p e l => exact reno_cong_floor c n s p h
  | mtu m => exact floor_clamp _ (Nat.le_refl _)
  | _ => exact h

inductive CubicOp where
  | sent
  | ack (now sent bytes : Nat) (appLimited : Bool) (obs : Option CubicAckObs)
  | endAcks
  | cong (now sent : Nat) (persistent ecn : Bool) (lost : Nat) (obs : Option CubicCongObs)
  | spurious
  | mtu (m : Nat)

def Cubic.step (c : Cubic) : CubicOp → Cubic
  | .sent => c
  | .ack now sent bytes app obs => (c.onAck now sent bytes app obs).1
  | .endAcks => c
  | .cong now sent persistent ecn _ obs => (c.onCongestionEvent now sent persistent ecn obs).1
  | .spurious => c.onSpurious
  | .mtu m => c.onMtuUpdate m

def Cubic.run (c : Cubic) (ops : List CubicOp) : Cubic := ops.foldl Cubic.step c

def Cubic.Floor (c : Cubic) : Prop := 2 * c.mtu ≤ c.st.window

theorem cubic_caUpdate_floor (c : Cubic) (obs : Option CubicAckObs) (h : c.Floor) : (c.caUpdate obs).1.Floor := by
  fun_cases Cubic.caUpdate c obs
  case case4 => exact Nat.le_trans h (Nat.le_add_right _ _)      -- after `window += current_mtu`
  all_goals exact h

theorem cubic_onAck_floor (c : Cubic) (now sent bytes : Nat) (app : Bool) (obs : Option CubicAckObs) (h : c.Floor) :
    (c.onAck now sent bytes app obs).1.Floor := by
  fun_cases Cubic.onAck c now sent bytes app obs
  case case3 => exact Nat.le_trans h (Nat.le_add_right _ _)      -- after `window += bytes`
  -- initialising `recovery_start_time` touches neither the MTU nor the window
  case case4 c1 => exact cubic_caUpdate_floor c1 obs (by unfold c1; split <;> exact h)
  all_goals exact h

theorem cubic_cong_floor (c : Cubic) (now sent : Nat) (p e : Bool) (obs : Option CubicCongObs) (h : c.Floor) :
    (c.onCongestionEvent now sent p e obs).1.Floor := by
  fun_cases Cubic.onCongestionEvent c now sent p e obs
  case case1 | case2 => exact h               -- in recovery, or no observation
  case case4 => exact Nat.le_refl _           -- persistent congestion: `window = minimum_window`
  all_goals exact floor_clamp _ (Nat.le_refl _)

theorem cubic_spurious_floor (c : Cubic) (h : c.Floor) : c.onSpurious.Floor := by
  fun_cases Cubic.onSpurious c
  case case1 hlt => exact Nat.le_of_lt (Nat.lt_of_le_of_lt h hlt)      -- the prior window is the larger one
  all_goals exact h

theorem cubic_step_floor (c : Cubic) (op : CubicOp) (h : c.Floor) : (c.step op).Floor := by
  cases op with
  | ack n s b a o => exact cubic_onAck_floor c n s b a o h
  | cong n s p e l o => exact cubic_cong_floor c n s p e o h
  | spurious => exact cubic_spurious_floor c h
  | mtu m => exact floor_clamp _ (Nat.le_refl _)
  | _ => exact h

inductive BbrOp where
  | sent (pn : Nat)
  | ack (bytes : Nat)
  | endAcks (inFlight : Nat) (largest : Option Nat) (o : BbrEndObs)
  | cong (lost : Nat)
  | spurious
  | mtu (m : Nat)

def Bbr.step (c : Bbr) : BbrOp → Bbr × Out
  | .sent pn => (c.onSent pn, .ok)
  | .ack bytes => c.onAck bytes
  | .endAcks inFlight largest o => c.onEndAcks inFlight largest o
  | .cong lost => c.onCongestionEvent lost
  | .spurious => (c, .ok)
  | .mtu m => (c.onMtuUpdate m, .ok)

/-- the state after a history in which no call ended in an overflow panic (a debug build stops there);
    `none` otherwise -/
def Bbr.run (c : Bbr) : List BbrOp → Option Bbr
  | [] => some c
  | op :: t =>
    match c.step op with
    | (c', .ok) => c'.run t
    | _ => none

structure Bbr.Inv (c : Bbr) : Prop where
  minCwnd : c.minCwnd = 4 * c.mtu
  cwnd : 2 * c.mtu ≤ c.cwnd
  initCwnd : 2 * c.mtu ≤ c.initCwnd
  rw : c.recovery.inRecovery = true → 2 * c.mtu ≤ c.recoveryWindow

theorem bbr_newWith_inv (initialWindow mtu : Nat) : (Bbr.newWith initialWindow mtu).Inv :=
  ⟨rfl, two_le_max4 _ _, two_le_max4 _ _, nofun⟩

theorem bbr_minCwnd_floor {c : Bbr} (h : c.minCwnd = 4 * c.mtu) : 2 * c.mtu ≤ c.minCwnd := by omega

theorem bbr_window_floor (c : Bbr) (hi : c.Inv) (tc : Option Nat) (w : Nat) (hw : c.window tc = some w) :
    2 * c.mtu ≤ w := by
  revert hw
  fun_cases Bbr.window c tc
  all_goals rintro ⟨⟩
  case case1 => exact iteInduction (fun _ => hi.initCwnd) fun _ => floor_clamp _ (bbr_minCwnd_floor hi.minCwnd)
  case case3 hr => exact Nat.le_min.2 ⟨hi.cwnd, hi.rw hr.1⟩
  case case4 => exact hi.cwnd

/-- the part of `Inv` that the stages of `on_end_acks` hand on.  A plain conjunction about four fields: for a
    state updated in other fields it is proved by the same term. -/
def Bbr.Floors (c : Bbr) : Prop := c.minCwnd = 4 * c.mtu ∧ 2 * c.mtu ≤ c.cwnd ∧ 2 * c.mtu ≤ c.initCwnd

theorem bbr_startRound_floors (c : Bbr) (lg : Option Nat) (ba : Nat) (h : c.Floors) : (c.startRound lg ba).1.Floors := by
  unfold Bbr.startRound
  cases lg <;> exact iteInduction (fun _ => h) fun _ => h

theorem bbr_updateRecoveryState_floors (c : Bbr) (b : Bool) (h : c.Floors) : (c.updateRecoveryState b).Floors := by
  unfold Bbr.updateRecoveryState
  extract_lets c1 c2
  have h1 : c1.Floors := iteInduction (fun _ => h) fun _ => h
  have h2 : c2.Floors := iteInduction (fun _ => h1) fun _ => h1
  -- every branch below updates `c1` or `c2` in fields that `Floors` does not look at
  clear_value c2 c1
  split
  · exact iteInduction (fun _ => h1) fun _ => h1      -- not in recovery
  · exact iteInduction (fun _ => h2) fun _ => h2

/-- the one assignment to `cwnd` is `if w < min_cwnd then min_cwnd else w` -/
theorem bbr_calculateCwnd_floors (c : Bbr) (ba : Nat) (tw : Option Nat) (g : Option Bool) (h : c.Floors) :
    (c.calculateCwnd ba tw g).1.Floors := by
  have hmin := bbr_minCwnd_floor h.1
  fun_cases Bbr.calculateCwnd c ba tw g
  case case3 => exact ⟨h.1, iteInduction (fun _ => hmin) fun hn => Nat.le_trans hmin (Nat.le_of_not_lt hn), h.2.2⟩
  all_goals exact h

def Bbr.OkInv (r : Bbr × Out) : Prop := r.2 = .ok → r.1.Inv

/-- out of recovery the fourth field of `Inv` asks nothing; in recovery `recovery_window` has just been set to
    `max min_cwnd _`, whatever it was before -/
theorem bbr_calculateRecoveryWindow_inv (c : Bbr) (ba bl inf : Nat) (h : c.Floors) :
    Bbr.OkInv (c.calculateRecoveryWindow ba bl inf) := by
  have hmin := bbr_minCwnd_floor h.1
  fun_cases Bbr.calculateRecoveryWindow c ba bl inf
  case case1 hn => exact fun _ => ⟨h.1, h.2.1, h.2.2, fun hr => nomatch hr ▸ hn⟩
  case case2 | case4 => exact nofun
  case case3 => exact fun _ => ⟨h.1, h.2.1, h.2.2, fun _ => Nat.le_trans hmin (Nat.le_max_left _ _)⟩
  case case5 => exact fun _ => ⟨h.1, h.2.1, h.2.2, fun _ => floor_clamp _ hmin⟩

theorem bbr_recalc_inv (c : Bbr) (ba inf : Nat) (tw : Option Nat) (g : Option Bool) (h : c.Floors) :
    Bbr.OkInv (c.recalc ba inf tw g) := by
  fun_cases Bbr.recalc c ba inf tw g
  case case1 c5 e5 c6 e6 =>
    have h5 : (c5, Out.ok).1.Floors := e5 ▸ bbr_calculateCwnd_floors c ba tw g h
    have i := (e6 ▸ bbr_calculateRecoveryWindow_inv c5 ba _ inf h5 : Bbr.OkInv (c6, .ok)) rfl
    exact fun _ => ⟨i.minCwnd, i.cwnd, i.initCwnd, i.rw⟩
  all_goals exact fun e => absurd e ‹_›

theorem bbr_onEndAcks_inv (c : Bbr) (inf : Nat) (lg : Option Nat) (o : BbrEndObs) (hi : c.Inv) :
    Bbr.OkInv (c.onEndAcks inf lg o) := by
  unfold Bbr.onEndAcks
  extract_lets c2 c3
  have h3 : c3.Floors := bbr_updateRecoveryState_floors _ _ (bbr_startRound_floors c lg _ ⟨hi.minCwnd, hi.cwnd, hi.initCwnd⟩)
  -- the mode machine in between sets `mode` and `full`, which `Floors` does not look at
  clear_value c3
  exact bbr_recalc_inv _ _ _ _ _ h3

theorem bbr_step_inv (c : Bbr) (op : BbrOp) (hi : c.Inv) : Bbr.OkInv (c.step op) := by
  cases op with
  | sent pn => exact fun _ => ⟨hi.minCwnd, hi.cwnd, hi.initCwnd, hi.rw⟩
  -- a byte counter moves, or the call panics
  | ack b | cong b => exact iteInduction nofun fun _ _ => ⟨hi.minCwnd, hi.cwnd, hi.initCwnd, hi.rw⟩
  | endAcks inf lg o => exact bbr_onEndAcks_inv c inf lg o hi
  | spurious => exact fun _ => hi
  -- `on_mtu_update` raises min_cwnd, init_cwnd, cwnd AND recovery_window to the new floor
  | mtu m => exact fun _ => ⟨rfl, two_le_max4 _ m, two_le_max4 _ m, fun _ => two_le_max4 _ m⟩

theorem bbr_run_inv (ops : List BbrOp) (c c' : Bbr) (hi : c.Inv) (h : c.run ops = some c') : c'.Inv := by
  fun_induction Bbr.run c ops
  case case1 => cases h; exact hi
  case case2 c op t c1 e ih => exact ih ((e ▸ bbr_step_inv c op hi : Bbr.OkInv (c1, .ok)) rfl) h
  case case3 => cases h

/-- the former F7 witness (= /verif/corpus/cc/F7.ops with the observed values the real code produced), kept
    as a regression history: two packets acked, first `on_end_acks` enters PROBE_RTT; a loss; next round start
    enters recovery, full bandwidth, PROBE_BW with `recovery_window = min_cwnd = 4800`; then the MTU grows from
    1200 to 9000.  Before the fix `window()` was 4800 afterwards. -/
def f7Witness : List BbrOp :=
  [.sent 1, .sent 2, .ack 1200, .ack 1200,
   .endAcks 0 (some 2) ⟨2400, .probeRtt, false, none, none⟩,
   .sent 3, .cong 1200, .sent 4, .ack 1200,
   .endAcks 0 (some 4) ⟨1200, .probeBw, true, some 120000, some true⟩,
   .mtu 9000]

theorem f7_window : ((Bbr.new 1200).run f7Witness).bind (fun c => c.window none) = some 36000 := by decide

theorem f7_state : ((Bbr.new 1200).run f7Witness).map (fun c => (c.mtu, c.recovery, c.mode, c.recoveryWindow, c.cwnd))
    = some (9000, .conservation, .probeBw, 36000, 120000) := by decide

end QM.Controllers
