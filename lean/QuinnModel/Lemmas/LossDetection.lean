import QuinnModel.Recovery.LossDetection
namespace QM.LossDetection

theorem natMax_eq (a b : Nat) : Nat.max a b = max a b := rfl

theorem lossDelay_ge (scaledRtt : Nat) : Gen.c12TimerGranularityNs ≤ lossDelay scaledRtt ∧ scaledRtt ≤ lossDelay scaledRtt :=
  ⟨Nat.le_max_right .., Nat.le_max_left ..⟩

theorem declaredLost_iff (now largest thr delay : Nat) (p : Nat × Nat) :
    declaredLost now largest thr delay p = true ↔
      p.1 < largest ∧ (delay ≤ now - p.2 ∨ p.1 + thr ≤ largest) := by
  simp only [declaredLost, Gen.lossCandidate, Gen.lossDecision, Gen.packetTooOld, Bool.and_eq_true, Bool.or_eq_true,
    decide_eq_true_eq, ge_iff_le]

theorem detect_nil_of_above {tracked : List (Nat × Nat)} {now largest thr scaledRtt : Nat}
    (h : ∀ p ∈ tracked, largest < p.1) : detect tracked now largest thr scaledRtt = [] := by
  unfold detect
  rw [List.map_eq_nil_iff, List.filter_eq_nil_iff]
  exact fun p hp hl => Nat.lt_asymm (h p hp) ((declaredLost_iff ..).1 hl).1

structure Inv (s : S) : Prop where
  above : ∀ l, s.largest = some l → l < s.next ∧ ∀ p ∈ s.tracked, l < p.1
  nolost : s.lost = []

theorem inv_init : Inv {} := ⟨nofun, rfl⟩

theorem step_inv (thr : Nat) (s : S) (e : Ev) (hi : Inv s) (hw : wf s e) : Inv (step thr s e) := by
  obtain ⟨ha, hl⟩ := hi
  fun_cases step thr s e with
  | case1 t pn =>
    refine ⟨fun l hl' => ?_, hl⟩
    have hlt := Nat.lt_of_lt_of_le (ha l hl').1 hw
    exact ⟨Nat.lt_succ_of_lt hlt, List.forall_mem_append.2 ⟨(ha l hl').2, List.forall_mem_singleton.2 hlt⟩⟩
  | case2 t k sr L T =>
    -- whatever the new largest acknowledged number `L` is: the packets that stay tracked are above it, so none is lost
    have key : ∀ L, L < s.next → (∀ p ∈ s.tracked, k < p.1 → L < p.1) →
        Inv { s with largest := some L, tracked := T, lost := s.lost ++ detect T t L thr sr } := fun L h1 h2 =>
      have hab : ∀ p ∈ T, L < p.1 := fun p hp =>
        h2 p (List.mem_filter.1 hp).1 (of_decide_eq_true (List.mem_filter.1 hp).2)
      ⟨fun _ e => Option.some.inj e ▸ ⟨h1, hab⟩, by rw [hl, detect_nil_of_above hab]; rfl⟩
    unfold L
    split
    next l hL => exact key _ (Nat.max_lt.2 ⟨(ha l hL).1, hw⟩) fun p hp hk => Nat.max_lt.2 ⟨(ha l hL).2 p hp, hk⟩
    next => exact key k hw fun _ _ h => h
  | case3 => exact ⟨ha, hl⟩
  | case4 t sr l hL => exact ⟨ha, by rw [hl, detect_nil_of_above (ha l hL).2]; rfl⟩

theorem run_inv (thr : Nat) (evs : List Ev) (s : S) (hi : Inv s) (hw : WF thr s evs) : Inv (run thr s evs) := by
  induction evs generalizing s with
  | nil => exact hi
  | cons e t ih => exact ih (step thr s e) (step_inv thr s e hi hw.1) hw.2

end QM.LossDetection
