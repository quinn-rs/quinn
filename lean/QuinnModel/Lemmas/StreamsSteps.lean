import QuinnModel.Lemmas.StreamsBasic
namespace QM.Streams

/-- a history: operations with the implementation-visible result, newest first -/
abbrev Hist := List (Op × Out)

/-- `new` and `rejected` restart the state; they are not part of a history's body -/
def Op.isRestart : Op → Bool
  | .new _ | .rejected => true
  | _ => false

/-- unpack `(f s).map g = some (s', out)` -/
macro "unstep " h:ident : tactic =>
  `(tactic| (simp only [step, Option.map_eq_some_iff, Option.some.injEq, Prod.mk.injEq, Prod.exists] at $h:ident))

/-- `step` as a relation: one constructor per operation, naming the call of the model it makes and the
    answer that is printed for its result -/
inductive Steps (s : State) : Op → State → Out → Prop
  | new {c s'} : State.new c = some s' → Steps s (.new c) s' .ok
  | params (p) : Steps s (.params p) (s.setParams p) .ok
  | conn (b) : Steps s (.conn b) { s with connClosed := b } .ok
  | open_ {d s' r} : s.open_ d = some (s', r) →
      Steps s (.open_ d) s' (match r with | some id => .okNat id | none => .none_)
  | accept (d) : Steps s (.accept d) (s.accept d).1 (match (s.accept d).2 with | some id => .okNat id | none => .none_)
  | write {id n s' r} : s.write id n = some (s', r) →
      Steps s (.write id n) s' (match r with | .ok k => .okNat k | .error e => .errWrite e)
  | finish (id) : Steps s (.finish id) (s.finish id).1 (match (s.finish id).2 with | .ok _ => .ok | .error e => .errWrite e)
  | reset {id code s' b} : s.reset id code = some (s', b) → Steps s (.reset id code) s' (if b then .ok else .errClosed)
  | stopped (id) : Steps s (.stopped id) s (match s.stopped id with | some o => .okOpt o | none => .errClosed)
  | prio (id p) : Steps s (.prio id p) (s.setPriority id p).1 (if (s.setPriority id p).2 then .ok else .errClosed)
  | stream {id off len fin s' r} : s.received id off len fin = some (s', r) → Steps s (.stream id off len fin) s' (outT r)
  | rst {id code fo s' r} : s.receivedReset id code fo = some (s', r) → Steps s (.rst id code fo) s' (outT r)
  | stopSending (id code) : Steps s (.stopSending id code) (s.receivedStopSending id code) .ok
  | maxData (n) : Steps s (.maxData n) (s.receivedMaxData n) .ok
  | maxStreamData {id n s' e} : s.receivedMaxStreamData id n = some (s', e) →
      Steps s (.maxStreamData id n) s' (match e with | none => .ok | some e => .errT e)
  | maxStreams (d n) : Steps s (.maxStreams d n) (s.receivedMaxStreams d n).1
      (match (s.receivedMaxStreams d n).2 with | none => .ok | some e => .errT e)
  | ack {id a e fin s'} : s.receivedAckOf id a e fin = some s' → Steps s (.ack id a e fin) s' .ok
  | lost {id a e fin s'} : s.retransmit id a e fin = some s' → Steps s (.lost id a e fin) s' .ok
  | rstAck {id s'} : s.resetAcked id = some s' → Steps s (.rstAck id) s' .ok
  | read {id budget s' r} : s.read id budget = some (s', r) →
      Steps s (.read id budget) s' (match r with | .closedStream => .errClosed | .ok k e t => .read k e t)
  | stop {id code s' b} : s.stop id code = some (s', b) → Steps s (.stop id code) s' (if b then .ok else .errClosed)
  | recvReset {id s' r} : s.recvReceivedReset id = some (s', r) →
      Steps s (.recvReset id) s' (match r with | none => .errClosed | some o => .okOpt o)
  | poll {s' e} : s.poll = some (s', e) → Steps s .poll s' (match e with | some e => .event e | none => .none_)
  | transmit {maxBuf fair s' len fs} :
      s.writeStreamFrames maxBuf fair (maxBuf + s.pending.streams.length + 2) 0 [] = some (s', len, fs) →
      Steps s (.transmit maxBuf fair) s' (.xmit len fs)
  | canSend : Steps s .canSend s (.bool s.canSendStreamData)
  | canFlow (id) : Steps s (.canFlow id) s (.bool (s.canSendFlowControl id))
  | ctrl {s' fs} : s.writeControlFrames = some (s', fs) → Steps s .ctrl s' (.ctrl fs)
  | queueMaxStreamId {s' b} : s.queueMaxStreamId = some (s', b) → Steps s .queueMaxStreamId s' (.bool b)
  | pendMaxData : Steps s .pendMaxData { s with rtx := { s.rtx with maxData := true } } .ok
  | pendMaxStreamData (id) : Steps s (.pendMaxStreamData id)
      { s with rtx := { s.rtx with maxStreamData := sortedInsert s.rtx.maxStreamData id } } .ok
  | pendMaxStreamId (d) : Steps s (.pendMaxStreamId d)
      { s with rtx := { s.rtx with maxStreamId := s.rtx.maxStreamId.set d true } } .ok
  | sendWindow (n) : Steps s (.sendWindow n) { s with sendWindow := n } .ok
  | recvWindow (n) : Steps s (.recvWindow n) (s.setReceiveWindow n).1 (.okFlag (s.setReceiveWindow n).2)
  | maxConcurrent {d n s'} : s.setMaxConcurrent d n = some s' → Steps s (.maxConcurrent d n) s' .ok
  | rejected {s'} : s.zeroRttRejected = some s' → Steps s .rejected { s' with rtx := {} } .ok
  | rtx0 {s'} : s.retransmitAllFor0rtt = some s' → Steps s .rtx0 s' .ok
  | view : Steps s .view s .ok

theorem Steps.of_step {s s' : State} {o : Op} {out : Out} (h : step s o = some (s', out)) : Steps s o s' out := by
  cases o <;> first
    | (cases h; constructor)
    | (obtain ⟨a, h1, h2⟩ := Option.map_eq_some_iff.mp h; cases h2; constructor; exact h1)

/-- run a list of operations from `s`, extending the history `h` -/
def runOps : State → Hist → List Op → Option (State × Hist)
  | s, h, [] => some (s, h)
  | s, h, o :: os =>
    match step s o with
    | none => none
    | some (s', out) => runOps s' ((o, out) :: h) os

end QM.Streams
