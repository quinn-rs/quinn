import QuinnModel.Lemmas.StreamsBasic
/-
C06 — the receiver enforces its own limits: the decisions of `Recv::ingest` and `Recv::reset` as
tables (which error, or which new half, under which condition); then what an accepted frame, a reset and
`stop` do to the high-water mark and the final size (`ingest_end`, `resetSizeErr_none`, `stop_spec`), for the
receive accounting and for the end-to-end composition.
-/
namespace QM.Streams

def Recv.finalSizeConflict (r : Recv) (end_ : Nat) (fin : Bool) : Prop :=
  (∃ fo, r.finalOffset = some fo ∧ (end_ > fo ∨ (fin = true ∧ end_ ≠ fo))) ∨
  (fin = true ∧ end_ < r.end_)

theorem creditConsumedBy_cases {r : Recv} {offset received maxData : Nat} {res : Except TErr Nat}
    (h : r.creditConsumedBy offset received maxData = some res) :
    ((offset > r.sentMaxStreamData ∨ received + (offset - r.end_) > maxData) ∧ res = .error (.flowControl "")) ∨
    (offset ≤ r.sentMaxStreamData ∧ received + (offset - r.end_) ≤ maxData ∧ res = .ok (offset - r.end_)) := by
  unfold Recv.creditConsumedBy at h
  simp only [Gen.creditOverStream, Gen.creditOverConn, Gen.creditNewBytes, addU] at h
  by_cases h1 : offset > r.sentMaxStreamData
  · simp only [h1, decide_true, ↓reduceIte, Option.some.injEq] at h
    exact Or.inl ⟨Or.inl h1, h.symm⟩
  · simp only [h1, decide_false, Bool.false_eq_true, ↓reduceIte] at h
    by_cases h0 : received + (offset - r.end_) < 2 ^ 64
    · simp only [h0, ↓reduceIte] at h
      by_cases h2 : received + (offset - r.end_) > maxData
      · simp only [h2, decide_true, ↓reduceIte, Option.some.injEq] at h
        exact Or.inl ⟨Or.inr h2, h.symm⟩
      · simp only [h2, decide_false, Bool.false_eq_true, ↓reduceIte, Option.some.injEq] at h
        exact Or.inr ⟨by omega, by omega, h.symm⟩
    · simp only [h0, ↓reduceIte] at h
      by_cases hg : (Gen.creditOverflowIsError && decide (maxData < 2 ^ 64)) = true
      · simp only [hg, ↓reduceIte, Option.some.injEq] at h
        have hm : maxData < 2 ^ 64 := by
          simp only [Bool.and_eq_true, decide_eq_true_eq] at hg; exact hg.2
        exact Or.inl ⟨Or.inr (by omega), h.symm⟩
      · simp [hg] at h

theorem finalSizeErr_iff (r : Recv) (end_ : Nat) (fin : Bool) :
    r.finalSizeErr end_ fin = true ↔ r.finalSizeConflict end_ fin := by
  unfold Recv.finalSizeErr Recv.finalSizeConflict
  simp only [Gen.ingestFinBelowEndIsError, Bool.true_and]
  cases hfo : r.finalOffset with
  | none => simp
  | some fo => simp

theorem ingestTail_cases {r : Recv} {offset len received maxData : Nat} {fin : Bool}
    {res : Except TErr (Nat × Bool × Recv)} (h : r.ingestTail offset len fin received maxData = some res) :
    ((offset + len > r.sentMaxStreamData ∨ received + (offset + len - r.end_) > maxData) ∧
      res = .error (.flowControl "")) ∨
    (offset + len ≤ r.sentMaxStreamData ∧ received + (offset + len - r.end_) ≤ maxData ∧
      ∃ r', res = .ok (offset + len - r.end_, fin && r.stopped, r') ∧
        r'.end_ = Nat.max r.end_ (offset + len) ∧ r'.sentMaxStreamData = r.sentMaxStreamData ∧
        r'.stopped = r.stopped ∧ r'.assembler.bytesRead = r.assembler.bytesRead ∧
        r'.assembler = (if !r.stopped then r.assembler.insert offset len else r.assembler)) := by
  unfold Recv.ingestTail at h
  dsimp only at h
  split at h
  · contradiction
  · rename_i e hcc
    simp only [Option.some.injEq] at h
    rcases creditConsumedBy_cases hcc with ⟨hh, he⟩ | ⟨_, _, he⟩
    · left; exact ⟨hh, by rw [← h, ← (Except.error.inj he)]⟩
    · contradiction
  · rename_i nb hcc
    simp only [Option.some.injEq] at h
    rcases creditConsumedBy_cases hcc with ⟨_, he⟩ | ⟨h3, h4, he⟩
    · contradiction
    · right
      have := Except.ok.inj he; subst this
      refine ⟨h3, h4, _, h.symm, rfl, rfl, rfl, ?_, rfl⟩
      simp only
      split <;> simp [Asm.insert]

theorem ingest_cases {r : Recv} {offset len received maxData : Nat} {fin : Bool}
    {res : Except TErr (Nat × Bool × Recv)} (h : r.ingest offset len fin received maxData = some res) :
    (offset + len ≥ 2 ^ 62 ∧ res = .error (.flowControl "maximum stream offset too large")) ∨
    (offset + len < 2 ^ 62 ∧ r.finalSizeConflict (offset + len) fin ∧ res = .error (.finalSize "")) ∨
    (offset + len < 2 ^ 62 ∧ ¬ r.finalSizeConflict (offset + len) fin ∧
      (offset + len > r.sentMaxStreamData ∨ received + (offset + len - r.end_) > maxData) ∧
      res = .error (.flowControl "")) ∨
    (offset + len < 2 ^ 62 ∧ ¬ r.finalSizeConflict (offset + len) fin ∧
      offset + len ≤ r.sentMaxStreamData ∧ received + (offset + len - r.end_) ≤ maxData ∧
      ∃ r', res = .ok (offset + len - r.end_, fin && r.stopped, r') ∧
        r'.end_ = Nat.max r.end_ (offset + len) ∧ r'.sentMaxStreamData = r.sentMaxStreamData ∧
        r'.stopped = r.stopped ∧ r'.assembler.bytesRead = r.assembler.bytesRead ∧
        r'.assembler = (if !r.stopped then r.assembler.insert offset len else r.assembler)) := by
  unfold Recv.ingest at h
  simp only [Gen.ingestEndBound] at h
  by_cases h1 : offset + len ≥ 2 ^ 62
  · simp only [h1, ↓reduceIte, Option.some.injEq] at h; exact Or.inl ⟨h1, h.symm⟩
  · simp only [h1, ↓reduceIte] at h
    have hlt : offset + len < 2 ^ 62 := by omega
    right
    by_cases hc : r.finalSizeErr (offset + len) fin = true
    · simp only [hc, ↓reduceIte, Option.some.injEq] at h
      exact Or.inl ⟨hlt, (finalSizeErr_iff _ _ _).mp hc, h.symm⟩
    · simp only [hc, Bool.false_eq_true, ↓reduceIte] at h
      have hnc : ¬ r.finalSizeConflict (offset + len) fin := fun hh => hc ((finalSizeErr_iff _ _ _).mpr hh)
      right
      rcases ingestTail_cases h with ⟨h3, he⟩ | ⟨h3, h4, he⟩
      · exact Or.inl ⟨hlt, hnc, h3, he⟩
      · exact Or.inr ⟨hlt, hnc, h3, h4, he⟩

theorem reset_cases {r : Recv} {code finalOffset received maxData : Nat}
    {res : Except TErr (Bool × Recv)} (h : r.reset code finalOffset received maxData = some res) :
    (∃ fo, r.finalOffset = some fo ∧ fo ≠ finalOffset ∧ res = .error (.finalSize "inconsistent value")) ∨
    (r.finalOffset = none ∧ r.end_ > finalOffset ∧ res = .error (.finalSize "lower than high water mark")) ∨
    (r.resetSizeErr finalOffset = none ∧
      (r.isReceiving = true ∧ (finalOffset > r.sentMaxStreamData ∨ received + (finalOffset - r.end_) > maxData)) ∧
      res = .error (.flowControl "")) ∨
    (r.resetSizeErr finalOffset = none ∧ (r.isReceiving = true → finalOffset ≤ r.sentMaxStreamData) ∧
      (r.isReceiving = true → received + (finalOffset - r.end_) ≤ maxData) ∧
      ((∃ sz c, r.state = .resetRecvd sz c ∧ res = .ok (false, r)) ∨
       (∃ sz, r.state = .recv sz ∧
          res = .ok (true, { r with state := .resetRecvd finalOffset code, assembler := r.assembler.clear })))) := by
  unfold Recv.reset at h
  cases hse : r.resetSizeErr finalOffset with
  | some e =>
    simp only [hse, Option.some.injEq] at h
    unfold Recv.resetSizeErr at hse
    cases hfo : r.finalOffset with
    | none =>
      simp only [hfo] at hse
      split at hse
      · simp only [Option.some.injEq] at hse
        exact Or.inr (Or.inl ⟨rfl, ‹_›, by rw [← h, ← hse]⟩)
      · contradiction
    | some fo =>
      simp only [hfo] at hse
      split at hse
      · simp only [Option.some.injEq] at hse
        exact Or.inl ⟨fo, rfl, ‹_›, by rw [← h, ← hse]⟩
      · contradiction
  | none =>
    simp only [hse] at h
    right; right
    unfold Recv.resetTail at h
    simp only [Gen.resetDuplicateBeforeCredit, Bool.true_and] at h
    split at h
    · -- already reset: a no-op before any flow-control test
      rename_i hnr
      have hnr' : r.isReceiving = false := by simpa using hnr
      simp only [Option.some.injEq] at h
      right
      refine ⟨rfl, fun hx => by rw [hnr'] at hx; contradiction, fun hx => by rw [hnr'] at hx; contradiction, ?_⟩
      unfold Recv.isReceiving at hnr'
      split at hnr'
      · contradiction
      · rename_i sz c hst; exact Or.inl ⟨sz, c, hst, h.symm⟩
    rename_i hrc
    have hrc' : r.isReceiving = true := by simpa using hrc
    split at h
    · contradiction
    · rename_i e hcc
      simp only [Option.some.injEq] at h
      rcases creditConsumedBy_cases hcc with ⟨hh, he⟩ | ⟨_, _, he⟩
      · left; exact ⟨rfl, ⟨hrc', hh⟩, by rw [← h, ← (Except.error.inj he)]⟩
      · contradiction
    · rename_i nb hcc
      rcases creditConsumedBy_cases hcc with ⟨_, he⟩ | ⟨h3, h4, _⟩
      · contradiction
      · right
        refine ⟨rfl, fun _ => h3, fun _ => h4, ?_⟩
        split at h
        · rename_i sz c hst
          simp only [Option.some.injEq] at h
          exact Or.inl ⟨sz, c, hst, h.symm⟩
        · rename_i sz hst
          simp only [Option.some.injEq] at h
          exact Or.inr ⟨sz, hst, h.symm⟩

theorem reset_ok {r r' : Recv} {code finalOffset received maxData : Nat} {b : Bool}
    (h : r.reset code finalOffset received maxData = some (.ok (b, r'))) :
    r.resetSizeErr finalOffset = none ∧ r.isReceiving = b ∧
    ((b = false ∧ r' = r) ∨
     (b = true ∧ received + (finalOffset - r.end_) ≤ maxData ∧
        r' = { r with state := .resetRecvd finalOffset code, assembler := r.assembler.clear })) := by
  rcases reset_cases h with ⟨_, _, _, he⟩ | ⟨_, _, he⟩ | ⟨_, _, he⟩ | ⟨hse, _, h4, ⟨_, _, hst, he⟩ | ⟨_, hst, he⟩⟩
  all_goals cases he
  · exact ⟨hse, by simp [Recv.isReceiving, hst], Or.inl ⟨rfl, rfl⟩⟩
  · have hrc : r.isReceiving = true := by simp [Recv.isReceiving, hst]
    exact ⟨hse, hrc, Or.inr ⟨rfl, h4 hrc, rfl⟩⟩

theorem ingest_state {r r' : Recv} {offset len received maxData nb : Nat} {fin cl : Bool}
    (h : r.ingest offset len fin received maxData = some (.ok (nb, cl, r'))) :
    r'.state = if fin && !r.stopped then
        (match r.state with
         | .recv _ => RecvState.recv (some (offset + len))
         | s => s)
      else r.state := by
  unfold Recv.ingest at h
  split at h
  · cases h
  split at h
  · cases h
  unfold Recv.ingestTail at h
  dsimp only at h
  split at h
  · cases h
  · cases h
  · simp only [Option.some.injEq, Except.ok.injEq, Prod.mk.injEq] at h
    rw [← h.2.2]; rfl

theorem ingest_receiving {r r' : Recv} {offset len received maxData nb : Nat} {fin cl : Bool}
    (h : r.ingest offset len fin received maxData = some (.ok (nb, cl, r'))) :
    r'.isReceiving = r.isReceiving := by
  simp only [Recv.isReceiving, ingest_state h]
  cases r.state <;> by_cases hc : (fin && !r.stopped) = true <;> simp [hc]

theorem ingest_state_cases {r r' : Recv} {offset len received maxData nb : Nat} {fin cl : Bool}
    (h : r.ingest offset len fin received maxData = some (.ok (nb, cl, r'))) :
    r'.state = r.state ∨ (∃ sz, r.state = .recv sz ∧ r'.state = .recv (some (offset + len)) ∧ fin = true) := by
  rw [ingest_state h]
  by_cases c : (fin && !r.stopped) = true
  · rw [if_pos c]
    cases r.state with
    | recv sz => exact Or.inr ⟨sz, rfl, rfl, (Bool.and_eq_true_iff.mp c).1⟩
    | resetRecvd fo c => exact Or.inl rfl
  · rw [if_neg c]; exact Or.inl rfl

theorem ingest_end {r r' : Recv} {offset len received maxData nb : Nat} {fin cl : Bool}
    (h : r.ingest offset len fin received maxData = some (.ok (nb, cl, r')))
    (hle : ∀ fo, r.finalOffset = some fo → r.end_ ≤ fo) :
    r'.end_ = max r.end_ (offset + len) ∧ (∀ fo, r'.finalOffset = some fo → r'.end_ ≤ fo) ∧
    ∀ fo, r.finalOffset = some fo → r'.finalOffset = some fo := by
  rcases ingest_cases h with ⟨_, he⟩ | ⟨_, _, he⟩ | ⟨_, _, _, he⟩ | ⟨_, hnc, _, _, r'', he, e1, _⟩
  · cases he
  · cases he
  · cases he
  · simp only [Except.ok.injEq, Prod.mk.injEq] at he
    obtain ⟨_, _, rfl⟩ := he
    refine ⟨e1, fun fo hf => ?_, fun fo hf => ?_⟩
    · rw [e1]
      rcases ingest_state_cases h with h1 | ⟨sz, _, h2, hfin⟩
      · have hold : r.finalOffset = some fo := by simpa only [Recv.finalOffset, h1] using hf
        exact Nat.max_le.mpr ⟨hle fo hold, Nat.le_of_not_lt (fun hgt => hnc (Or.inl ⟨fo, hold, Or.inl hgt⟩))⟩
      · obtain rfl : offset + len = fo := by simpa only [Recv.finalOffset, h2, Option.some.injEq] using hf
        exact Nat.max_le.mpr ⟨Nat.le_of_not_lt (fun hlt => hnc (Or.inr ⟨hfin, hlt⟩)), Nat.le_refl _⟩
    · rcases ingest_state_cases h with h1 | ⟨sz, h1, h2, hfin⟩
      · simp only [Recv.finalOffset, h1] at hf ⊢; exact hf
      · have : offset + len = fo :=
          Classical.byContradiction (fun hne => hnc (Or.inl ⟨fo, hf, Or.inr ⟨hfin, hne⟩⟩))
        simp [Recv.finalOffset, h2, this]

theorem resetSizeErr_none {r : Recv} {fs : Nat} (h : r.resetSizeErr fs = none)
    (hle : ∀ fo, r.finalOffset = some fo → r.end_ ≤ fo) :
    (∀ fo, r.finalOffset = some fo → fo = fs) ∧ r.end_ ≤ fs := by
  revert h
  fun_cases Recv.resetSizeErr r fs
  all_goals intro h; cases h
  case case2 fo hfo hne =>
    obtain rfl := Decidable.not_not.mp hne
    exact ⟨fun fo' h' => (Option.some.inj (hfo ▸ h')).symm, hle fo hfo⟩
  case case4 hfo hgt => exact ⟨fun fo' h' => absurd (hfo ▸ h') nofun, Nat.le_of_not_lt hgt⟩

theorem stop_spec {v v' : Recv} {cr : Nat} {ss : Bool} (h : v.stop = some (some (cr, ss, v'))) :
    v'.state = v.state ∧ v'.end_ = v.end_ := by
  revert h
  fun_cases Recv.stop v
  all_goals intro h; cases h
  exact ⟨rfl, rfl⟩

end QM.Streams
