import QuinnModel.Lemmas.EndToEndSend
import QuinnModel.Lemmas.StreamsC06
/-
C01 end to end: the receiver's events preserve the invariant.
-/
namespace QM.E2E
open QM QM.RangeSet
open QM.Streams (ingest_state_cases ingest_end resetSizeErr_none stop_spec)
open QM.Assembler (stream delivered)

theorem RInv.asm {g : Nat → Nat} {s : St} (i : RInv g s) : Assembler.Inv g s.asm := ⟨i.asmO, i.asmX, i.asmB⟩

theorem ginv_got {s : St} (f : Frame) (i : GInv s) : GInv { s with got := f :: s.got } :=
  fun r hr =>
    let ⟨b, fin, hb, hl⟩ := i r hr
    ⟨b, fin, List.mem_cons_of_mem _ hb, hl⟩

theorem inv_recv {g : Nat → Nat} {s : St} {rv' : Streams.Recv} {asm' : Assembler.Sys} {got' : List Frame}
    {rlive' eos' : Bool} {saw' stop' : Option Nat} (i : Inv g s) (G : GInv { s with got := got' })
    (hA : Assembler.Inv g asm')
    (hend : rv'.end_ ≤ s.sys.w.length) (hmono : s.rv.end_ ≤ rv'.end_) (haend : asm'.a.end_ ≤ rv'.end_)
    (hout : asm'.out = s.asm.out ∨ asm'.a.unordered = false)
    (hfl : ∀ fo, rv'.finalOffset = some fo → rv'.end_ ≤ fo)
    (hsz : ∀ fo, rv'.state = .recv (some fo) → s.finishedAt = some fo)
    (hrs : ∀ fo c, rv'.state = .resetRecvd fo c → s.appReset = some c ∧ fo = s.sys.w.length)
    (hch : ∃ l, asm'.chunks = l ++ s.asm.chunks)
    (heos : eos' = true → s.eos = true ∨ ∃ n, s.finishedAt = some n ∧ ∀ y, y < n → mem y (delivered asm'))
    (hsaw : ∀ c, saw' = some c → s.sawReset = some c ∨ s.appReset = some c) :
    Inv g { s with rv := rv', asm := asm', rlive := rlive', got := got', eos := eos', sawReset := saw',
                   stopCode := stop' } := by
  refine ⟨i.S.receiver rfl rfl rfl rfl rfl rfl rfl rfl, G,
    ⟨hA.O, hA.X, hA.B, hend, haend, ?_, hfl, hsz, hrs, fun he => ?_, fun c hc => ?_⟩⟩
  · rcases hout with h | h
    · exact h ▸ Nat.le_trans i.R.out_le hmono
    · exact hA.O.out_len h ▸ Nat.le_trans (hA.B.sumEq ▸ Assembler.lenSum_le _ _ hA.X.px hA.B.delB) haend
  · rcases heos he with h | h
    · obtain ⟨n, h1, h2⟩ := i.R.eos_ok h
      obtain ⟨l, hl⟩ := hch
      refine ⟨n, h1, fun y hy => ?_⟩
      obtain ⟨p, hp, hpy⟩ := h2 y hy
      exact ⟨p, by unfold delivered at *; rw [hl, List.map_append]; exact List.mem_append_right _ hp, hpy⟩
    · exact h
  · exact (hsaw c hc).elim (i.R.saw_ok c) id

/-- an accepted STREAM frame of the sender, with what the assembler made of it (if it was asked) -/
theorem inv_ingest {g : Nat → Nat} {s : St} {off : Nat} {bytes : Bytes} {fin closed rlive' : Bool}
    {received maxData nb : Nat} {rv' : Streams.Recv} {asm' : Assembler.Sys} (i : Inv g s)
    (hin : Frame.stream off bytes fin ∈ s.net)
    (hing : s.rv.ingest off bytes.length fin received maxData = some (.ok (nb, closed, rv')))
    (hA : Assembler.Inv g asm')
    (c1 : asm'.a.end_ ≤ max s.asm.a.end_ (off + bytes.length)) (c2 : ∃ l, asm'.chunks = l ++ s.asm.chunks)
    (c3 : asm'.out = s.asm.out ∨ asm'.a.unordered = false) :
    Inv g { s with rv := rv', asm := asm', rlive := rlive', got := .stream off bytes fin :: s.got } := by
  obtain ⟨_, b2, b3⟩ := i.S.netS off bytes fin hin
  obtain ⟨e1, hfl, _⟩ := ingest_end hing i.R.fin_le
  have hmono : s.rv.end_ ≤ rv'.end_ := e1 ▸ Nat.le_max_left _ _
  have haend : max s.asm.a.end_ (off + bytes.length) ≤ rv'.end_ :=
    e1 ▸ Nat.max_le.mpr ⟨Nat.le_trans i.R.aend (Nat.le_max_left _ _), Nat.le_max_right _ _⟩
  refine inv_recv i (ginv_got _ i.G) hA (e1 ▸ Nat.max_le.mpr ⟨i.R.rv_end, b2⟩) hmono (Nat.le_trans c1 haend)
    c3 hfl (fun fo hst => ?_) (fun fo c hst => ?_) c2 Or.inl (fun _ => Or.inl)
  · rcases ingest_state_cases hing with h1 | ⟨sz, _, h2, hfin⟩
    · exact i.R.rv_size fo (h1 ▸ hst)
    · rw [h2] at hst; cases hst; exact b3 hfin
  · rcases ingest_state_cases hing with h1 | ⟨sz, _, h2, _⟩
    · exact i.R.rv_reset fo c (h1 ▸ hst)
    · rw [h2] at hst; cases hst

theorem inv_deliver {g : Nat → Nat} {s s' : St} {f : Frame} {received maxData alloc : Nat} {tm : Bool}
    (i : Inv g s) (h : deliver s f received maxData alloc tm = some s') : Inv g s' := by
  have hA := i.R.asm
  have hgot : ∀ {f}, Inv g { s with got := f :: s.got } :=
    inv_recv i (ginv_got _ i.G) hA i.R.rv_end (Nat.le_refl _) i.R.aend (Or.inl rfl)
      i.R.fin_le i.R.rv_size i.R.rv_reset ⟨[], rfl⟩ Or.inl (fun _ => Or.inl)
  revert h
  fun_cases deliver s f received maxData alloc tm
  all_goals intro h; cases h
  case case2 => exact hgot
  case case3 => exact hgot
  case case5 => exact i
  case case6 hr _ _ _ hing _ hin =>
    exact inv_ingest i (Classical.not_not.mp hin) hing hA (Nat.le_max_left _ _) ⟨[], rfl⟩ (Or.inl rfl)
  case case8 hr _ _ _ hing _ asm' hst hin =>
    obtain ⟨c1, c2, c3⟩ := Assembler.step_frame i.R.asm hst
    exact inv_ingest i (Classical.not_not.mp hin) hing
      (Assembler.step_inv i.R.asm hst (i.S.netS _ _ _ (Classical.not_not.mp hin)).1)
      (Nat.le_of_eq c1) c2 c3
  case case10 => exact i
  case case11 => exact hgot
  case case13 code fs rv' hres asm' hst hin =>
    obtain ⟨b1, b2⟩ := i.S.netR code fs (Classical.not_not.mp hin)
    obtain ⟨c1, c2, c3⟩ := Assembler.step_frame i.R.asm hst
    obtain ⟨hse, _, ⟨hb, _⟩ | ⟨_, _, rfl⟩⟩ := Streams.reset_ok hres
    · cases hb
    · refine inv_recv i (ginv_got _ i.G) (Assembler.step_inv i.R.asm hst trivial)
        i.R.rv_end (Nat.le_refl _) (c1 ▸ i.R.aend) c3 (fun fo hf => ?_) (fun fo hst => nomatch hst)
        (fun fo c hst => ?_) c2 Or.inl (fun _ => Or.inl)
      · obtain rfl : fs = fo := by simpa [Streams.Recv.finalOffset] using hf
        exact (resetSizeErr_none hse i.R.fin_le).2
      · cases hst; exact ⟨b1, b2⟩

open QM.Streams in
theorem readEnd_cases {v : Recv} {e : ReadEnd} {b : Bool} (h : v.readEnd 0 1 = some (e, b)) :
    (∃ sz code, v.state = .resetRecvd sz code ∧ e = .reset code) ∨
    (v.state = .recv (some v.end_) ∧ v.assembler.bytesRead = v.end_ ∧ e = .fin) ∨ e = .blocked := by
  revert h
  fun_cases Recv.readEnd v 0 1
  all_goals intro h; cases h
  case case1 h => cases h
  case case2 sz code hst _ => exact Or.inl ⟨sz, code, hst, rfl⟩
  case case4 size hst hc =>
    simp only [Bool.and_eq_true, decide_eq_true_eq] at hc
    exact Or.inr (Or.inl ⟨by rw [hst, hc.1], hc.2, rfl⟩)
  case case5 => exact Or.inr (Or.inr rfl)

theorem inv_asm_step {g : Nat → Nat} {s : St} {rv' : Streams.Recv} {asm' : Assembler.Sys} {op : Assembler.Op}
    {rlive' eos' : Bool} {saw' stop' : Option Nat} (i : Inv g s)
    (hst : Assembler.step s.asm op = some asm') (hop : op.consistent g) (hend : asm'.a.end_ = s.asm.a.end_)
    (x1 : rv'.state = s.rv.state) (x2 : rv'.end_ = s.rv.end_)
    (heos : eos' = true → s.eos = true ∨ ∃ n, s.finishedAt = some n ∧ ∀ y, y < n → mem y (delivered asm'))
    (hsaw : ∀ c, saw' = some c → s.sawReset = some c ∨ s.appReset = some c) :
    Inv g { s with rv := rv', asm := asm', rlive := rlive', eos := eos', sawReset := saw', stopCode := stop' } := by
  have hfo : rv'.finalOffset = s.rv.finalOffset := by simp only [Streams.Recv.finalOffset, x1]
  obtain ⟨_, c2, c3⟩ := Assembler.step_frame i.R.asm hst
  exact inv_recv i i.G (Assembler.step_inv i.R.asm hst hop) (x2 ▸ i.R.rv_end) (Nat.le_of_eq x2.symm) (x2 ▸ hend ▸ i.R.aend) c3
    (hfo ▸ x2 ▸ i.R.fin_le) (x1 ▸ i.R.rv_size) (x1 ▸ i.R.rv_reset) c2 heos hsaw

theorem inv_read {g : Nat → Nat} {s s' : St} {max : Nat} {ordered : Bool} {obs : Assembler.Obs}
    (i : Inv g s) (h : read s max ordered obs = some s') : Inv g s' := by
  have hend {obs asm'} (hst : Assembler.step s.asm (.read max ordered obs) = some asm') :
      asm'.a.end_ = s.asm.a.end_ := (Assembler.step_frame i.R.asm hst).1
  revert h
  fun_cases read s max ordered obs
  all_goals intro h; cases h
  case case1 => exact i
  case case2 => exact i
  case case4 hst => exact inv_asm_step i hst trivial (hend hst) rfl rfl Or.inl (fun _ => Or.inl)
  case case6 asm' code _ hre hst =>
    refine inv_asm_step i hst trivial (hend hst) rfl rfl Or.inl (fun c hc => ?_)
    obtain rfl := Option.some.inj hc
    rcases readEnd_cases hre with ⟨sz, code', hs, he⟩ | ⟨_, _, he⟩ | he
    · obtain rfl := Streams.ReadEnd.reset.inj he
      exact Or.inr (i.R.rv_reset sz _ hs).1
    · cases he
    · cases he
  case case7 asm' _ hre hst =>
    refine inv_asm_step i hst trivial (hend hst) rfl rfl (fun _ => Or.inr ?_) (fun _ => Or.inl)
    obtain ⟨_, aX, aB⟩ := Assembler.step_inv i.R.asm hst trivial
    rcases readEnd_cases hre with ⟨_, _, _, he⟩ | ⟨hs, hbr, _⟩ | he
    · cases he
    · have hs' : s.rv.state = .recv (some s.rv.end_) := hs
      have hbr' : asm'.a.bytesRead = s.rv.end_ := hbr
      -- everything below the final size was read: the chunks are disjoint, lie below it and sum up to it
      refine ⟨s.rv.end_, i.R.rv_size _ hs', Assembler.cover_of_full _ s.rv.end_ aX.px (fun r hr hlt => ?_)
        (aB.sumEq.symm.trans hbr')⟩
      exact Nat.le_trans (aB.delB r hr hlt) (hend hst ▸ i.R.aend)
    · cases he
  case case8 hst => exact inv_asm_step i hst trivial (hend hst) rfl rfl Or.inl (fun _ => Or.inl)

theorem inv_openRead {g : Nat → Nat} {s s' : St} {ordered : Bool} (i : Inv g s)
    (h : openRead s ordered = some s') : Inv g s' := by
  revert h
  fun_cases openRead s ordered
  all_goals intro h; cases h
  case case1 => exact i
  case case2 => exact i
  case case4 hst =>
    exact inv_asm_step i hst trivial (Assembler.step_frame i.R.asm hst).1 rfl rfl Or.inl (fun _ => Or.inl)

theorem inv_stop {g : Nat → Nat} {s s' : St} {code : Nat} (i : Inv g s) (h : stop s code = some s') :
    Inv g s' := by
  revert h
  fun_cases stop s code
  all_goals intro h; cases h
  case case1 => exact i
  case case3 => exact i
  case case5 hsp _ hst =>
    obtain ⟨p1, p2⟩ := stop_spec hsp
    exact inv_asm_step i hst trivial (Assembler.step_frame i.R.asm hst).1 p1 p2 Or.inl (fun _ => Or.inl)

end QM.E2E
