import QuinnModel.Recovery.SentPackets
/-
The `SentPackets` ring refines a finite map from packet numbers to packets.
`insert_spec` and `remove_spec` say once what the two operations do (to the entry list, the counter and the
end of the ring); the map view, the counter invariant `RingWF` and the `values` view are read off from them.
-/
namespace QM.SentPackets

/-- present entries with their packet numbers, in slot order -/
def entriesFrom : Nat → List (Option Pkt) → List (Nat × Pkt)
  | _, [] => []
  | o, none :: t => entriesFrom (o + 1) t
  | o, some v :: t => (o, v) :: entriesFrom (o + 1) t

def entries (r : Ring) : List (Nat × Pkt) := entriesFrom r.offset r.slots

/-- the abstraction: the finite map a ring stands for -/
def absSlots (off : Nat) (slots : List (Option Pkt)) (pn : Nat) : Option Pkt :=
  if pn < off then none else (slots[pn - off]?).join

def abs (r : Ring) : Nat → Option Pkt := absSlots r.offset r.slots

theorem entriesFrom_eq (l : List (Option Pkt)) (o : Nat) :
    entriesFrom o l = (l.zipIdx o).filterMap fun x => x.1.map (x.2, ·) := by
  induction l generalizing o with
  | nil => rfl
  | cons x t ih => cases x <;> simp [entriesFrom, ih]

theorem mem_entriesFrom {l : List (Option Pkt)} {o pn : Nat} {v : Pkt} :
    (pn, v) ∈ entriesFrom o l ↔ o ≤ pn ∧ l[pn - o]? = some (some v) := by
  rw [entriesFrom_eq, List.mem_filterMap, ← List.mk_mem_zipIdx_iff_le_and_getElem?_sub]
  constructor
  · rintro ⟨⟨_ | w, n⟩, hm, ⟨⟩⟩
    exact hm
  · exact fun hm => ⟨_, hm, rfl⟩

theorem entriesFrom_bounds (l : List (Option Pkt)) (o : Nat) :
    ∀ e ∈ entriesFrom o l, o ≤ e.1 ∧ e.1 < o + l.length := fun (_, _) he =>
  have ⟨h1, h2⟩ := mem_entriesFrom.1 he
  have ⟨hlt, _⟩ := List.getElem?_eq_some_iff.1 h2
  ⟨h1, (Nat.sub_lt_iff_lt_add' h1).1 hlt⟩

theorem absSlots_eq_some_iff (o : Nat) (l : List (Option Pkt)) (q : Nat) (w : Pkt) :
    absSlots o l q = some w ↔ (q, w) ∈ entriesFrom o l := by
  unfold absSlots
  rw [mem_entriesFrom, ← Nat.not_lt]
  by_cases h : q < o
  · rw [if_pos h]; exact iff_of_false nofun fun h' => h'.1 h
  · rw [if_neg h, Option.join_eq_some_iff]; exact (and_iff_right h).symm

theorem abs_eq_some_iff (r : Ring) (q : Nat) (w : Pkt) : abs r q = some w ↔ (q, w) ∈ entries r :=
  absSlots_eq_some_iff r.offset r.slots q w

/-- one past the last slot: `insert` wants a number at or above it, `remove` leaves it alone (a vacated last slot
    stays), so it is not a function of `entries` -/
def Ring.stop (r : Ring) : Nat := r.offset + r.slots.length

theorem entries_lt_stop (r : Ring) : ∀ e ∈ entries r, e.1 < r.stop := fun e he =>
  (entriesFrom_bounds r.slots r.offset e he).2

theorem entriesFrom_append (a b : List (Option Pkt)) (o : Nat) :
    entriesFrom o (a ++ b) = entriesFrom o a ++ entriesFrom (o + a.length) b := by
  rw [entriesFrom_eq, entriesFrom_eq, entriesFrom_eq, List.zipIdx_append, List.filterMap_append]

theorem entriesFrom_replicate_none (k o : Nat) : entriesFrom o (List.replicate k none) = [] := by
  induction k generalizing o with
  | zero => rfl
  | succ k ih => exact ih (o + 1)

theorem entries_sorted (r : Ring) : (entries r).Pairwise (fun a b => a.1 < b.1) := by
  unfold entries
  generalize r.offset = o
  induction r.slots generalizing o with
  | nil => exact List.Pairwise.nil
  | cons x t ih =>
    cases x with
    | none => exact ih _
    | some w => exact List.pairwise_cons.2 ⟨fun e he => (entriesFrom_bounds t (o + 1) e he).1, ih _⟩

theorem entriesFrom_reclaim (o : Nat) (l : List (Option Pkt)) :
    entriesFrom (reclaim o l).1 (reclaim o l).2 = entriesFrom o l := by
  fun_induction reclaim o l with
  | case1 _ _ ih => exact ih
  | case2 => rfl

theorem reclaim_end (o : Nat) (l : List (Option Pkt)) :
    (reclaim o l).1 + (reclaim o l).2.length = o + l.length := by
  fun_induction reclaim o l with
  | case1 off t ih => exact ih.trans (Nat.add_right_comm off 1 t.length)
  | case2 => rfl

theorem entriesFrom_set_none (l : List (Option Pkt)) {o i pn : Nat} (v : Pkt) (h : l[i]? = some (some v)) (hp : o + i = pn) :
    ∃ a b, entriesFrom o l = a ++ (pn, v) :: b ∧ entriesFrom o (l.set i none) = a ++ b := by
  subst hp
  obtain ⟨hi, hv⟩ := List.getElem?_eq_some_iff.1 h
  obtain ⟨a, b, h1, rfl, h2⟩ := List.exists_of_set (a' := none) hi
  rw [hv] at h1
  rw [h2, h1]
  exact ⟨_, _, entriesFrom_append _ _ _, entriesFrom_append _ _ _⟩

theorem get_eq_abs (r : Ring) (pn : Nat) : get r pn = abs r pn := by
  unfold get abs absSlots
  refine congrArg (ite _ _) ?_
  rcases r.slots[pn - r.offset]? with _ | _ | _ <;> rfl

theorem insert_ok_of (r : Ring) (pn : Nat) (v : Pkt) (h : r.stop ≤ pn) :
    (insert r pn v).2 = .ok () := by
  fun_cases insert r pn v
  case case2 hlt => exact absurd hlt (Nat.not_lt.2 h)
  all_goals rfl

def Inserted (r : Ring) (pn : Nat) (v : Pkt) (x : Ring × R Unit) : Prop :=
  x.2 = .ok () →
    entries x.1 = entries r ++ [(pn, v)] ∧ x.1.inFlight = r.inFlight + (if v.size ≠ 0 then 1 else 0) ∧
    x.1.stop = pn + 1

theorem insert_spec (r : Ring) (pn : Nat) (v : Pkt) : Inserted r pn v (insert r pn v) := by
  unfold insert
  refine iteInduction (fun he _ => ?_) fun _ => iteInduction (fun _ => nofun) fun hlt _ => ?_
  · rw [show entries r = [] from congrArg (entriesFrom _) (List.isEmpty_iff.1 he)]
    exact ⟨rfl, rfl, rfl⟩
  · have hle := Nat.le_of_not_lt hlt
    have hk : r.offset + r.slots.length + (pn - r.offset - r.slots.length) = pn := by
      rw [Nat.sub_sub, Nat.add_sub_cancel' hle]
    refine ⟨?_, rfl, ?_⟩
    · simp only [entries, entriesFrom_append, entriesFrom_replicate_none, List.append_nil, entriesFrom,
        List.length_append, List.length_replicate, ← Nat.add_assoc, hk]
    · simp only [Ring.stop, List.length_append, List.length_replicate, List.length_cons, List.length_nil, ← Nat.add_assoc, hk]

theorem abs_insert (r : Ring) (pn : Nat) (v : Pkt) (h : (insert r pn v).2 = .ok ()) (q : Nat) :
    abs (insert r pn v).1 q = if q = pn then some v else abs r q := by
  have he := (insert_spec r pn v h).1
  refine iteInduction (motive := fun x => _ = x) (fun hq => ?_) fun hq => Option.ext fun w => ?_
  · rw [abs_eq_some_iff, he, hq]
    exact List.mem_append_right _ (List.mem_singleton_self _)
  · rw [abs_eq_some_iff, abs_eq_some_iff, he, List.mem_append, List.mem_singleton, Prod.mk.injEq]
    exact or_iff_left fun h => hq h.1

theorem remove_spec (r : Ring) (pn : Nat) :
    (remove r pn = (r, .ok none) ∧ abs r pn = none) ∨
    ∃ v a b, entries r = a ++ (pn, v) :: b ∧
      (((remove r pn).2 = .panic ∧ v.size ≠ 0 ∧ r.inFlight = 0) ∨
        ∃ r', remove r pn = (r', .ok (some v)) ∧ entries r' = a ++ b ∧
          r'.inFlight + (if v.size ≠ 0 then 1 else 0) = r.inFlight ∧ r'.stop = r.stop) := by
  have split {v : Pkt} (h : ¬ pn < r.offset) (hh : r.slots[pn - r.offset]? = some (some v)) :=
    entriesFrom_set_none r.slots v hh (Nat.add_sub_cancel' (Nat.le_of_not_lt h))
  fun_cases remove r pn
  case case1 h => exact Or.inl ⟨rfl, if_pos h⟩
  case case2 h _ v hh _ hp =>
    obtain ⟨a, b, h1, -⟩ := split h hh
    exact Or.inr ⟨v, a, b, h1, Or.inl ⟨rfl, hp⟩⟩
  case case3 h _ v hh _ hp _ off sl hr =>
    obtain ⟨a, b, h1, h2⟩ := split h hh
    have he := hr ▸ entriesFrom_reclaim r.offset (r.slots.set (pn - r.offset) none)
    have hl := hr ▸ reclaim_end r.offset (r.slots.set (pn - r.offset) none)
    refine Or.inr ⟨v, a, b, h1, Or.inr ⟨_, rfl, he.trans h2, ?_, hl.trans (by rw [List.length_set]; rfl)⟩⟩
    show (if v.size ≠ 0 then _ else _) + _ = _
    split
    · exact Nat.sub_add_cancel (Nat.pos_of_ne_zero fun h0 => hp ⟨‹_›, h0⟩)
    · rfl
  case case4 h _ hn =>
    exact Or.inl ⟨rfl, (if_neg h).trans
      (Option.eq_none_iff_forall_ne_some.2 fun v hv => hn v (Option.join_eq_some_iff.1 hv))⟩

theorem abs_remove (r : Ring) (pn : Nat) (h : (remove r pn).2 ≠ .panic) :
    (remove r pn).2 = .ok (abs r pn) ∧
    ∀ q, abs (remove r pn).1 q = if q = pn then none else abs r q := by
  rcases remove_spec r pn with ⟨heq, hn⟩ | ⟨v, a, b, h1, ⟨hp, -⟩ | ⟨r', heq, h2, -, -⟩⟩
  · rw [heq, hn]
    exact ⟨rfl, fun q => (ite_eq_right_iff.2 fun hq => hq ▸ hn.symm).symm⟩
  · exact absurd hp h
  · rw [heq, (abs_eq_some_iff r pn v).2 (h1 ▸ List.mem_append_right a List.mem_cons_self)]
    -- the entries are sorted by number, so `pn` occurs in neither `a` nor `b`
    have hs := (entries_sorted r).imp Nat.ne_of_lt
    rw [h1, List.pairwise_middle Ne.symm, List.pairwise_cons] at hs
    refine ⟨rfl, fun q => iteInduction (motive := fun x => _ = x) (fun hq => ?_) fun hq => Option.ext fun w => ?_⟩
    · exact Option.eq_none_iff_forall_ne_some.2 fun w hw => hs.1 _ (h2 ▸ (abs_eq_some_iff _ _ _).1 hw) hq.symm
    · rw [abs_eq_some_iff, abs_eq_some_iff, h1, h2, List.mem_append, List.mem_append, List.mem_cons, Prod.mk.injEq]
      exact or_congr_right (or_iff_right fun h => hq h.1).symm

def nz (e : Nat × Pkt) : Bool := decide (e.2.size ≠ 0)

/-- `in_flight` = number of present entries with `size != 0` -/
def RingWF (r : Ring) : Prop := r.inFlight = (entries r).countP nz

theorem ringWF_default : RingWF {} := rfl

theorem ringWF_insert (r : Ring) (pn : Nat) (v : Pkt) (hw : RingWF r) (h : (insert r pn v).2 = .ok ()) :
    RingWF (insert r pn v).1 := by
  obtain ⟨he, hi, -⟩ := insert_spec r pn v h
  unfold RingWF
  rw [hi, he, List.countP_append, ← hw, List.countP_singleton]
  simp only [nz, decide_eq_true_eq]

theorem remove_spec_wf {r : Ring} (hw : RingWF r) (pn : Nat) :
    (remove r pn = (r, .ok none) ∧ abs r pn = none) ∨
    ∃ v r' a b, remove r pn = (r', .ok (some v)) ∧ entries r = a ++ (pn, v) :: b ∧ entries r' = a ++ b ∧ RingWF r' ∧
      r'.stop = r.stop := by
  refine (remove_spec r pn).imp id fun ⟨v, a, b, h1, hr⟩ => ?_
  rcases hr with ⟨-, hs, h0⟩ | ⟨r', heq, h2, hi, he⟩
  · -- the counter cannot be empty while the ring holds a packet of nonzero size
    exact absurd (decide_eq_true hs)
      (List.countP_eq_zero.1 (Eq.trans (Eq.symm hw) h0) (pn, v) (h1 ▸ List.mem_append_right a List.mem_cons_self))
  · refine ⟨v, r', a, b, heq, h1, h2, Nat.add_right_cancel (hi.trans (Eq.trans hw ?_)), he⟩
    rw [h1, h2, List.perm_middle.countP_eq nz, List.countP_cons]
    simp only [nz, decide_eq_true_eq]

theorem remove_wf (r : Ring) (pn : Nat) (hw : RingWF r) : (remove r pn).2 ≠ .panic ∧ RingWF (remove r pn).1 := by
  rcases remove_spec_wf hw pn with ⟨h, -⟩ | ⟨_, _, _, _, h, -, -, hw', -⟩ <;> rw [h]
  · exact ⟨nofun, hw⟩
  · exact ⟨nofun, hw'⟩

theorem hasInFlight_iff (r : Ring) (hw : RingWF r) :
    hasInFlight r = true ↔ ∃ e ∈ entries r, e.2.size ≠ 0 := by
  unfold hasInFlight
  rw [hw, decide_eq_true_iff, ← Nat.pos_iff_ne_zero, List.countP_pos_iff]
  simp only [nz, decide_eq_true_eq]

theorem values_eq (r : Ring) : values r = (entries r).map (·.2) := by
  unfold values entries
  generalize r.offset = o
  induction r.slots generalizing o with
  | nil => rfl
  | cons x t ih => cases x <;> simp only [List.filterMap_cons, id, entriesFrom, List.map_cons, ih (o + 1)]

theorem values_remove {r : Ring} {pn : Nat} {r' : Ring} {x : Option Pkt} (h : remove r pn = (r', .ok x)) :
    (values r).Perm (x.toList ++ values r') := by
  have hs := remove_spec r pn
  rw [h] at hs
  rcases hs with ⟨⟨⟩, -⟩ | ⟨v, a, b, h1, ⟨⟨⟩, -⟩ | ⟨_, ⟨⟩, h2, -, -⟩⟩
  · exact List.Perm.refl _
  · rw [values_eq, values_eq, h1, h2, List.map_append, List.map_append]
    exact List.perm_middle

theorem take_spec {s : Space} {pn : Nat} {s' : Space} {x : Option Pkt} (h : s.take pn = (s', .ok x)) :
    (values s.ring).Perm (x.toList ++ values s'.ring) := by
  revert h
  fun_cases Space.take s pn <;> intro h <;> cases h <;> exact values_remove ‹_›

theorem ins_spec {s : Space} {pn : Nat} {v : Pkt} {fg : Option Pkt} {s' : Space} {x : Option Pkt}
    (h : Space.ins s pn v fg = (s', .ok x)) : x = fg ∧ values s'.ring = values s.ring ++ [v] := by
  revert h
  fun_cases Space.ins s pn v fg <;> intro h <;> cases h
  rename_i heq
  have he : entries _ = _ := ((heq ▸ insert_spec s.ring pn v) rfl).1
  rw [values_eq, values_eq, he, List.map_append]
  exact ⟨rfl, rfl⟩

theorem sent_spec {s : Space} {pn : Nat} {v : Pkt} {s' : Space} {fg : Option Pkt}
    (h : s.sent pn v = (s', .ok fg)) : (values s.ring ++ [v]).Perm (fg.toList ++ values s'.ring) := by
  revert h
  -- first and last case: ack-eliciting, and tail below the limit; `case7`: a packet was forgotten; the others panic
  fun_cases Space.sent s pn v
  case case1 | case8 => intro h; obtain ⟨rfl, hv⟩ := ins_spec h; exact hv ▸ List.Perm.refl _
  case case7 heq _ =>
    intro h; obtain ⟨rfl, hv⟩ := ins_spec h
    rw [hv]; exact (values_remove heq).append_right [v]
  all_goals nofun

theorem filterMap_pick_shift (s k o : Nat) (x : Option Pkt) (t : List (Option Pkt)) :
    (List.range' (s + 1) k).filterMap (fun i => pick i o (x :: t))
      = (List.range' s k).filterMap (fun i => pick i (o + 1) t) := by
  rw [List.range'_succ_left, List.filterMap_map]
  congr 1
  funext i
  unfold pick
  rw [Function.comp, List.getElem?_cons_succ, Nat.add_right_comm]; rfl

/-- The slots `s, …, s + k - 1` hold the entries numbered from `A` up to `B`, for any `A`, `B` that truncated
    subtraction sends to `s` and `k` (so `A` may lie below the ring and `B` below `A`); stated with `A`, `B` so that
    they stay put while the induction moves `o`. -/
theorem range_core (l : List (Option Pkt)) (o s k A B : Nat) (hA : A - o = s) (hB : B - o - s = k) :
    (List.range' s k).filterMap (fun i => pick i o l)
      = (entriesFrom o l).filter (fun e => decide (A ≤ e.1 ∧ e.1 < B)) := by
  induction l generalizing o s k with
  | nil => exact List.filterMap_eq_nil_iff.2 fun _ _ => rfl
  | cons x t ih =>
    cases s with
    | succ s =>
      rw [filterMap_pick_shift, ih (o + 1) s k (congrArg Nat.pred hA) ((Nat.sub_right_comm (B - o) 1 s).trans hB)]
      cases x with
      | none => rfl
      | some v => exact (List.filter_cons_of_neg fun h =>
          Nat.not_le.2 (Nat.lt_of_sub_eq_succ hA) (of_decide_eq_true h).1).symm
    | zero =>
      cases k with
      | zero => exact (List.filter_eq_nil_iff.2 fun e he h => Nat.not_le.2 (of_decide_eq_true h).2
          (Nat.le_trans (Nat.le_of_sub_eq_zero hB : B ≤ o) (entriesFrom_bounds _ _ e he).1)).symm
      | succ k =>
        rw [List.range'_succ, List.filterMap_cons, filterMap_pick_shift, ih (o + 1) 0 k (congrArg Nat.pred hA)
          (congrArg Nat.pred hB)]
        cases x with
        | none => rfl
        | some v => exact (List.filter_cons_of_pos (by
            exact decide_eq_true ⟨Nat.le_of_sub_eq_zero hA, Nat.lt_of_sub_eq_succ hB⟩)).symm

def Bound.lowerOk : Bound → Nat → Bool
  | .incl n, p => decide (n ≤ p)
  | .excl n, p => decide (n < p)
  | .unb, _ => true

def Bound.upperOk : Bound → Nat → Bool
  | .incl n, p => decide (p ≤ n)
  | .excl n, p => decide (p < n)
  | .unb, _ => true

/-- bounds below `u64::MAX` (where `saturating_add(1)` is `+ 1`); packet numbers are < 2^62 -/
def Bound.small : Bound → Prop
  | .incl n => n < U64MAX
  | .excl n => n < U64MAX
  | .unb => True

theorem natMax_eq (a b : Nat) : Nat.max a b = max a b := rfl
theorem natMin_eq (a b : Nat) : Nat.min a b = min a b := rfl

def lowerIncl (r : Ring) : Bound → Nat
  | .incl n => n
  | .excl n => satAdd1 n
  | .unb => r.offset

def upperExcl (r : Ring) : Bound → Nat
  | .incl n => satAdd1 n
  | .excl n => n
  | .unb => r.offset + r.slots.length

theorem range_eq_incl_excl (r : Ring) (lo hi : Bound) :
    range r lo hi = range r (.incl (lowerIncl r lo)) (.excl (upperExcl r hi)) := by
  cases lo <;> cases hi <;> rfl

theorem range_incl_excl (r : Ring) (lv hv : Nat) :
    range r (.incl lv) (.excl hv) = .ok ((entries r).filter (fun e => decide (lv ≤ e.1 ∧ e.1 < hv))) := by
  unfold range
  -- `start = lv - offset`, `stop - start = min hv end - offset - start`
  simp only [natMax_eq, natMin_eq, ← Nat.sub_eq_max_sub]
  rw [if_neg (by omega), range_core _ _ _ _ lv _ rfl rfl]
  refine congrArg R.ok (List.filter_congr fun e he => ?_)
  rw [decide_eq_decide, Nat.lt_min, and_iff_left (entriesFrom_bounds _ _ e he).2]

theorem satAdd1_small (n : Nat) (h : n < U64MAX) : satAdd1 n = n + 1 := if_neg (Nat.not_le.2 h)

theorem decide_lowerIncl_le {r : Ring} {lo : Bound} (h : lo.small) {p : Nat} (hp : r.offset ≤ p) :
    decide (lowerIncl r lo ≤ p) = lo.lowerOk p := by
  cases lo with
  | incl n => rfl
  | excl n => rw [lowerIncl, satAdd1_small n h]; rfl
  | unb => exact decide_eq_true hp

theorem decide_lt_upperExcl {r : Ring} {hi : Bound} (h : hi.small) {p : Nat} (hp : p < r.offset + r.slots.length) :
    decide (p < upperExcl r hi) = hi.upperOk p := by
  cases hi with
  | incl n => rw [upperExcl, satAdd1_small n h]; exact decide_eq_decide.2 Nat.lt_succ_iff
  | excl n => rfl
  | unb => exact decide_eq_true hp

theorem range_eq_filter (r : Ring) (lo hi : Bound) (hlo : lo.small) (hhi : hi.small) :
    range r lo hi = .ok ((entries r).filter (fun e => lo.lowerOk e.1 && hi.upperOk e.1)) := by
  rw [range_eq_incl_excl, range_incl_excl]
  refine congrArg R.ok (List.filter_congr fun e he => ?_)
  have h := entriesFrom_bounds _ _ e he
  rw [Bool.decide_and, decide_lowerIncl_le hlo h.1, decide_lt_upperExcl hhi h.2]

/-- the lookup of `PacketSpace::sent` -/
theorem range_above (r : Ring) (la : Nat) (h : la < U64MAX) :
    range r (.excl la) .unb = .ok ((entries r).filter (fun e => decide (la < e.1))) := by
  rw [range_eq_filter r (.excl la) .unb h trivial]
  exact congrArg R.ok (List.filter_congr fun e _ => Bool.and_true _)

theorem range_no_panic (r : Ring) (lo hi : Bound) : range r lo hi ≠ .panic := by
  rw [range_eq_incl_excl, range_incl_excl]; nofun

end QM.SentPackets
