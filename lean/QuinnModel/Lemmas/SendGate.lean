import QuinnModel.Conn.SendGate
/-
The loop of `poll_transmit` as a fold: what every iteration keeps holds after the call.
-/
namespace QM.SendGate

/-- An invariant `I` of the iterations, with `P` true of what each iteration puts out, holds after any call.  The
    iterations that run are those for a space at or after the cursor. -/
theorem call_inv {I : St → Prop} {P : Out → Prop}
    (hstep : ∀ s o, I s → s.cur ≤ o.space → I (step s o).1 ∧ P (step s o).2) (s : St) (os : List Offer) (h : I s) :
    I (call s os).1 ∧ ∀ x ∈ (call s os).2, P x := by
  fun_induction call s os with
  | case1 => exact ⟨h, fun _ => nofun⟩
  | case2 _ _ _ _ ih => exact ih h
  | case3 s o _ hlt _ _ ih =>
    obtain ⟨hi, hp⟩ := hstep s o h (Nat.le_of_not_lt hlt)
    exact (ih hi).imp id fun hc => List.forall_mem_cons.2 ⟨hp, hc⟩

end QM.SendGate
