import QuinnModel.Lemmas.Reader
import QuinnModel.Wire.Header
/-
Proofs about long-form connection ids and plaintext packet headers.
-/
namespace QM.Wire
open QM QM.Wire QM.Wire.P

namespace Cid

theorem encodeLong_some (cid b : Bytes) : encodeLong cid (some b) = some (b ++ (cid.length % 256 :: cid)) := by
  simp [encodeLong]

theorem decodeLong_append {ε} (e p : ε) (cid r : Bytes) (h : cid.length ≤ 20) :
    decodeLong e p ((cid.length % 256 :: cid) ++ r) = .ok (cid, r) := by
  have hm : cid.length % 256 = cid.length := by omega
  have h1 : ¬ (cid.length > Gen.wireMaxCidSize ∨ cid.length + r.length < cid.length) := by
    simp only [Gen.wireMaxCidSize]; omega
  simp [decodeLong, hm, h1, takeN_append]

theorem roundtrip {ε} (e p : ε) (cid r : Bytes) (h : cid.length ≤ 20) :
    ∃ enc, encodeLong cid (some []) = some enc ∧ decodeLong e p (enc ++ r) = .ok (cid, r) :=
  ⟨_, encodeLong_some cid [], by simpa using decodeLong_append e p cid r h⟩

/-- the unchecked copy of `from_buf` is covered by the `remaining < len` test in front of it -/
theorem decodeLong_good {ε} {bad : ε → Prop} {e p : ε} (h : ¬ bad e) {k : Nat} (hk : k ≤ 1 := by decide) {bs : Bytes} :
    Good bad k (decodeLong e p) bs :=
  (Good.getU8 h hk).bind fun _ => .remaining (.ite (fun _ => .fail h) fun h => .takeN (.inr (by omega)))

end Cid

namespace Header

theorem longTypeOf_lt (first : Nat) : longTypeOf first < 4 := by
  unfold longTypeOf
  simp only [Gen.hdrTypeMask, Gen.hdrTypeShift, Nat.shiftRight_eq_div_pow]
  have := @Nat.and_le_right first 48
  omega

abbrev isPanic (e : HdrErr) : Prop := e = .panic

/-- the decoder on any input: no panic (the unchecked takes stand behind tests that are strong enough; the four
    arms of `LongHeaderType::from_byte` cover every byte, so `unreachable!()` is unreachable), and on success a
    strictly shorter suffix -/
theorem decodeHeader_good (total lc : Nat) (sup : List Nat) (g : Bool) (bs : Bytes) :
    Good isPanic 1 (decodeHeader total lc sup g) bs :=
  have v : ∀ {bs} (f : Nat → PHeader), Good isPanic 0 (getVar U >>= fun x => pure (f x)) bs :=
    fun _ => (Good.getVar (by decide)).bind fun _ => .pure _
  (Good.getU8 (by decide)).bind fun {first _} _ => .ite (fun _ => .fail (by decide)) fun _ => .ite
    (fun _ => .remaining <| .ite (fun _ => .fail (by decide)) fun h =>
      (Good.takeN (.inr (Nat.le_of_not_lt h))).bind fun _ => .pure _) fun _ =>
    (Good.getU32 (by decide)).bind fun _ => (Cid.decodeLong_good (by decide)).bind fun _ =>
    (Cid.decodeLong_good (by decide)).bind fun _ => .ite (fun _ => .pure _) fun _ =>
    .ite (fun _ => .fail nofun) fun _ =>
    .ite (fun _ => (Good.getVar (by decide)).bind fun _ => .remaining <| .remaining <|
        .ite (fun _ => .fail (by decide)) fun h =>
          (Good.takeN (.inr (Nat.le_of_not_lt h))).bind fun _ => v _) fun h0 =>
    .ite (fun _ => v _) fun h1 => .ite (fun _ => v _) fun h2 => .ite (fun _ => .pure _) fun h3 =>
      absurd (longTypeOf_lt first) (by
        simp only [Gen.hdrTypeDecInitial, Gen.hdrTypeDecZeroRtt, Gen.hdrTypeDecHandshake, Gen.hdrTypeDecRetry] at h0 h1 h2 h3
        omega)

theorem partialDecode_noPanic (bytes : Bytes) (lc : Nat) (sup : List Nat) (g : Bool) :
    partialDecodeNew bytes lc sup g ≠ .error .panic := by
  fun_cases partialDecodeNew bytes lc sup g
  case case1 e he => exact fun hc => (decodeHeader_good _ _ _ _ bytes).ne (Except.error.inj hc) he
  all_goals nofun

/-- `PartialDecode::new` on all inputs; the first conjunct is the assertion of quinn's `packet` fuzz target -/
theorem partialDecode_split (bytes : Bytes) (lc : Nat) (sup : List Nat) (g : Bool) (pd : PartialDecode)
    (h : partialDecodeNew bytes lc sup g = .ok pd) :
    pd.packet ++ (match pd.rest with | some r => r | none => []) = bytes ∧
    pd.pos ≤ pd.packet.length ∧ 1 ≤ pd.pos ∧ (∀ r, pd.rest = some r → r ≠ []) := by
  revert h
  fun_cases partialDecodeNew bytes lc sup g
  case case2 hdr rem hd pos dgramLen packetLen h1 =>
    rintro ⟨⟩
    have hadv := (decodeHeader_good bytes.length lc sup g bytes).suffix hd
    exact ⟨List.append_nil _, Nat.sub_le _ _, by show 1 ≤ bytes.length - rem.length; omega, nofun⟩
  case case4 hdr rem hd pos dgramLen packetLen h1 h2 =>
    rintro ⟨⟩
    have hadv := (decodeHeader_good bytes.length lc sup g bytes).suffix hd
    -- the packet ends behind the header: `packetLen` is the cursor plus the length field
    have hge : pos ≤ packetLen := by
      show pos ≤ packetLenOf hdr pos dgramLen
      unfold packetLenOf
      cases hdr.payloadLen
      · exact Nat.sub_le _ _
      · exact Nat.le_add_right _ _
    have hpos : pos = bytes.length - rem.length := rfl
    have hdg : dgramLen = bytes.length := rfl
    clear_value pos dgramLen packetLen
    dsimp only
    refine ⟨List.take_append_drop _ _, by rw [List.length_take]; omega, by omega, ?_⟩
    rintro r ⟨⟩ hnil
    have := congrArg List.length hnil
    rw [List.length_drop, List.length_nil] at this
    omega
  all_goals nofun

theorem or_lenTag_eq_add (len : Nat) (h : len < 2^14) : (len % 65536) ||| 16384 = 16384 + len := by
  have h1 : len % 65536 = len := by omega
  rw [h1, Nat.or_comm]
  have := Nat.two_pow_add_eq_or_of_lt (i := 14) h 1
  simpa using this.symm

/-- the patched length field is always in the 2-byte varint form -/
theorem getVar_len16 {ε} (e : ε) (len : Nat) (h : len < 2^14) (r : Bytes) :
    getVar e (beBytes 2 ((len % 65536) ||| 16384) ++ r) = .ok (len, r) := by
  -- the varint form with tag 1 and one further byte
  have hd : VarInt.decode (beBytes 2 (16384 + len) ++ r) = some (len, r) :=
    VarInt.decode_tagged 1 1 len r (by decide) rfl h
  rw [or_lenTag_eq_add len h, P.getVar, hd]

/-- `PartialEncode::finish` on header = `A ++ [0,0] ++ pn`, followed by the payload -/
theorem finishPlain_long (A pnb payload : Bytes) (pnLen : Nat) (hp : pnb.length = pnLen)
    (h4 : 4 ≤ pnLen + payload.length) (h14 : pnLen + payload.length < 2^14) :
    finishPlain (A ++ (beBytes 2 0 ++ pnb)).length (some (pnLen, true)) ((A ++ (beBytes 2 0 ++ pnb)) ++ payload) =
      some (A ++ (beBytes 2 (((pnLen + payload.length) % 65536) ||| 16384) ++ (pnb ++ payload))) := by
  have hb : ∀ x, (beBytes 2 x).length = 2 := beBytes_length 2
  have hlen : (A ++ (beBytes 2 0 ++ pnb)).length = A.length + 2 + pnLen := by
    simp only [List.length_append, hb, hp]; omega
  have htot : ((A ++ (beBytes 2 0 ++ pnb)) ++ payload).length = A.length + 2 + pnLen + payload.length := by
    simp only [List.length_append, hb, hp]; omega
  have htake : ((A ++ (beBytes 2 0 ++ pnb)) ++ payload).take (A.length + 2 - 2) = A := by
    rw [Nat.add_sub_cancel, List.append_assoc, List.take_left' rfl]
  have hdrop : ((A ++ (beBytes 2 0 ++ pnb)) ++ payload).drop (A.length + 2) = pnb ++ payload := by
    have e1 : (A ++ (beBytes 2 0 ++ pnb)) ++ payload = (A ++ beBytes 2 0) ++ (pnb ++ payload) := by
      simp only [List.append_assoc]
    rw [e1, List.drop_left' (by rw [List.length_append, hb])]
  -- cursor, length and the four guards of `finishPlain` in one `omega` call without the list facts: a call each is slow
  obtain ⟨hpos, hl, c0, c1, c2, c3⟩ : A.length + 2 + pnLen - pnLen = A.length + 2 ∧
      A.length + 2 + pnLen + payload.length - (A.length + 2 + pnLen) + pnLen = pnLen + payload.length ∧
      ¬ (A.length + 2 + pnLen < pnLen) ∧
      ¬ (A.length + 2 + pnLen + payload.length < A.length + 2 + pnLen) ∧
      ¬ ¬ (pnLen + payload.length < 2 ^ 14) ∧
      ¬ (A.length + 2 < 2 ∨ A.length + 2 + pnLen + payload.length < A.length + 2) := by
    clear hlen htot htake hdrop hb hp
    omega
  unfold finishPlain
  simp only [hlen, htot, hpos, hl, Gen.hdrLenBoundLog, Gen.hdrLenTag]
  rw [if_neg c0, if_pos True.intro, if_neg c1, if_neg c2, if_neg c3, htake, hdrop]
  simp only [List.append_assoc]
  rw [if_pos (by simp only [List.length_append, hb, hp]; omega)]

def validPnLen (n : Nat) : Prop := n = 1 ∨ n = 2 ∨ n = 3 ∨ n = 4

/-- what all long headers begin with -/
def longPrefix (first version : Nat) (dst src : Bytes) : Bytes :=
  (first % 256) :: (beBytes 4 version ++ ((dst.length % 256 :: dst) ++ (src.length % 256 :: src)))

theorem longPrefix_length (first version : Nat) (dst src : Bytes) :
    (longPrefix first version dst src).length = 7 + dst.length + src.length := by
  simp [longPrefix, beBytes_length]; omega

/-- `ProtectedHeader::decode` up to and including the two connection ids of a long header; the arm for a short
    header and what follows the connection ids are left open -/
def longHead {α : Type} (g : Bool) (short : Nat → P HdrErr α) (k : Nat → Nat → Bytes → Bytes → P HdrErr α) :
    P HdrErr α := do
  let first ← getU8 U
  if !g ∧ first &&& Gen.hdrFixedBit = 0 then fail .fixedBitUnset
  else if first &&& Gen.hdrLongHeaderForm = 0 then short first
  else do
    let version ← getU32 U
    let dst ← Cid.decodeLong .malformedCid .panic
    let src ← Cid.decodeLong .malformedCid .panic
    k first version dst src

theorem longHead_prefix {α : Type} (g : Bool) (short : Nat → P HdrErr α) (k : Nat → Nat → Bytes → Bytes → P HdrErr α)
    (first version : Nat) (dst src tail : Bytes) (hf : first < 256)
    (hfix : ¬ ((!g) = true ∧ first &&& Gen.hdrFixedBit = 0)) (hlong : first &&& Gen.hdrLongHeaderForm ≠ 0)
    (hd : dst.length ≤ 20) (hs : src.length ≤ 20) (hv : version < 2^32) :
    longHead g short k (longPrefix first version dst src ++ tail) = k first version dst src tail := by
  have hm : first % 256 = first := by omega
  have e1 := Cid.decodeLong_append HdrErr.malformedCid HdrErr.panic dst ((src.length % 256 :: src) ++ tail) hd
  have e2 := Cid.decodeLong_append HdrErr.malformedCid HdrErr.panic src tail hs
  simp only [List.cons_append] at e1 e2
  unfold longHead longPrefix
  simp only [List.cons_append, List.append_assoc, hm]
  rw [bind_ok (getU8_cons _ _ _), ite_apply', if_neg hfix, ite_apply', if_neg hlong,
    bind_ok (getU32_be _ hv _), bind_ok e1, bind_ok e2]

/-- what `ProtectedHeader::decode` does with the common part of a long header of a supported version -/
theorem decode_longPrefix (sup : List Nat) (g : Bool) (first version : Nat) (dst src tail : Bytes)
    (hf : first < 256) (hfix : first &&& Gen.hdrFixedBit ≠ 0) (hlong : first &&& Gen.hdrLongHeaderForm ≠ 0)
    (hd : dst.length ≤ 20) (hs : src.length ≤ 20) (hv : version < 2^32) (hv0 : version ≠ 0)
    (hsup : version ∈ sup) {α} (k : Bytes → Bytes → P HdrErr α) :
    (do
      let first ← getU8 U
      if !g ∧ first &&& Gen.hdrFixedBit = 0 then fail .fixedBitUnset
      else if first &&& Gen.hdrLongHeaderForm = 0 then fail .panic
      else do
        let version' ← getU32 U
        let dst' ← Cid.decodeLong .malformedCid .panic
        let src' ← Cid.decodeLong .malformedCid .panic
        if version' = 0 then fail .panic
        else if ¬ version' ∈ sup then fail (.unsupportedVersion src' dst' version')
        else k dst' src' : P HdrErr α) (longPrefix first version dst src ++ tail) = k dst src tail := by
  show longHead g (fun _ => fail .panic) (fun _ version' dst' src' =>
    if version' = 0 then fail .panic
    else if ¬ version' ∈ sup then fail (.unsupportedVersion src' dst' version')
    else k dst' src') _ = _
  rw [longHead_prefix _ _ _ _ _ _ _ _ hf (fun h => hfix h.2) hlong hd hs hv, ite_apply', if_neg hv0, ite_apply',
    if_neg (not_not_intro hsup)]

theorem decodeHeader_longPrefix (total lc : Nat) (sup : List Nat) (g : Bool) (first version : Nat)
    (dst src tail : Bytes) (hf : first < 256) (hfix : ¬ ((!g) = true ∧ first &&& Gen.hdrFixedBit = 0))
    (hlong : first &&& Gen.hdrLongHeaderForm ≠ 0) (hd : dst.length ≤ 20) (hs : src.length ≤ 20)
    (hv : version < 2^32) :
    decodeHeader total lc sup g (longPrefix first version dst src ++ tail) =
      (if version = 0 then pure (.versionNegotiate (first &&& (255 - Gen.hdrLongHeaderForm)) dst src)
        else if ¬ version ∈ sup then fail (.unsupportedVersion src dst version)
        else if longTypeOf first = Gen.hdrTypeDecInitial then do
          let tokenLen ← getVar U
          let atToken ← remaining
          let rem ← remaining
          if tokenLen > rem then fail .tokenOutOfBounds else do
            let _ ← takeN .panic tokenLen
            let len ← getVar U
            pure (.initial dst src (total - atToken) tokenLen len version)
        else if longTypeOf first = Gen.hdrTypeDecZeroRtt then do
          let len ← getVar U
          pure (.long .zeroRtt dst src len version)
        else if longTypeOf first = Gen.hdrTypeDecHandshake then do
          let len ← getVar U
          pure (.long .handshake dst src len version)
        else if longTypeOf first = Gen.hdrTypeDecRetry then pure (.retry dst src version)
        else fail .panic : P HdrErr PHeader) tail :=
  longHead_prefix g _ _ first version dst src tail hf hfix hlong hd hs hv

theorem length_append_sub (a b : Bytes) : (a ++ b).length - b.length = a.length := by
  rw [List.length_append, Nat.add_sub_cancel]

theorem partialDecode_of_decode {pkt p2 pre rem : Bytes} {h : PHeader} {lc : Nat} {sup : List Nat} {g : Bool}
    (hsplit : pkt ++ p2 = pre ++ rem)
    (hdec : decodeHeader (pkt ++ p2).length lc sup g (pkt ++ p2) = .ok (h, rem))
    (hlen : packetLenOf h pre.length (pkt ++ p2).length = pkt.length) :
    partialDecodeNew (pkt ++ p2) lc sup g =
      .ok { header := h, pos := pre.length, packet := pkt, rest := if p2 = [] then none else some p2 } := by
  have hpos : (pkt ++ p2).length - rem.length = pre.length := by rw [hsplit, length_append_sub]
  unfold partialDecodeNew
  rw [hdec]
  simp only [hpos, hlen]
  by_cases hp2 : p2 = []
  · subst hp2
    rw [if_pos (by rw [List.append_nil]), if_pos rfl, List.append_nil]
  · have hpos : 0 < p2.length := List.length_pos_iff.mpr hp2
    rw [if_neg (by rw [List.length_append]; omega), if_neg (by rw [List.length_append]; omega), if_neg hp2,
      List.take_left' rfl, List.drop_left' rfl]

theorem partialDecode_whole {pre tail : Bytes} {h : PHeader} {lc : Nat} {sup : List Nat} {g : Bool}
    (hdec : decodeHeader (pre ++ tail).length lc sup g (pre ++ tail) = .ok (h, tail)) (hpl : h.payloadLen = none) :
    partialDecodeNew (pre ++ tail) lc sup g =
      .ok { header := h, pos := pre.length, packet := pre ++ tail, rest := none } := by
  unfold partialDecodeNew
  rw [hdec]
  simp only [packetLenOf, hpl, if_true, length_append_sub]

/-- a header prefix followed by the patched length field, the packet number and the payload -/
def framed (pre : Bytes) (pl pv : Nat) (payload : Bytes) : Bytes :=
  pre ++ (beBytes 2 (((pl + payload.length) % 65536) ||| 16384) ++ (beBytes pl pv ++ payload))

/-- the encoder's side for every header with a length field: `encode` leaves the length field zero behind `pre` -/
theorem packet_framed {h : Header} {pre : Bytes} {pl pv : Nat}
    (he : encode h = some { bytes := pre ++ (beBytes 2 0 ++ beBytes pl pv), pn := some (pl, true) })
    (payload : Bytes) (h4 : 4 ≤ pl + payload.length) (h14 : pl + payload.length < 2^14) :
    packet h payload = some (framed pre pl pv payload) := by
  unfold packet
  rw [he]
  exact finishPlain_long _ _ payload pl (beBytes_length pl pv) h4 h14

/-- coalesce_split for every header with a length field (`hpre`: after `pre` the decoder has only the length left
    to read) -/
theorem framed_coalesce {pre : Bytes} {mk : Nat → PHeader} {lc : Nat} {sup : List Nat} {g : Bool}
    (hmk : ∀ len, (mk len).payloadLen = some len)
    (hpre : ∀ tail, decodeHeader (pre ++ tail).length lc sup g (pre ++ tail) =
      (getVar U >>= fun len => pure (mk len)) tail)
    (pl pv : Nat) (payload p2 : Bytes) (h14 : pl + payload.length < 2^14) :
    partialDecodeNew (framed pre pl pv payload ++ p2) lc sup g =
      .ok { header := mk (pl + payload.length), pos := pre.length + 2, packet := framed pre pl pv payload,
            rest := if p2 = [] then none else some p2 } := by
  have hpn := beBytes_length pl pv
  have hb2 := beBytes_length 2 (((pl + payload.length) % 65536) ||| 16384)
  have hsplit : framed pre pl pv payload ++ p2 =
      (pre ++ beBytes 2 (((pl + payload.length) % 65536) ||| 16384)) ++ (beBytes pl pv ++ (payload ++ p2)) := by
    simp only [framed, List.append_assoc]
  have hdec : decodeHeader (framed pre pl pv payload ++ p2).length lc sup g (framed pre pl pv payload ++ p2) =
      .ok (mk (pl + payload.length), beBytes pl pv ++ (payload ++ p2)) := by
    rw [hsplit, List.append_assoc, hpre, bind_ok (getVar_len16 _ _ h14 _)]
    rfl
  have hlen : packetLenOf (mk (pl + payload.length))
      (pre ++ beBytes 2 (((pl + payload.length) % 65536) ||| 16384)).length
      (framed pre pl pv payload ++ p2).length = (framed pre pl pv payload).length := by
    simp only [packetLenOf, hmk, framed, List.length_append, hpn, Nat.add_assoc]
  rw [partialDecode_of_decode hsplit hdec hlen, List.length_append, hb2]

/-- every first byte `f` of a long header: `d` is the type as `LongHeaderType::from_byte` numbers it, `t` the two low bits
    (the packet-number tag, whatever the packet-number length) -/
theorem longFirst_facts : ∀ d, d < 4 → ∀ t, t < 4 → ∀ {f}, f = longFirst (d * 16) ||| t →
    f < 256 ∧ f &&& Gen.hdrFixedBit ≠ 0 ∧ f &&& Gen.hdrLongHeaderForm ≠ 0 ∧ longTypeOf f = d := by
  intro d hd t ht f hf
  subst hf
  revert d t
  decide

def longTypeDec : LongType → Nat
  | .handshake => Gen.hdrTypeDecHandshake
  | .zeroRtt => Gen.hdrTypeDecZeroRtt

def longFirstByte (bits pl : Nat) : Nat := longFirst bits ||| pnTag (pl, 0)

theorem encode_long (ty : LongType) (dst src : Bytes) (pl pv version : Nat) :
    encode (.long ty dst src (pl, pv) version) =
      some { bytes := longPrefix (longFirstByte (longTypeBits ty) pl) version dst src ++ (beBytes 2 0 ++ beBytes pl pv),
             pn := some (pl, true) } := by
  simp [encode, Cid.encodeLong, longPrefix, PacketNumber.encode, longFirstByte, pnTag]

/-- everything in front of the length field of an Initial header -/
def initialPrefix (dst src token : Bytes) (pl version : Nat) : Bytes :=
  longPrefix (longFirstByte Gen.hdrTypeEncInitial pl) version dst src ++ (encB token.length ++ token)

theorem initialPrefix_length (dst src token : Bytes) (pl version : Nat) :
    (initialPrefix dst src token pl version).length =
      7 + dst.length + src.length + (encB token.length).length + token.length := by
  simp only [initialPrefix, List.length_append, longPrefix_length]; omega

theorem encode_initial (dst src token : Bytes) (pl pv version : Nat) (ht : token.length < 2^62) :
    encode (.initial dst src token (pl, pv) version) =
      some { bytes := initialPrefix dst src token pl version ++ (beBytes 2 0 ++ beBytes pl pv),
             pn := some (pl, true) } := by
  simp [encode, Cid.encodeLong, initialPrefix, longPrefix, PacketNumber.encode, longFirstByte, pnTag,
    wVar_some ht]

theorem initial_coalesce (dst src token payload p2 : Bytes) (pl pv version lc : Nat) (sup : List Nat) (g : Bool)
    (hd : dst.length ≤ 20) (hs : src.length ≤ 20) (ht : token.length < 2^62)
    (hv : version < 2^32) (hv0 : version ≠ 0) (hsup : version ∈ sup) (h14 : pl + payload.length < 2^14) :
    partialDecodeNew (framed (initialPrefix dst src token pl version) pl pv payload ++ p2) lc sup g =
      .ok { header := .initial dst src (7 + dst.length + src.length + (encB token.length).length) token.length
              (pl + payload.length) version,
            pos := 7 + dst.length + src.length + (encB token.length).length + token.length + 2,
            packet := framed (initialPrefix dst src token pl version) pl pv payload,
            rest := if p2 = [] then none else some p2 } := by
  obtain ⟨hf, hfix, hlong, (hty : _ = Gen.hdrTypeDecInitial)⟩ :=
    longFirst_facts 0 (by decide) _ (Nat.mod_lt (pl - 1) (by decide)) (f := longFirstByte Gen.hdrTypeEncInitial pl) rfl
  rw [framed_coalesce (mk := fun len => .initial dst src
      (7 + dst.length + src.length + (encB token.length).length) token.length len version) (fun _ => rfl)
    (fun tail => ?_) pl pv payload p2 h14, initialPrefix_length]
  -- the token starts where the common part and the token length end
  have hstart := length_append_sub (longPrefix (longFirstByte Gen.hdrTypeEncInitial pl) version dst src ++ encB token.length)
    (token ++ tail)
  rw [List.length_append (as := longPrefix _ _ _ _), longPrefix_length] at hstart
  have hsplit : initialPrefix dst src token pl version ++ tail =
      (longPrefix (longFirstByte Gen.hdrTypeEncInitial pl) version dst src ++ encB token.length) ++ (token ++ tail) := by
    simp only [initialPrefix, List.append_assoc]
  rw [hsplit, ← hstart]
  generalize ((longPrefix (longFirstByte Gen.hdrTypeEncInitial pl) version dst src ++ encB token.length) ++ (token ++ tail)).length = total
  rw [List.append_assoc, decodeHeader_longPrefix _ _ _ _ _ _ _ _ _ hf (fun h => hfix h.2) hlong hd hs hv, if_neg hv0,
    if_neg (not_not_intro hsup), hty, if_pos rfl, bind_ok (getVar_enc _ ht _)]
  have hgt : ¬ (token.length > (token ++ tail).length) := by rw [List.length_append]; omega
  simp only [bind_apply, remaining_apply, ite_apply', if_neg hgt, takeN_append]

theorem encode_retry (dst src : Bytes) (version : Nat) :
    encode (.retry dst src version) =
      some { bytes := longPrefix (longFirst Gen.hdrTypeEncRetry) version dst src, pn := none } := by
  simp [encode, Cid.encodeLong, longPrefix]

theorem vn_facts : ∀ r, r < 128 → (128 ||| r) < 256 ∧ (128 ||| r) &&& Gen.hdrLongHeaderForm ≠ 0 ∧
    (128 ||| r) &&& (255 - Gen.hdrLongHeaderForm) = r ∧
    ((128 ||| r) &&& Gen.hdrFixedBit = 0 ↔ r &&& 64 = 0) := by decide

theorem encode_vn (random : Nat) (dst src : Bytes) :
    encode (.versionNegotiate random dst src) =
      some { bytes := longPrefix (128 ||| random) 0 dst src, pn := none } := by
  simp [encode, Cid.encodeLong, longPrefix]

def shortFirstByte (spin keyPhase : Bool) (pl : Nat) : Nat :=
  Gen.hdrFixedBit ||| (if keyPhase then Gen.hdrKeyPhaseBit else 0) ||| (if spin then Gen.hdrSpinBit else 0)
    ||| pnTag (pl, 0)

theorem shortFirstByte_facts (spin keyPhase : Bool) (pl : Nat) :
    shortFirstByte spin keyPhase pl < 256 ∧ shortFirstByte spin keyPhase pl &&& Gen.hdrFixedBit ≠ 0 ∧
    shortFirstByte spin keyPhase pl &&& Gen.hdrLongHeaderForm = 0 ∧
    (decide (shortFirstByte spin keyPhase pl &&& Gen.hdrSpinBit ≠ 0) = spin) := by
  -- the packet-number tag is two bits whatever the length: evaluate over the tag, not over the length
  have ht : pnTag (pl, 0) < 4 := Nat.mod_lt _ (by decide)
  unfold shortFirstByte
  generalize pnTag (pl, 0) = t at ht
  revert t spin keyPhase
  decide

theorem encode_short (spin keyPhase : Bool) (dst : Bytes) (pl pv : Nat) :
    encode (.short spin keyPhase dst (pl, pv)) =
      some { bytes := (shortFirstByte spin keyPhase pl % 256) :: (dst ++ beBytes pl pv), pn := some (pl, false) } := by
  simp [encode, shortFirstByte, PacketNumber.encode, pnTag]

/-- the parser's connection-id length has to be the one that was written -/
theorem short_roundtrip (spin keyPhase : Bool) (dst tail : Bytes) (pl : Nat) (sup : List Nat) (g : Bool) :
    partialDecodeNew ((shortFirstByte spin keyPhase pl % 256 :: dst) ++ tail) dst.length sup g =
      .ok { header := .short spin dst, pos := dst.length + 1,
            packet := (shortFirstByte spin keyPhase pl % 256 :: dst) ++ tail, rest := none } := by
  obtain ⟨hf, hfix, hshort, hspin⟩ := shortFirstByte_facts spin keyPhase pl
  have hrem : ¬ ((dst ++ tail).length < dst.length) := by rw [List.length_append]; omega
  refine partialDecode_whole ?_ rfl
  unfold decodeHeader
  rw [Nat.mod_eq_of_lt hf, List.cons_append, bind_ok (getU8_cons _ _ _), ite_apply', if_neg (by simp [hfix]),
    ite_apply', if_pos hshort]
  simp only [bind_apply, remaining_apply, ite_apply', if_neg hrem, takeN_append, pure_apply, hspin]

end Header
end QM.Wire
