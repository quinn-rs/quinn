import QuinnModel.Data.Dedup
import QuinnModel.Lemmas.Runs
namespace QM.Dedup

/-- `seen`: the packet numbers inserted so far; the window holds those among the 128 below the highest -/
structure Inv (d : Dedup) (seen : Nat → Prop) : Prop where
  lt_next : ∀ q, seen q → q < d.next
  bounded : d.window < W
  top : 0 < d.next → seen (d.next - 1)
  complete : ∀ q, seen q → q + 1 < d.next → d.next - 2 - q < 128 → d.window.testBit (d.next - 2 - q) = true

theorem insert_ahead {d : Dedup} {p : Nat} (h : d.next ≤ p) :
    insert d p = (⟨if p - d.next < 128 then (((d.window <<< 1) % W ||| 1) <<< (p - d.next)) % W else 0, p + 1⟩, false) := by
  simp only [insert, h, if_true]

theorem insert_behind {d : Dedup} {p k : Nat} (h : d.next = p + k + 1) :
    insert d p =
      if k < 129 then
        if k = 0 then (d, true) else (⟨d.window ||| 1 <<< (k - 1), d.next⟩, d.window.testBit (k - 1))
      else (d, true) := by
  have h1 : ¬ d.next ≤ p := by rw [h]; exact Nat.not_le.2 (Nat.lt_succ_of_le (Nat.le_add_right p k))
  have h2 : d.next - 1 - p = k := by rw [h, Nat.add_sub_cancel, Nat.add_sub_cancel_left]
  simp only [insert, h1, if_false, Gen.dedupWindowSize, h2]

theorem behind_index {d : Dedup} {p k : Nat} (h : d.next = p + k + 1) : d.next - 2 - p = k - 1 := by
  rw [h, Nat.sub_right_comm, Nat.add_assoc, Nat.add_sub_cancel_left]; rfl

theorem insert_not_dup_fresh (d : Dedup) (seen : Nat → Prop) (h : Inv d seen) (p : Nat)
    (hnd : (insert d p).2 = false) : ¬ seen p := by
  intro hs
  obtain ⟨k, hk⟩ := Nat.exists_eq_add_of_lt (h.lt_next p hs)
  rw [insert_behind hk] at hnd
  by_cases h1 : k < 129
  · rw [if_pos h1] at hnd
    by_cases h0 : k = 0
    · rw [if_pos h0] at hnd; cases hnd
    · rw [if_neg h0] at hnd
      have hb := h.complete p hs (hk ▸ Nat.succ_lt_succ (Nat.lt_add_of_pos_right (Nat.pos_of_ne_zero h0)))
        (behind_index hk ▸ Nat.lt_of_lt_of_le (Nat.pred_lt h0) (Nat.le_of_lt_succ h1))
      rw [behind_index hk] at hb
      exact Bool.noConfusion (hb.symm.trans hnd)
  · rw [if_neg h1] at hnd; cases hnd

theorem testBit_mod_W (x i : Nat) (hi : i < 128) : (x % W).testBit i = x.testBit i := by
  rw [W, Nat.testBit_mod_two_pow, decide_eq_true hi, Bool.true_and]

/-- the window after a packet `diff` places ahead of the former highest one: bit `diff` stands for that one, the bits
    above it are the former window -/
theorem testBit_shifted (w diff a : Nat) (hi : diff + a < 128) :
    ((((w <<< 1) % W ||| 1) <<< diff) % W).testBit (diff + a) = (decide (a = 0) || w.testBit (a - 1)) := by
  rw [testBit_mod_W _ _ hi, Nat.testBit_shiftLeft, decide_eq_true (Nat.le_add_right diff a), Bool.true_and,
    Nat.add_sub_cancel_left, Nat.testBit_or, testBit_mod_W _ _ (Nat.lt_of_le_of_lt (Nat.le_add_left a diff) hi),
    Nat.testBit_shiftLeft, Bool.or_comm]
  cases a with
  | zero => rfl
  | succ a => simp [Nat.testBit_one_eq_true_iff_self_eq_zero]

theorem Inv.add {d : Dedup} {seen : Nat → Prop} (h : Inv d seen) {p : Nat} (hp : p < d.next)
    (hc : p + 1 < d.next → d.next - 2 - p < 128 → d.window.testBit (d.next - 2 - p) = true) :
    Inv d (fun q => seen q ∨ q = p) :=
  ⟨fun q hq => hq.elim (h.lt_next q) (· ▸ hp), h.bounded, fun hn => .inl (h.top hn),
    fun q hq => hq.elim (h.complete q) (· ▸ hc)⟩

theorem Inv.setBit {d : Dedup} {seen : Nat → Prop} (h : Inv d seen) {i : Nat} (hi : i < 128) :
    Inv ⟨d.window ||| 1 <<< i, d.next⟩ seen :=
  ⟨h.lt_next, Nat.or_lt_two_pow h.bounded (by rw [Nat.one_shiftLeft]; exact Nat.pow_lt_pow_right (by decide) hi),
    h.top, fun q hq h1 h2 => by
      show (d.window ||| _).testBit _ = true
      rw [Nat.testBit_or, h.complete q hq h1 h2, Bool.true_or]⟩

theorem insert_preserves (d : Dedup) (seen : Nat → Prop) (h : Inv d seen) (p : Nat) :
    Inv (insert d p).1 (fun q => seen q ∨ q = p) := by
  by_cases hp : d.next ≤ p
  · rw [insert_ahead hp]
    refine ⟨fun q hq => ?_, ?_, fun _ => .inr rfl, fun q hq hq1 hq2 => ?_⟩
    · rcases hq with hq | rfl
      · exact Nat.lt_succ_of_lt (Nat.lt_of_lt_of_le (h.lt_next q hq) hp)
      · exact Nat.lt_succ_self _
    · simp only; split
      · exact Nat.mod_lt _ (Nat.two_pow_pos 128)
      · exact Nat.two_pow_pos 128
    · have hseen : seen q := hq.resolve_right (Nat.ne_of_lt (Nat.lt_of_succ_lt_succ hq1))
      have hqn := h.lt_next q hseen
      -- the index counts from the new highest packet `p`: `p - d.next` places down to the former highest, then on to `q`
      have hi : p + 1 - 2 - q = (p - d.next) + (d.next - 1 - q) := by
        rw [Nat.sub_sub d.next 1 q, Nat.sub_add_sub_cancel hp (Nat.add_comm 1 q ▸ hqn)]
        exact Nat.sub_sub p 1 q
      simp only at hq2 ⊢
      rw [hi] at hq2 ⊢
      rw [if_pos (Nat.lt_of_le_of_lt (Nat.le_add_right _ _) hq2), testBit_shifted _ _ _ hq2]
      by_cases hz : d.next - 1 - q = 0
      · rw [decide_eq_true hz, Bool.true_or]
      · have hc := h.complete q hseen (Nat.add_lt_of_lt_sub (Nat.lt_of_sub_ne_zero hz))
          (Nat.lt_of_le_of_lt (Nat.le_trans (Nat.sub_le_sub_right (Nat.sub_le_sub_left (by decide : 1 ≤ 2) _) q)
            (Nat.le_add_left _ _)) hq2)
        rw [Nat.sub_right_comm (d.next - 1) q 1]
        show (_ || d.window.testBit (d.next - 2 - q)) = true
        rw [hc, Bool.or_true]
  · have hlt : p < d.next := Nat.lt_of_not_le hp
    obtain ⟨k, hk⟩ := Nat.exists_eq_add_of_lt hlt
    have hi := behind_index hk
    rw [insert_behind hk]
    by_cases h1 : k < 129
    · rw [if_pos h1]
      by_cases h0 : k = 0
      · rw [if_pos h0]
        exact h.add hlt fun hlt' => absurd hlt' (by rw [hk, h0]; exact Nat.lt_irrefl _)
      · rw [if_neg h0]
        have hk1 : k - 1 < 128 := Nat.lt_of_lt_of_le (Nat.pred_lt h0) (Nat.le_of_lt_succ h1)
        exact (h.setBit hk1).add hlt fun _ _ => by
          show (d.window ||| _).testBit _ = true
          rw [hi, Nat.testBit_or, Nat.one_shiftLeft, Nat.testBit_two_pow_self, Bool.or_true]
    · rw [if_neg h1]
      exact h.add hlt fun _ h2 => by rw [hi] at h2; exact absurd (Nat.lt_succ_of_le (Nat.le_of_pred_lt h2)) h1

/-- packet numbers accepted (reported "not a duplicate") by a run of inserts, in order -/
def accepted (d : Dedup) : List Nat → List Nat
  | [] => []
  | p :: ps => if (insert d p).2 then accepted (insert d p).1 ps else p :: accepted (insert d p).1 ps

theorem accepted_fresh (ps : List Nat) : ∀ (d : Dedup) (seen : Nat → Prop), Inv d seen →
    (accepted d ps).Nodup ∧ ∀ q ∈ accepted d ps, ¬ seen q := by
  induction ps with
  | nil => intro d seen _; exact ⟨.nil, nofun⟩
  | cons p ps ih =>
    intro d seen h
    have ih := ih (insert d p).1 _ (insert_preserves d seen h p)
    unfold accepted
    cases hd : (insert d p).2
    · exact fresh_cons ih (fun _ => Or.inl) (Or.inr rfl) (insert_not_dup_fresh d seen h p hd)
    · exact fresh_mono ih fun _ => Or.inl

theorem init_inv : Inv init (fun _ => False) := by
  constructor <;> simp [init, W]

end QM.Dedup
