import QuinnModel.Data.PendingAcks
import QuinnModel.Lemmas.RangeSet
/-
Proofs about the PendingAcks / ArrayRangeSet model: the number of pending ACK ranges never exceeds MAX_ACK_BLOCKS,
no panic for packet numbers off the wire, and the set representation stays sorted, disjoint and non-adjacent
(which is also what makes the `partition_point` modelling exact).
-/
namespace QM.PendingAcks
open QM
open QM.RangeSet (From From.nil From.mono from_cons)

/-- non-empty ranges, ascending, with at least one missing value between neighbours -/
def WF (l : RangeSet) : Prop := (∀ r ∈ l, r.1 < r.2) ∧ l.Pairwise (fun a b => a.2 < b.1)

/-- the invariant of the B-tree range set with the conjuncts swapped; its `From lo` (well formed, no range starting
    below `lo`) is what `insert` and `remove` keep of the ranges after the point where they start rebuilding -/
theorem wf_iff (l : RangeSet) : WF l ↔ QM.RangeSet.WF l := and_comm

/-- `insert` and `remove` keep the ranges before `partition_point` and rebuild the rest: the result is well formed
    if the rebuilt part starts no earlier than `x1` or the old rest did -/
theorem WF_splice (p : Range → Bool) (l post : RangeSet) (x1 : Nat) (h : WF l) (hp : ∀ r, p r = true → r.2 < x1)
    (hpost : ∀ lo, lo ≤ x1 → From lo (l.dropWhile p) → From lo post) : WF (l.takeWhile p ++ post) := by
  have hl := h
  rw [← List.takeWhile_append_dropWhile (p := p) (l := l)] at hl
  have hpw := List.pairwise_append.mp hl.2
  have hd : QM.RangeSet.WF (l.dropWhile p) :=
    ⟨h.2.sublist (List.dropWhile_sublist _), fun r hr => h.1 r ((List.dropWhile_sublist _).subset hr)⟩
  have hw := (hpost 0 (Nat.zero_le _) hd.from).wf
  refine ⟨fun r hr => ?_, List.pairwise_append.mpr ⟨hpw.1, hw.1, fun a ha b hb => ?_⟩⟩
  · rcases List.mem_append.mp hr with hr | hr
    · exact h.1 r ((List.takeWhile_sublist p).subset hr)
    · exact hw.2 r hr
  · exact (hpost (a.2 + 1) (hp a (List.all_eq_true.mp List.all_takeWhile a ha)) ⟨hd, hpw.2.2 a ha⟩).lower b hb

theorem dropWhile_head (p : Range → Bool) (l : RangeSet) : ∀ r ∈ (l.dropWhile p).head?, p r = false := by
  intro r hr
  have := List.head?_dropWhile_not p l
  rw [Option.mem_def.mp hr] at this
  exact this

theorem length_split (p : Range → Bool) (l : RangeSet) : (l.takeWhile p).length + (l.dropWhile p).length = l.length := by
  rw [← List.length_append, List.takeWhile_append_dropWhile]

theorem mergeLoop_length (cur : Range) (t : RangeSet) : (mergeLoop cur t).length ≤ t.length + 1 := by
  fun_induction mergeLoop cur t
  next => exact Nat.le_refl _
  next ih => exact Nat.le_trans ih (Nat.le_succ _)
  next => exact Nat.le_refl _

theorem mergeLoop_from (rest : RangeSet) (cur : Range) (hc : cur.1 < cur.2) (hw : From (cur.1 + 1) rest) :
    From cur.1 (mergeLoop cur rest) := by
  fun_induction mergeLoop cur rest
  next => exact from_cons.mpr ⟨Nat.le_refl _, hc, From.nil _⟩
  next cur next t _ ih =>
    obtain ⟨h1, hn, ht⟩ := from_cons.mp hw
    exact ih (Nat.lt_of_lt_of_le hc (Nat.le_max_right _ _)) (ht.mono (Nat.succ_le_succ (Nat.le_of_lt (Nat.lt_trans h1 hn))))
  next cur next t hlt =>
    obtain ⟨_, hn, ht⟩ := from_cons.mp hw
    exact from_cons.mpr ⟨Nat.le_refl _, hc, from_cons.mpr ⟨Nat.lt_of_not_le hlt, hn, ht⟩⟩

/-- the part of `insert` after `partition_point`, on the ranges from `idx` on: `x` goes in front, or is absorbed by the
    first range, which then swallows the ranges it reaches -/
def insertInto (x : Range) : RangeSet → RangeSet
  | [] => [x]
  | range :: rest =>
    if x.2 < range.1 then x :: range :: rest else
    if x.2 ≤ range.2 then (min range.1 x.1, range.2) :: rest else mergeLoop (min range.1 x.1, x.2) rest

theorem rsInsert_eq (l : RangeSet) (x : Range) (hx : rangeEmpty x = false) :
    (rsInsert l x).1 = l.takeWhile (fun r => decide (r.2 < x.1)) ++ insertInto x (l.dropWhile (fun r => decide (r.2 < x.1))) := by
  unfold rsInsert
  rw [hx]
  simp only [Bool.false_eq_true, if_false]
  cases l.dropWhile (fun r => decide (r.2 < x.1)) with
  | nil => rfl
  | cons range rest =>
    have hr1 : (if range.1 > x.1 then (x.1, range.2) else range) = (min range.1 x.1, range.2) := by
      rw [Nat.min_def]
      by_cases h : range.1 ≤ x.1
      · rw [if_neg (Nat.not_lt.mpr h), if_pos h]
      · rw [if_pos (Nat.lt_of_not_le h), if_neg h]
    simp only [hr1, insertInto]
    by_cases h1 : x.2 < range.1
    · simp only [if_pos h1]
    · by_cases h2 : x.2 ≤ range.2
      · simp only [if_neg h1, if_pos h2]
      · simp only [if_neg h1, if_neg h2]

theorem insertInto_length (x : Range) (post : RangeSet) : (insertInto x post).length ≤ post.length + 1 := by
  fun_cases insertInto x post
  · exact Nat.le_refl _
  · exact Nat.le_refl _
  · exact Nat.le_succ _
  · exact Nat.le_trans (mergeLoop_length _ _) (Nat.le_succ _)

theorem insertInto_from (x : Range) (hx : x.1 < x.2) (post : RangeSet) (lo : Nat) (hlo : lo ≤ x.1) (hw : From lo post) :
    From lo (insertInto x post) := by
  fun_cases insertInto x post
  next => exact from_cons.mpr ⟨hlo, hx, From.nil _⟩
  next range rest h1 =>
    obtain ⟨_, hr, hrest⟩ := from_cons.mp hw
    exact from_cons.mpr ⟨hlo, hx, from_cons.mpr ⟨h1, hr, hrest⟩⟩
  next range rest _ _ =>
    obtain ⟨h1, hr, hrest⟩ := from_cons.mp hw
    exact from_cons.mpr ⟨Nat.le_min.mpr ⟨h1, hlo⟩, Nat.lt_of_le_of_lt (Nat.min_le_left _ _) hr, hrest⟩
  next range rest _ _ =>
    obtain ⟨h1, hr, hrest⟩ := from_cons.mp hw
    exact (mergeLoop_from rest (min range.1 x.1, x.2) (Nat.lt_of_le_of_lt (Nat.min_le_right _ _) hx)
      (hrest.mono (Nat.succ_le_succ (Nat.le_trans (Nat.min_le_left _ _) (Nat.le_of_lt hr))))).mono (Nat.le_min.mpr ⟨h1, hlo⟩)

theorem rsInsert_length (l : RangeSet) (x : Range) : (rsInsert l x).1.length ≤ l.length + 1 := by
  cases hx : rangeEmpty x with
  | true => simp [rsInsert, hx]
  | false =>
    rw [rsInsert_eq l x hx, List.length_append]
    have := insertInto_length x (l.dropWhile (fun r => decide (r.2 < x.1)))
    have := length_split (fun r => decide (r.2 < x.1)) l
    omega

theorem rsInsert_wf (l : RangeSet) (x : Range) (h : WF l) : WF (rsInsert l x).1 := by
  cases hx : rangeEmpty x with
  | true => simpa [rsInsert, hx] using h
  | false =>
    rw [rsInsert_eq l x hx]
    exact WF_splice _ l _ x.1 h (fun r hr => of_decide_eq_true hr)
      (insertInto_from x (by simpa [rangeEmpty] using hx) _)

/-- what `remove` pushes back: `r` unless it is empty -/
def consNE (r : Range) (t : RangeSet) : RangeSet := if rangeEmpty r then t else r :: t

theorem removeLoop_cons (x range : Range) (t : RangeSet) (h : ¬ x.2 ≤ range.1) :
    (removeLoop x (range :: t)).1 = consNE (range.1, x.1) (consNE (x.2, range.2) (removeLoop x t).1) := by
  rw [removeLoop, if_neg h]
  simp only [consNE]
  cases rangeEmpty (range.1, x.1) <;> cases rangeEmpty (x.2, range.2) <;> rfl

theorem consNE_length (r : Range) (t : RangeSet) :
    (consNE r t).length ≤ t.length + 1 ∧ (r.2 ≤ r.1 → (consNE r t).length = t.length) := by
  unfold consNE rangeEmpty
  by_cases h : r.1 ≥ r.2
  · rw [if_pos (decide_eq_true h)]; exact ⟨Nat.le_succ _, fun _ => rfl⟩
  · rw [if_neg (by simpa using h)]; exact ⟨Nat.le_refl _, fun h' => absurd h' h⟩

theorem consNE_from (r : Range) (t : RangeSet) (ht : From (r.2 + 1) t) (lo : Nat) (hlo : lo ≤ r.1) (hl : From lo t) :
    From lo (consNE r t) := by
  unfold consNE rangeEmpty
  by_cases h : r.1 ≥ r.2
  · rw [if_pos (decide_eq_true h)]; exact hl
  · rw [if_neg (by simpa using h)]; exact from_cons.mpr ⟨hlo, Nat.lt_of_not_le h, ht⟩

theorem removeLoop_zero_length (x : Range) (hx : x.1 = 0) : ∀ t : RangeSet, (removeLoop x t).1.length ≤ t.length := by
  intro t
  induction t with
  | nil => simp [removeLoop]
  | cons r t ih =>
    by_cases h : x.2 ≤ r.1
    · simp [removeLoop, h]
    · rw [removeLoop_cons x r t h, (consNE_length (r.1, x.1) _).2 (by simp only [hx]; exact Nat.zero_le _)]
      exact Nat.le_trans (consNE_length _ _).1 (Nat.succ_le_succ ih)

theorem removeLoop_from (x : Range) (hx : x.1 < x.2) : ∀ (t : RangeSet) (lo : Nat), From lo t →
    (∀ r ∈ t.head?, x.1 < r.2) → From lo (removeLoop x t).1 := by
  intro t
  induction t with
  | nil => exact fun lo _ _ => From.nil lo
  | cons range t ih =>
    intro lo hw hgt
    have hg0 : x.1 < range.2 := hgt range rfl
    obtain ⟨h1, hr, ht⟩ := from_cons.mp hw
    have it := ih (range.2 + 1) ht (fun r hr' => by
      have := ht.lower r (List.mem_of_mem_head? hr')
      have := ht.wf.2 r (List.mem_of_mem_head? hr')
      omega)
    by_cases hov : x.2 ≤ range.1
    · simp only [removeLoop, if_pos hov]
      exact hw
    · rw [removeLoop_cons x range t hov]
      -- right piece `(x.2, range.2)`, then left piece `(range.1, x.1)`
      have right := consNE_from (x.2, range.2) _ it
      exact consNE_from (range.1, x.1) _ (right (x.1 + 1) hx (it.mono (Nat.succ_le_succ (Nat.le_of_lt hg0)))) lo h1
        (right lo (by omega) (it.mono (by omega)))

theorem rsRemove_eq (l : RangeSet) (x : Range) (hx : rangeEmpty x = false) :
    (rsRemove l x).1 = l.takeWhile (fun r => decide (r.2 ≤ x.1)) ++ (removeLoop x (l.dropWhile (fun r => decide (r.2 ≤ x.1)))).1 := by
  unfold rsRemove
  rw [hx]
  rfl

theorem rsRemove_zero_length (l : RangeSet) (e : Nat) : (rsRemove l (0, e)).1.length ≤ l.length := by
  cases hx : rangeEmpty (0, e) with
  | true => simp [rsRemove, hx]
  | false =>
    rw [rsRemove_eq l _ hx, List.length_append]
    have := removeLoop_zero_length (0, e) rfl (l.dropWhile (fun r => decide (r.2 ≤ (0, e).1)))
    have := length_split (fun r => decide (r.2 ≤ (0, e).1)) l
    omega

theorem rsRemove_wf (l : RangeSet) (x : Range) (h : WF l) : WF (rsRemove l x).1 := by
  cases hx : rangeEmpty x with
  | true => simpa [rsRemove, hx] using h
  | false =>
    rw [rsRemove_eq l x hx]
    exact WF_splice _ l _ (x.1 + 1) h (fun r hr => Nat.lt_succ_of_le (of_decide_eq_true hr)) (fun lo _ hd =>
      removeLoop_from x (by simpa [rangeEmpty] using hx) _ lo hd
        (fun r hr => Nat.not_le.mp (of_decide_eq_false (dropWhile_head _ l r hr))))

theorem rsPopMin_wf (l : RangeSet) (h : WF l) : WF (rsPopMin l).1 := by
  cases l with
  | nil => exact h
  | cons r t => exact (wf_iff t).mpr ((wf_iff _).mp h).tail

theorem insertOne_spec (s : State) (packet now : Nat) (hp : packet < 2^62) (hb : s.ranges.length ≤ Gen.maxAckBlocks)
    (hw : WF s.ranges) :
    ∃ s', insertOne s packet now = some s' ∧ s'.ranges.length ≤ Gen.maxAckBlocks ∧ WF s'.ranges := by
  unfold insertOne
  have : ¬ (packet + 1 ≥ U64) := by simp only [U64]; omega
  simp only [this, if_false]
  refine ⟨_, rfl, ?_⟩
  simp only
  have hi := rsInsert_length s.ranges (packet, packet + 1)
  have hw' := rsInsert_wf s.ranges (packet, packet + 1) hw
  split
  · refine ⟨?_, rsPopMin_wf _ hw'⟩
    cases hr : (rsInsert s.ranges (packet, packet + 1)).1 with
    | nil => exact Nat.zero_le _
    | cons a t => rw [hr] at hi; simp only [rsPopMin, List.length_cons] at *; omega
  · rename_i hle
    exact ⟨Nat.le_of_not_lt (by simpa [Gen.pendingAcksOverCap] using hle), hw'⟩

theorem subtractBelow_spec (s : State) (max : Nat) (hp : max < 2^62) (hb : s.ranges.length ≤ Gen.maxAckBlocks)
    (hw : WF s.ranges) :
    ∃ s', subtractBelow s max = some s' ∧ s'.ranges.length ≤ Gen.maxAckBlocks ∧ WF s'.ranges := by
  unfold subtractBelow
  have : ¬ (max + 1 ≥ U64) := by simp only [U64]; omega
  simp only [this, if_false]
  exact ⟨_, rfl, Nat.le_trans (rsRemove_zero_length s.ranges (max + 1)) hb, rsRemove_wf _ _ hw⟩

inductive Op where
  | insert (packet now : Nat)
  | sub (max : Nat)
deriving Repr

/-- packet numbers come off the wire: below 2^62 -/
def Op.valid : Op → Prop
  | .insert p _ => p < 2^62
  | .sub m => m < 2^62

def step (s : State) : Op → Option State
  | .insert p n => insertOne s p n
  | .sub m => subtractBelow s m

def run : State → List Op → Option State
  | s, [] => some s
  | s, op :: ops => match step s op with
    | none => none
    | some s' => run s' ops

theorem run_bound (ops : List Op) : ∀ s, s.ranges.length ≤ Gen.maxAckBlocks → WF s.ranges → (∀ op ∈ ops, op.valid) →
    ∃ s', run s ops = some s' ∧ s'.ranges.length ≤ Gen.maxAckBlocks ∧ WF s'.ranges := by
  induction ops with
  | nil => intro s h hw _; exact ⟨s, rfl, h, hw⟩
  | cons op ops ih =>
    intro s h hw hv
    obtain ⟨hop, hv'⟩ := List.forall_mem_cons.mp hv
    have : ∃ s1, step s op = some s1 ∧ s1.ranges.length ≤ Gen.maxAckBlocks ∧ WF s1.ranges := by
      cases op with
      | insert p n => exact insertOne_spec s p n hop h hw
      | sub m => exact subtractBelow_spec s m hop h hw
    obtain ⟨s1, h1, hb1, hw1⟩ := this
    obtain ⟨s2, h2, hb2, hw2⟩ := ih s1 hb1 hw1 hv'
    exact ⟨s2, by simp only [run, h1, h2], hb2, hw2⟩

end QM.PendingAcks
