import QuinnModel.Endpoint.TokenCache
/- `TokenMemoryCache`: never panics, stays within its bounds, hands every stored token out at most once. -/
namespace QM.TokenCache

variable {α : Type}

def allToks (l : List (Entry α)) : List α := l.flatMap (·.tokens)

@[simp] theorem allToks_nil : allToks ([] : List (Entry α)) = [] := rfl
@[simp] theorem allToks_cons (e : Entry α) (l : List (Entry α)) : allToks (e :: l) = e.tokens ++ allToks l := by
  simp [allToks]

def inserted : List (Op α) → List α
  | [] => []
  | .insert _ t :: ops => t :: inserted ops
  | .take _ :: ops => inserted ops

structure Inv (s : State α) : Prop where
  nodup : (s.lru.map (·.name)).Nodup
  nonempty : ∀ e ∈ s.lru, e.tokens ≠ []
  bounded : ∀ e ∈ s.lru, e.tokens.length ≤ s.maxTokens
  names : s.lru.length ≤ s.maxNames

theorem init_inv (a b : Nat) : Inv (init a b : State α) := by
  refine ⟨?_, ?_, ?_, ?_⟩ <;> simp [init]

theorem extract_some (n : String) (l : List (Entry α)) : ∀ (e : Entry α) (r : List (Entry α)),
    extract n l = some (e, r) → l.Perm (e :: r) ∧ e.name = n ∧ r.Sublist l := by
  fun_induction extract n l
  case case2 x xs hx =>
    rintro _ _ ⟨⟩
    exact ⟨List.Perm.refl _, hx, List.sublist_cons_self _ _⟩
  case case3 x xs _ y r' hrec ih =>
    rintro _ _ ⟨⟩
    have ⟨hp, hn, hs⟩ := ih y r' hrec
    exact ⟨(List.Perm.cons x hp).trans (List.Perm.swap y x r'), hn, hs.cons_cons x⟩
  all_goals nofun

theorem extract_none (n : String) (l : List (Entry α)) : extract n l = none → ∀ x ∈ l, x.name ≠ n := by
  fun_induction extract n l
  case case1 => exact fun _ _ hx => nomatch hx
  case case4 y ys hy hrec ih =>
    intro _ x hx
    rcases List.mem_cons.mp hx with rfl | hx
    · exact hy
    · exact ih hrec x hx
  all_goals nofun

theorem Inv.sub {s : State α} (h : Inv s) {r : List (Entry α)} (hsub : r.Sublist s.lru) :
    Inv { s with lru := r } :=
  ⟨h.nodup.sublist (hsub.map _), fun x hx => h.nonempty x (hsub.mem hx), fun x hx => h.bounded x (hsub.mem hx),
    Nat.le_trans hsub.length_le h.names⟩

/-- the queue `toks` may go in front of `r` under the name `n` -/
structure Fits (s : State α) (n : String) (toks : List α) (r : List (Entry α)) : Prop where
  sub : r.Sublist s.lru
  fresh : ∀ x ∈ r, x.name ≠ n
  room : r.length < s.maxNames
  nonempty : toks ≠ []
  bounded : toks.length ≤ s.maxTokens

theorem Inv.front {s : State α} (h : Inv s) {r : List (Entry α)} {n : String} {toks : List α}
    (f : Fits s n toks r) : Inv { s with lru := ⟨n, toks⟩ :: r } := by
  have hr := h.sub f.sub
  refine ⟨List.nodup_cons.mpr ⟨fun hm => ?_, hr.nodup⟩, fun x hx => ?_, fun x hx => ?_, f.room⟩
  · obtain ⟨x, hx, hxn⟩ := List.mem_map.mp hm
    exact f.fresh x hx hxn
  · rcases List.mem_cons.mp hx with rfl | hx
    · exact f.nonempty
    · exact hr.nonempty x hx
  · rcases List.mem_cons.mp hx with rfl | hx
    · exact f.bounded
    · exact hr.bounded x hx

theorem Inv.found {s : State α} (h : Inv s) {n : String} {e : Entry α} {rest : List (Entry α)}
    (hex : extract n s.lru = some (e, rest)) : Fits s n e.tokens rest := by
  have ⟨hp, hname, hsub⟩ := extract_some n s.lru e rest hex
  have he : e ∈ s.lru := hp.mem_iff.mpr List.mem_cons_self
  have hnd : ((e :: rest).map (·.name)).Nodup := (List.Perm.nodup_iff (hp.map _)).mp h.nodup
  refine ⟨hsub, fun x hx hxn => ?_, ?_, h.nonempty e he, h.bounded e he⟩
  · exact (List.nodup_cons.mp hnd).1 (List.mem_map.mpr ⟨x, hx, hxn.trans hname.symm⟩)
  · have := hp.length_eq; have := h.names; rw [List.length_cons] at *; omega

section Count
variable [DecidableEq α]

theorem count_allToks_perm {l₁ l₂ : List (Entry α)} (h : l₁.Perm l₂) (a : α) :
    (allToks l₁).count a = (allToks l₂).count a :=
  (List.Perm.flatMap_right _ h).count_eq a

theorem count_extract {n : String} {l rest : List (Entry α)} {e : Entry α} (hex : extract n l = some (e, rest))
    (a : α) : (allToks l).count a = e.tokens.count a + (allToks rest).count a := by
  rw [count_allToks_perm (extract_some n l e rest hex).1 a, allToks_cons, List.count_append]

theorem count_allToks_dropLast (a : α) : ∀ (l : List (Entry α)),
    (allToks l.dropLast).count a ≤ (allToks l).count a := by
  intro l
  induction l with
  | nil => simp
  | cons x xs ih =>
    cases xs with
    | nil => simp
    | cons y ys =>
      rw [List.dropLast_cons_cons, allToks_cons, allToks_cons, List.count_append, List.count_append]
      have := ih
      rw [allToks_cons, List.count_append] at this
      omega

end Count

/-- a cache without room for names or tokens is switched off -/
theorem store_off (s : State α) (n : String) (t : α) (h : s.maxNames = 0 ∨ s.maxTokens = 0) : store s n t = some s := by
  by_cases hN : s.maxNames = 0
  · rw [store, if_pos hN]
  · rw [store, if_neg hN, if_pos (h.resolve_left hN)]

/-- when the cache is not switched off, the entry of `n` (fresh, or freshened and extended by `t`, its oldest token
    dropped when the queue was full) goes in front of what remains of the list -/
theorem store_shape [DecidableEq α] (s : State α) (h : Inv s) (n : String) (t : α)
    (hon : ¬ (s.maxNames = 0 ∨ s.maxTokens = 0)) :
    ∃ toks r, store s n t = some { s with lru := ⟨n, toks⟩ :: r } ∧ Fits s n toks r ∧
      ∀ a, toks.count a + (allToks r).count a ≤ (allToks s.lru).count a + [t].count a := by
  fun_cases store s n t
  case case1 h0 => exact absurd (Or.inl h0) hon
  case case2 _ h0 => exact absurd (Or.inr h0) hon
  case case3 e rest hex hfull hne =>
    -- a full queue holds exactly `maxTokens` tokens
    have hge : e.tokens.length ≥ s.maxTokens := by simpa [Gen.tokenCacheQueueFull] using hfull
    exact absurd (Nat.le_antisymm (h.found hex).bounded hge) hne
  case case4 e rest hex _ _ htk => exact absurd htk (h.found hex).nonempty
  case case5 e rest hex _ heq t0 tl htk =>
    obtain ⟨hsub, hfresh, hlen, _, _⟩ := h.found hex
    have heq := Decidable.not_not.mp heq
    rw [htk, List.length_cons] at heq
    refine ⟨_, _, rfl, ⟨hsub, hfresh, hlen, by simp, by simp only [List.length_append, List.length_singleton]; omega⟩,
      fun a => ?_⟩
    simp only [count_extract hex a, htk, List.count_append, List.count_cons]
    split <;> omega
  case case6 e rest hex hfull =>
    obtain ⟨hsub, hfresh, hlen, _, _⟩ := h.found hex
    have hlt : e.tokens.length < s.maxTokens := by simpa [Gen.tokenCacheQueueFull] using hfull
    refine ⟨_, _, rfl, ⟨hsub, hfresh, hlen, by simp, by simp only [List.length_append, List.length_singleton]; omega⟩,
      fun a => ?_⟩
    simp only [count_extract hex a, List.count_append]
    omega
  case case7 hex hfull hl =>
    rw [List.getLast?_eq_none_iff.mp hl] at hfull
    simp [Gen.tokenCacheNamesFull] at hfull
    omega
  case case8 hex hfull last hl =>
    have hpos : s.lru.length ≠ 0 := fun h0 => by
      rw [List.eq_nil_of_length_eq_zero h0] at hl; exact absurd hl (by simp)
    refine ⟨_, _, rfl, ⟨List.dropLast_sublist _, fun x hx => extract_none n s.lru hex x ((List.dropLast_sublist _).mem hx),
      by have := h.names; rw [List.length_dropLast]; omega, by simp, by simp only [List.length_singleton]; omega⟩,
      fun a => ?_⟩
    have := count_allToks_dropLast a s.lru
    omega
  case case9 hex hfull =>
    have hlt : s.lru.length < s.maxNames := by simpa [Gen.tokenCacheNamesFull] using hfull
    exact ⟨_, _, rfl, ⟨List.Sublist.refl _, extract_none n s.lru hex, hlt, by simp,
      by simp only [List.length_singleton]; omega⟩, fun a => Nat.le_of_eq (Nat.add_comm _ _)⟩

theorem store_spec [DecidableEq α] (s : State α) (h : Inv s) (n : String) (t : α) :
    ∃ s', store s n t = some s' ∧ Inv s' ∧ s'.maxNames = s.maxNames ∧ s'.maxTokens = s.maxTokens ∧
      ∀ a, (allToks s'.lru).count a ≤ (allToks s.lru).count a + [t].count a := by
  by_cases hoff : s.maxNames = 0 ∨ s.maxTokens = 0
  · exact ⟨s, store_off s n t hoff, h, rfl, rfl, fun a => Nat.le_add_right _ _⟩
  obtain ⟨toks, r, hs, hfit, hc⟩ := store_shape s h n t hoff
  exact ⟨_, hs, h.front hfit, rfl, rfl, fun a => by
    rw [allToks_cons, List.count_append]; exact hc a⟩

theorem take_spec [DecidableEq α] (s : State α) (h : Inv s) (n : String) :
    ∃ s' o, take s n = some (s', o) ∧ Inv s' ∧ s'.maxNames = s.maxNames ∧ s'.maxTokens = s.maxTokens ∧
      ∀ a, (allToks s'.lru).count a + (o.toList).count a = (allToks s.lru).count a := by
  fun_cases take s n
  case case1 => exact ⟨s, none, rfl, h, rfl, rfl, fun a => by simp⟩
  case case2 e rest hex htk => exact absurd htk (h.found hex).nonempty
  case case3 e rest hex t tl htk hemp =>
    refine ⟨_, _, rfl, h.sub (h.found hex).sub, rfl, rfl, fun a => ?_⟩
    rw [count_extract hex a, htk, List.isEmpty_iff.mp hemp, Option.toList_some, Nat.add_comm]
  case case4 e rest hex t tl htk hemp =>
    obtain ⟨hsub, hfresh, hlen, _, hb⟩ := h.found hex
    rw [htk, List.length_cons] at hb
    refine ⟨_, _, rfl, h.front ⟨hsub, hfresh, hlen, fun h0 => hemp (List.isEmpty_iff.mpr h0), by omega⟩, rfl, rfl,
      fun a => ?_⟩
    simp only [count_extract hex a, htk, allToks_cons, List.count_append, Option.toList_some, List.count_cons,
      List.count_nil]
    omega

/-! Ghost instrumentation: a clock that ticks with every operation and, per server name, the time of its
last *use* (a `store` under that name, or a `take` that found it).  The model's list is always ordered
by last use, most recent first; hence the entry `store` evicts (the last one) is the least recently used. -/

/-- the list is ordered by decreasing time of last use, and no use lies in the future -/
def Ordered (l : List (Entry α)) (stamp : String → Nat) (clock : Nat) : Prop :=
  (l.map (fun e => stamp e.name)).Pairwise (· > ·) ∧ ∀ e ∈ l, stamp e.name ≤ clock

/-- last-use times after an operation that uses `n` at time `clock + 1` -/
def use (stamp : String → Nat) (n : String) (clock : Nat) : String → Nat :=
  fun m => if m = n then clock + 1 else stamp m

theorem use_other {stamp : String → Nat} {n : String} {clock : Nat} {l : List (Entry α)}
    (hn : ∀ x ∈ l, x.name ≠ n) : l.map (fun e => use stamp n clock e.name) = l.map (fun e => stamp e.name) := by
  apply List.map_congr_left
  intro x hx
  simp [use, hn x hx]

theorem ordered_front {stamp : String → Nat} {clock : Nat} {l r : List (Entry α)} (n : String) (toks : List α)
    (h : Ordered l stamp clock) (hsub : r.Sublist l) (hn : ∀ x ∈ r, x.name ≠ n) :
    Ordered (⟨n, toks⟩ :: r) (use stamp n clock) (clock + 1) := by
  obtain ⟨hp, hc⟩ := h
  constructor
  · rw [List.map_cons, List.pairwise_cons]
    constructor
    · intro v hv
      obtain ⟨x, hx, rfl⟩ := List.mem_map.mp hv
      have := hc x (hsub.mem hx)
      simp only [use, hn x hx, if_false, if_true]
      omega
    · rw [use_other hn]
      exact hp.sublist (hsub.map _)
  · intro e he
    rcases List.mem_cons.mp he with rfl | he
    · simp [use]
    · have := hc e (hsub.mem he)
      simp only [use, hn e he, if_false]; omega

theorem ordered_sub {stamp : String → Nat} {clock : Nat} {l r : List (Entry α)}
    (h : Ordered l stamp clock) (hsub : r.Sublist l) : Ordered r stamp (clock + 1) := by
  obtain ⟨hp, hc⟩ := h
  exact ⟨hp.sublist (hsub.map _), fun e he => by have := hc e (hsub.mem he); omega⟩

theorem store_ordered [DecidableEq α] (s s' : State α) (h : Inv s) (n : String) (t : α) (stamp : String → Nat)
    (clock : Nat) (ho : Ordered s.lru stamp clock) (hs : store s n t = some s') :
    Ordered s'.lru (if s.maxNames = 0 ∨ s.maxTokens = 0 then stamp else use stamp n clock) (clock + 1) := by
  by_cases hoff : s.maxNames = 0 ∨ s.maxTokens = 0
  · obtain rfl := Option.some.inj (hs.symm.trans (store_off s n t hoff))
    rw [if_pos hoff]
    exact ordered_sub ho (List.Sublist.refl _)
  obtain ⟨toks, r, hs', ⟨hsub, hfresh, _, _, _⟩, _⟩ := store_shape s h n t hoff
  obtain rfl := Option.some.inj (hs.symm.trans hs')
  rw [if_neg hoff]
  exact ordered_front n _ ho hsub hfresh

theorem take_ordered (s s' : State α) (h : Inv s) (n : String) (o : Option α) (stamp : String → Nat) (clock : Nat)
    (ho : Ordered s.lru stamp clock) (hs : take s n = some (s', o)) :
    Ordered s'.lru (if o.isSome then use stamp n clock else stamp) (clock + 1) := by
  revert hs
  fun_cases take s n
  case case1 =>
    rintro ⟨⟩
    exact ordered_sub ho (List.Sublist.refl _)
  case case2 => nofun
  case case3 e rest hex t tl htk hemp =>
    rintro ⟨⟩
    obtain ⟨hsub, hfresh, _⟩ := h.found hex
    -- the entry is gone; the others keep their (unchanged) stamps
    obtain ⟨hp', hc'⟩ := ordered_sub ho hsub
    show Ordered rest (use stamp n clock) (clock + 1)
    exact ⟨by rw [use_other hfresh]; exact hp', fun x hx => by simp only [use, hfresh x hx, if_false]; exact hc' x hx⟩
  case case4 e rest hex t tl htk hemp =>
    rintro ⟨⟩
    obtain ⟨hsub, hfresh, _⟩ := h.found hex
    exact ordered_front n _ ho hsub hfresh

theorem last_is_lru {stamp : String → Nat} {clock : Nat} (l : List (Entry α)) (last : Entry α)
    (ho : Ordered l stamp clock) (hl : l.getLast? = some last) : ∀ e ∈ l, stamp last.name ≤ stamp e.name := by
  obtain ⟨ys, rfl⟩ := List.getLast?_eq_some_iff.mp hl
  have hp := ho.1
  rw [List.map_append, List.pairwise_append] at hp
  intro e he
  rcases List.mem_append.mp he with h | h
  · exact Nat.le_of_lt (hp.2.2 _ (List.mem_map.mpr ⟨e, h, rfl⟩) _ (List.mem_singleton.mpr rfl))
  · rw [List.mem_singleton.mp h]
    exact Nat.le_refl _

/-- ghost-instrumented run: final state, last-use time per name, clock; `none` = panic -/
def runG (s : State α) (stamp : String → Nat) (clock : Nat) : List (Op α) → Option (State α × (String → Nat) × Nat)
  | [] => some (s, stamp, clock)
  | .insert n t :: ops => match store s n t with
    | none => none
    | some s' => runG s' (if s.maxNames = 0 ∨ s.maxTokens = 0 then stamp else use stamp n clock) (clock + 1) ops
  | .take n :: ops => match take s n with
    | none => none
    | some (s', o) => runG s' (if o.isSome then use stamp n clock else stamp) (clock + 1) ops

theorem runG_ordered [DecidableEq α] (ops : List (Op α)) : ∀ (s : State α) (stamp : String → Nat) (clock : Nat),
    Inv s → Ordered s.lru stamp clock →
    ∃ s' stamp' clock', runG s stamp clock ops = some (s', stamp', clock') ∧ Inv s' ∧ Ordered s'.lru stamp' clock' := by
  induction ops with
  | nil => intro s stamp clock h ho; exact ⟨s, stamp, clock, rfl, h, ho⟩
  | cons op ops ih =>
    intro s stamp clock h ho
    cases op with
    | insert n t =>
      obtain ⟨s1, h1, hi1, _, _, _⟩ := store_spec s h n t
      have ho1 := store_ordered s s1 h n t stamp clock ho h1
      obtain ⟨s2, st2, c2, h2, hi2, ho2⟩ := ih s1 _ _ hi1 ho1
      exact ⟨s2, st2, c2, by simp only [runG, h1, h2], hi2, ho2⟩
    | take n =>
      obtain ⟨s1, o, h1, hi1, _, _, _⟩ := take_spec s h n
      have ho1 := take_ordered s s1 h n o stamp clock ho h1
      obtain ⟨s2, st2, c2, h2, hi2, ho2⟩ := ih s1 _ _ hi1 ho1
      exact ⟨s2, st2, c2, by simp only [runG, h1, h2], hi2, ho2⟩

theorem run_conserve [DecidableEq α] (ops : List (Op α)) : ∀ (s : State α), Inv s →
    ∃ s' out, run s ops = some (s', out) ∧ Inv s' ∧ s'.maxNames = s.maxNames ∧ s'.maxTokens = s.maxTokens ∧
      ∀ a, out.count a + (allToks s'.lru).count a ≤ (allToks s.lru).count a + (inserted ops).count a := by
  induction ops with
  | nil => intro s h; exact ⟨s, [], rfl, h, rfl, rfl, fun a => by simp [inserted]⟩
  | cons op ops ih =>
    intro s h
    cases op with
    | insert n t =>
      obtain ⟨s1, h1, hi1, hN1, hT1, hc1⟩ := store_spec s h n t
      obtain ⟨s2, out, h2, hi2, hN2, hT2, hc2⟩ := ih s1 hi1
      refine ⟨s2, out, ?_, hi2, by omega, by omega, ?_⟩
      · simp only [run, h1, h2]
      · intro a
        have h1 := hc1 a
        have h2 := hc2 a
        rw [List.count_cons, List.count_nil] at h1
        rw [inserted, List.count_cons]
        omega
    | take n =>
      obtain ⟨s1, o, h1, hi1, hN1, hT1, hc1⟩ := take_spec s h n
      obtain ⟨s2, out, h2, hi2, hN2, hT2, hc2⟩ := ih s1 hi1
      refine ⟨s2, o.toList ++ out, ?_, hi2, by omega, by omega, fun a => ?_⟩
      · simp only [run, h1, h2]
        cases o <;> rfl
      · have h1 := hc1 a
        have h2 := hc2 a
        rw [List.count_append, inserted]
        omega

end QM.TokenCache
