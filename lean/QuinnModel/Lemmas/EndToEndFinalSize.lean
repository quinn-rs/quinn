import QuinnModel.Lemmas.EndToEndRecv
import QuinnModel.Lemmas.Runs
/-
The final size of a receive half over ALL frame sequences (any peer, honest or not): once known it never
changes, the high-water mark never passes it and never decreases. (`Recv::ingest`, `Recv::reset`, `Recv::stop`
of the streams model; frames answered with a connection error leave the half alone.)
-/
namespace QM.E2E
open QM QM.Streams

inductive RecvOp where
  | stream (off len : Nat) (fin : Bool) (received maxData : Nat)
  | reset (code finalSize received maxData : Nat)
  | stop

/-- one frame or call; an error or a panic leaves the half as it was -/
def rstep (r : Recv) : RecvOp → Recv
  | .stream off len fin received maxData =>
    match r.ingest off len fin received maxData with
    | some (.ok (_, _, r')) => r'
    | _ => r
  | .reset code fs received maxData =>
    match r.reset code fs received maxData with
    | some (.ok (_, r')) => r'
    | _ => r
  | .stop =>
    match r.stop with
    | some (some (_, _, r')) => r'
    | _ => r

/-- the final size bounds the high-water mark -/
def FinLe (r : Recv) : Prop := ∀ fo, r.finalOffset = some fo → r.end_ ≤ fo

theorem rstep_final (r : Recv) (op : RecvOp) (hle : FinLe r) :
    (∀ fo, r.finalOffset = some fo → (rstep r op).finalOffset = some fo) ∧ r.end_ ≤ (rstep r op).end_ ∧
    FinLe (rstep r op) := by
  have same : (∀ fo, r.finalOffset = some fo → r.finalOffset = some fo) ∧ r.end_ ≤ r.end_ ∧ FinLe r :=
    ⟨fun _ h => h, Nat.le_refl _, hle⟩
  fun_cases rstep r op
  case case1 hing =>
    obtain ⟨e1, hfl, hkeep⟩ := ingest_end hing hle
    exact ⟨hkeep, e1 ▸ Nat.le_max_left _ _, hfl⟩
  case case3 code fs _ _ _ r' hres =>
    obtain ⟨hse, _, ⟨_, rfl⟩ | ⟨_, _, rfl⟩⟩ := reset_ok hres
    · exact same
    · obtain ⟨hfo, hend⟩ := resetSizeErr_none hse hle
      refine ⟨fun fo hf => ?_, Nat.le_refl _, fun fo hf => ?_⟩
      · simp [Recv.finalOffset, hfo fo hf]
      · obtain rfl : fs = fo := by simpa [Recv.finalOffset] using hf
        exact hend
  case case5 r' hs =>
    obtain ⟨p1, p2⟩ := stop_spec hs
    have hf : r'.finalOffset = r.finalOffset := by simp only [Recv.finalOffset, p1]
    exact ⟨fun fo h => hf ▸ h, Nat.le_of_eq p2.symm, fun fo h => p2 ▸ hle fo (hf ▸ h)⟩
  all_goals exact same

theorem rrun_final (ops : List RecvOp) (r : Recv) (h : FinLe r) :
    (∀ fo, r.finalOffset = some fo → (ops.foldl rstep r).finalOffset = some fo) ∧
    r.end_ ≤ (ops.foldl rstep r).end_ ∧ FinLe (ops.foldl rstep r) := by
  refine foldl_inv (P := fun r' => (∀ fo, r.finalOffset = some fo → r'.finalOffset = some fo) ∧ r.end_ ≤ r'.end_ ∧ FinLe r')
    (fun r' op b => ?_) ops r ⟨fun _ hf => hf, Nat.le_refl _, h⟩
  obtain ⟨b1, b2, b3⟩ := b
  obtain ⟨a1, a2, a3⟩ := rstep_final r' op b3
  exact ⟨fun fo hf => a1 fo (b1 fo hf), Nat.le_trans b2 a2, a3⟩

end QM.E2E
