import QuinnModel.Lemmas.StreamsC06Main
/-
C06 — "no delivery after an error"; running a history with the receiver ghosts; the F12/F14/F15 histories.
-/
namespace QM.Streams

theorem lookup_no_delivery {s s' : State} {id : Nat} (h : s' = s ∨ ∃ rs, s.getOrInsertRecv id = some (rs, s')) :
    s'.rcore = s.rcore ∧ ∀ k r, s'.rv k = some r → s.rv k = some r ∨ r = Recv.new s.streamReceiveWindow := by
  rcases h with rfl | ⟨rs, hg⟩
  · exact ⟨rfl, fun k r hk => Or.inl hk⟩
  have g := getOrInsertRecv_spec hg
  refine ⟨g.core, fun k r hk => ?_⟩
  rw [g.rv k] at hk
  split at hk
  · simp only [Option.some.injEq] at hk; subst hk
    rename_i hki; subst hki
    exact g.origin.imp rv_eq_some.mpr And.right
  · exact Or.inl hk

/-- a STREAM frame is refused by the validation of its id, before anything changes, or by `ingest` on the half
    that the lookup found or instantiated -/
theorem received_error {s s' : State} {id off len : Nat} {fin : Bool} {e : TErr}
    (h : s.received id off len fin = some (s', .error e)) :
    (s' = s ∧ s.validateReceiveId id = some e) ∨
    ∃ rs, s.getOrInsertRecv id = some (rs, s') ∧
      rs.ingest off len fin s'.dataRecvd s'.localMaxData = some (.error e) := by
  revert h
  fun_cases State.received s id off len fin <;> intro h <;> cases h
  · exact .inl ⟨rfl, ‹_›⟩
  · exact .inr ⟨_, ‹_›, ‹_›⟩

theorem receivedReset_error {s s' : State} {id code fo : Nat} {e : TErr}
    (h : s.receivedReset id code fo = some (s', .error e)) :
    s' = s ∨ ∃ rs, s.getOrInsertRecv id = some (rs, s') := by
  revert h
  fun_cases State.receivedReset s id code fo <;> intro h
  case case1 => cases h; exact .inl rfl
  case case4 => cases h; exact .inr ⟨_, ‹_›⟩
  case case11 => cases (Prod.mk.inj (Option.some.inj h)).2
  all_goals cases h

/-- `C`: the consumed-bytes ghost, `W`: the largest window configured so far -/
def runR : State → Nat → Nat → List Op → Option (State × Nat × Nat)
  | s, C, W, [] => some (s, C, W)
  | s, C, W, o :: os =>
    match step s o with
    | none => none
    | some (s', out) =>
      runR s' (C + discarded s o out) (Nat.max W (match o with | .recvWindow n => n | _ => 0)) os

/-- the F12 history: window 64 shrunk to 0, then raised to 2522, then 2555 bytes at once -/
def F12_ops : List Op :=
  [ .params ⟨20642, 0, 1073741824, 0, 2, 176⟩, .recvWindow 0, .recvWindow 2522, .stream 6 0 2555 true ]

def F12_config : Config := ⟨.server, 10, 2, 38, 64, 4611686018427387901⟩

/-- the F14 history: 14 bytes received, the stream stopped (credited), then reset with final size 14, then 39
    bytes on another stream -/
def F14_ops : List Op :=
  [ .params ⟨100, 100, 100, 2, 2, 100⟩, .stream 0 0 14 false, .stop 0 7, .rst 0 9 14, .stream 4 0 39 false ]

def F14_config : Config := ⟨.server, 2, 2, 100, 25, 1000⟩

/-- the F15 history: 59 bytes received, the stream reset with final size 59 (credited), then stopped by the
    application, then 118 bytes on another stream -/
def F15_ops : List Op :=
  [ .params ⟨100, 100, 100, 2, 2, 100⟩, .stream 0 0 59 false, .rst 0 24 59, .stop 0 35, .stream 4 0 118 false ]

def F15_config : Config := ⟨.server, 2, 2, 100, 59, 2002⟩

instance (s : State) : Decidable (Unsat s) := by unfold Unsat; exact inferInstance

/-- every state along the run is unsaturated -/
def runU : State → List Op → Bool
  | _, [] => true
  | s, o :: os =>
    match step s o with
    | none => false
    | some (s', _) => decide (Unsat s') && runU s' os

theorem reachR_runR {c : Config} : ∀ (ops : List Op) {s s' : State} {C C' W W' : Nat} {U : Prop},
    ReachR c s C W U → (∀ o ∈ ops, o.isRestart = false) → runR s C W ops = some (s', C', W') →
    runU s ops = true → ∃ U', ReachR c s' C' W' U' ∧ (U → U') := by
  intro ops
  induction ops with
  | nil =>
    intro s s' C C' W W' U r _ hr _
    simp only [runR, Option.some.injEq, Prod.mk.injEq] at hr
    obtain ⟨rfl, rfl, rfl⟩ := hr
    exact ⟨U, r, id⟩
  | cons o os ih =>
    intro s s' C C' W W' U r hp hr hu
    unfold runR at hr
    unfold runU at hu
    split at hr
    · contradiction
    · rename_i s1 out hs
      simp only [hs, Bool.and_eq_true, decide_eq_true_eq] at hu
      have r1 := ReachR.step r (hp o (List.mem_cons_self ..)) hs
      obtain ⟨U', r', hU⟩ := ih r1 (fun o' ho' => hp o' (List.mem_cons_of_mem _ ho')) hr hu.2
      exact ⟨U', r', fun u => hU ⟨u, hu.1⟩⟩

end QM.Streams
