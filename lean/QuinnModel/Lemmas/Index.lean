import QuinnModel.Lemmas.IndexOps
/-
C09 lemmas over histories: `Sound` along every run, what a routing decision implies in a `Sound` state,
nothing stale after `Drained`, and `Drained` never panics.
-/
namespace QM.Index

/-- `P` holds of every call of a history at the state in which it is made -/
def Along (P : State → Op → Prop) : State → List Op → Prop
  | _, [] => True
  | s, op :: ops => P s op ∧ match step s op with
    | some s' => Along P s' ops
    | none => True

theorem along_cons_iff {P : State → Op → Prop} {s : State} {op : Op} {ops : List Op} :
    Along P s (op :: ops) ↔ P s op ∧ ∀ s', step s op = some s' → Along P s' ops := by
  rw [Along]
  cases step s op <;> simp

theorem along_mono {P Q : State → Op → Prop} (hpq : ∀ s op, P s op → Q s op) :
    ∀ {s : State} {ops : List Op}, Along P s ops → Along Q s ops := by
  intro s ops
  induction ops generalizing s with
  | nil => intro _; trivial
  | cons op ops ih =>
    intro h
    rw [along_cons_iff] at h ⊢
    exact ⟨hpq _ _ h.1, fun s' hs' => ih (h.2 s' hs')⟩

theorem along_cons {P : State → Op → Prop} {s s' : State} {op : Op} {ops : List Op}
    (hs : step s op = some s') (hp : P s op) (hrest : Along P s' ops) : Along P s (op :: ops) :=
  along_cons_iff.mpr ⟨hp, fun _ e => Option.some.inj (hs.symm.trans e) ▸ hrest⟩

theorem along_true (s : State) (ops : List Op) : Along (fun _ _ => True) s ops := by
  induction ops generalizing s with
  | nil => trivial
  | cons op ops ih => exact along_cons_iff.mpr ⟨trivial, fun s' _ => ih s'⟩

theorem inv_runFrom {P : State → Op → Prop} {Inv : State → Prop}
    (hstep : ∀ s op s', Inv s → P s op → step s op = some s' → Inv s') :
    ∀ {ops : List Op} {s0 s : State}, Inv s0 → Along P s0 ops → runFrom s0 ops = some s → Inv s := by
  intro ops s0 s h0 hal hr
  fun_induction runFrom s0 ops
  case case1 => cases hr; exact h0
  case case2 => cases hr
  case case3 s0 op ops s1 hs1 ih =>
    exact ih (hstep _ _ _ h0 hal.1 hs1) ((along_cons_iff.mp hal).2 s1 hs1) hr

theorem step_cases {R : State → Op → State → Prop}
    (connect : ∀ {s r i t c x}, connect s r i t c = some x → R s (.connect r i t c) x.1)
    (first : ∀ {s a d b x}, firstPacket s a d b = some x → R s (.first a d b) x.1)
    (accept : ∀ {s i m c x}, accept s i m c = some x → R s (.accept i m c) x.1)
    (cleanUp : ∀ {s i s'}, cleanUpIncoming s i = some s' → R s (.cleanUp i) s')
    (refuse : ∀ {s i c s'}, cleanUpIncoming s i = some s' → R s (.refuse i c) s')
    (needIds : ∀ {s ch c n s' ids c'}, sendNewIdentifiers s ch n c = some (s', ids, c') →
      R s (.event ch c (.needIdentifiers n)) s')
    (resetToken : ∀ {s ch c remote token s'}, evResetToken s ch remote token = some s' →
      R s (.event ch c (.resetToken remote token)) s')
    (retire : ∀ {s ch c seq allow x}, evRetire s ch seq allow c = some x →
      R s (.event ch c (.retireConnectionId seq allow)) x.1)
    (drained : ∀ {s ch c s'}, evDrained s ch = some s' → R s (.event ch c .drained) s')
    {s s' : State} {op : Op} (h : step s op = some s') : R s op s' := by
  cases op with
  | connect r i t c => obtain ⟨x, h1, rfl⟩ := Option.map_eq_some_iff.mp h; exact connect h1
  | first a d b => obtain ⟨x, h1, rfl⟩ := Option.map_eq_some_iff.mp h; exact first h1
  | accept i m c => obtain ⟨x, h1, rfl⟩ := Option.map_eq_some_iff.mp h; exact accept h1
  | cleanUp i => exact cleanUp h
  | refuse i c => exact refuse (refuse_spec h)
  | event ch c ev =>
    obtain ⟨x, h1, rfl⟩ := Option.map_eq_some_iff.mp h
    cases ev with
    | needIdentifiers n =>
      simp only [handleEvent] at h1
      split at h1
      · cases h1
      · rename_i s2 ids c2 hsend; cases h1; exact needIds hsend
    | resetToken remote token => obtain ⟨s2, h2, rfl⟩ := Option.map_eq_some_iff.mp h1; exact resetToken h2
    | retireConnectionId seq allow => exact retire h1
    | drained => obtain ⟨s2, h2, rfl⟩ := Option.map_eq_some_iff.mp h1; exact drained h2

theorem sound_step {s s' : State} {op : Op} (hs : Sound s) (h : step s op = some s') : Sound s' :=
  step_cases (R := fun s _ s' => Sound s → Sound s') (fun h hs => sound_connect hs h)
    (fun h hs => sound_firstPacket hs h) (fun h hs => sound_accept hs h) (fun h hs => sound_cleanUp hs h)
    (fun h hs => sound_cleanUp hs h) (fun h hs => sound_sendNewIdentifiers hs h)
    (fun h hs => sound_resetToken hs h) (fun h hs => sound_retire hs h) (fun h hs => sound_drained hs h) h hs

theorem sound_runFrom {ops : List Op} {s0 s : State} (h0 : Sound s0) (hr : runFrom s0 ops = some s) : Sound s :=
  inv_runFrom (P := fun _ _ => True) (fun _ _ _ hs _ h => sound_step hs h) h0 (along_true _ _) hr

theorem sound_run {cidLen : Nat} {pref : Bool} {ops : List Op} {s : State}
    (hr : run cidLen pref ops = some s) : Sound s :=
  sound_runFrom (sound_init cidLen pref) hr

/-- the datagram is addressed to the connection described by `m` -/
def Owns (m : Meta) (a : FourTuple) (d : Dgram) : Prop :=
  (d.dstCid ≠ [] ∧ ∃ q, alookup q m.locCids = some d.dstCid) ∨
  (d.initialOr0rtt = true ∧ d.dstCid ≠ [] ∧ m.side = .server ∧ m.initCid = d.dstCid) ∨
  (d.dstCid = [] ∧ m.side = .server ∧ m.addresses = a) ∨
  (d.dstCid = [] ∧ m.side = .client ∧ m.addresses.remote = a.remote) ∨
  (Gen.cidxResetTokenSize ≤ d.data.length ∧
    m.resetToken = some (a.remote, d.data.drop (d.data.length - Gen.cidxResetTokenSize)))

theorem route_conn_owns {s : State} (hs : Sound s) {a : FourTuple} {d : Dgram} {h : Nat}
    (hr : route s a d = some (.connection h)) : ∃ m, s.conns.get h = some m ∧ Owns m a d := by
  unfold route at hr
  revert hr
  fun_cases Index.get s.index a d
  case case1 ch h1 =>
    intro hr; cases hr
    obtain ⟨hne, h1⟩ := Option.ite_none_right_eq_some.mp h1
    obtain ⟨m, q, g1, g2⟩ := hs.ids_sound _ _ h1
    exact ⟨m, g1, Or.inl ⟨by simpa using hne, q, g2⟩⟩
  case case2 _ r h2 =>
    intro hr; cases hr
    obtain ⟨hk, h2⟩ := Option.ite_none_right_eq_some.mp h2
    obtain ⟨m, g1, g2, g3⟩ := hs.init_conn _ _ h2
    exact ⟨m, g1, Or.inr (Or.inl ⟨hk, fun e => (by rw [e, hs.init_nonempty] at h2; cases h2), g2, g3⟩)⟩
  case case3 _ _ ch h3 =>
    intro hr; cases hr
    obtain ⟨he, h3⟩ := Option.ite_none_right_eq_some.mp h3
    obtain ⟨m, g1, g2, g3⟩ := hs.in_sound _ _ h3
    exact ⟨m, g1, Or.inr (Or.inr (Or.inl ⟨by simpa using he, g2, g3⟩))⟩
  case case4 _ _ _ ch h4 =>
    intro hr; cases hr
    obtain ⟨he, h4⟩ := Option.ite_none_right_eq_some.mp h4
    obtain ⟨m, g1, g2, g3⟩ := hs.out_sound _ _ h4
    exact ⟨m, g1, Or.inr (Or.inr (Or.inr (Or.inl ⟨by simpa using he, g2, g3⟩)))⟩
  case case6 _ _ _ _ hlen ch h5 =>
    intro hr; cases hr
    obtain ⟨m, g1, g2⟩ := hs.tok_sound _ _ h5
    exact ⟨m, g1, Or.inr (Or.inr (Or.inr (Or.inr ⟨Nat.le_of_not_lt hlen, g2⟩)))⟩
  all_goals intro hr; cases hr

theorem route_incoming_pending {s : State} (hs : Sound s) {a : FourTuple} {d : Dgram} {i : Nat}
    (hr : route s a d = some (.incoming i)) :
    d.initialOr0rtt = true ∧ ∃ p, s.incoming.get i = some p ∧ p.dcid = d.dstCid := by
  unfold route at hr
  revert hr
  fun_cases Index.get s.index a d
  case case2 _ r h2 =>
    intro hr; cases hr
    obtain ⟨hk, h2⟩ := Option.ite_none_right_eq_some.mp h2
    exact ⟨hk, hs.init_inc _ _ h2⟩
  all_goals intro hr; cases hr

def Mentions (s : State) (h : Nat) : Prop :=
  (∃ d, alookup d s.index.idsInitial = some (.connection h)) ∨ (∃ c, alookup c s.index.ids = some h) ∨
  (∃ a, alookup a s.index.inRemotes = some h) ∨ (∃ r, alookup r s.index.outRemotes = some h) ∨
  (∃ k, alookup k s.index.tokens = some h)

theorem not_mentions_of_vacant {s : State} (hs : Sound s) {h : Nat} (hv : s.conns.get h = none) :
    ¬ Mentions s h := by
  intro hm
  rcases hm with ⟨d, e⟩ | ⟨c, e⟩ | ⟨a, e⟩ | ⟨r, e⟩ | ⟨k, e⟩
  · obtain ⟨m, g, _⟩ := hs.init_conn _ _ e; rw [hv] at g; cases g
  · obtain ⟨m, q, g, _⟩ := hs.ids_sound _ _ e; rw [hv] at g; cases g
  · obtain ⟨m, g, _⟩ := hs.in_sound _ _ e; rw [hv] at g; cases g
  · obtain ⟨m, g, _⟩ := hs.out_sound _ _ e; rw [hv] at g; cases g
  · obtain ⟨m, g, _⟩ := hs.tok_sound _ _ e; rw [hv] at g; cases g

theorem drained_vacates {s s' : State} {ch : Nat} (h : evDrained s ch = some s') :
    s'.conns.get ch = none ∧ (∀ m, s.conns.get ch = some m → s'.conns.next = ch) := by
  obtain ⟨hv, rfl⟩ | ⟨conn, conns, ix, u, hnext, -, rfl⟩ := evDrained_cases h
  · exact ⟨hv, fun m hm => by cases hv.symm.trans hm⟩
  · exact ⟨u.new, fun _ _ => hnext⟩

/-- `Drained` never trips the `debug_assert!` of `remove_initial`: a live incoming connection's initial
    DCID is always registered -/
theorem drained_ne_none {s : State} {ch : Nat} (hs : Sound s) : evDrained s ch ≠ none := by
  -- branch order: `remove` fails, `remove` succeeds, unknown handle
  fun_cases evDrained s ch
  case case1 conn conns htr hrem =>
    unfold Index.remove at hrem
    split at hrem
    · rename_i hri
      split at hri
      · rename_i hsv
        obtain ⟨hne, hnone⟩ := removeInitial_eq_none hri
        rw [hs.conn_init ch conn (Slab.tryRemove_some htr).1.old hsv hne] at hnone
        cases hnone
      · cases hri
    · cases hrem
  all_goals simp

theorem no_stale_after_drained {s s' : State} {ch : Nat} (hs : Sound s) (h : evDrained s ch = some s') :
    ¬ Mentions s' ch :=
  not_mentions_of_vacant (sound_drained hs h) (drained_vacates h).1

end QM.Index
