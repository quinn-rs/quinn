import QuinnModel.Data.CidQueue
/-
The ring invariant of the CidQueue model and the unreachability of every panic site for syntactically valid
NEW_CONNECTION_ID frames, for the queue and for the handler arm around it. Ring positions are never reduced by hand:
`get`/`put` depend on the position mod LEN only, and the slot part of the invariant is stated for a window starting at
any position (`Win`). `insert` and `next` are each walked through once, into a relation listing their outcomes.
-/
namespace QM.CidQueue
open QM

theorem LEN_eq : LEN = 5 := rfl

theorem get_congr (b : Buf) (x y : Nat) (h : x % LEN = y % LEN) : get b x = get b y := by
  unfold get; simp only [h]

theorem get_mod (b : Buf) (x : Nat) : get b (x % LEN) = get b x := get_congr b _ _ (Nat.mod_mod _ _)

theorem get_add_congr (b : Buf) {x y : Nat} (h : x % LEN = y % LEN) (k : Nat) : get b (x + k) = get b (y + k) :=
  get_congr b _ _ (by rw [Nat.add_mod, h, ← Nat.add_mod])

theorem get_put (b : Buf) (i j : Nat) (v : Option Entry) :
    get (put b i v) j = if i % LEN = j % LEN then v else get b j := by
  unfold get put
  rw [Vector.getElem_set]

theorem get_put_same {b : Buf} {i j : Nat} {v : Option Entry} (h : i % LEN = j % LEN) :
    get (put b i v) j = v := by rw [get_put, if_pos h]

theorem get_put_ne {b : Buf} {i j : Nat} {v : Option Entry} (h : i % LEN ≠ j % LEN) :
    get (put b i v) j = get b j := by rw [get_put, if_neg h]

theorem window_inj {x a b : Nat} (ha : a < LEN) (hb : b < LEN) (h : (x + a) % LEN = (x + b) % LEN) : a = b := by
  simp only [LEN_eq] at *; omega

theorem get_put_window {b : Buf} {c : Nat} {v : Option Entry} {j : Nat} (h0 : 0 < j) (hj : j < LEN) :
    get (put b c v) (c + j) = get b (c + j) :=
  get_put_ne (fun h => absurd (window_inj (a := 0) LEN_pos hj h) (Nat.ne_of_lt h0))

theorem put_of_get (b : Buf) (x : Nat) (v : Option Entry) (h : get b x = v) : put b x v = b := by
  apply Vector.ext
  intro k hk
  unfold put
  rw [Vector.getElem_set]
  split
  · rename_i hxk; subst hxk; exact h.symm
  · rfl

theorem set_eq_put (b : Buf) (c : Nat) (v : Option Entry) (h : c < LEN) : b.set c v h = put b c v := by
  unfold put
  simp [Nat.mod_eq_of_lt h]

theorem clearLoop_some {b : Buf} {c i n j : Nat} {e : Entry} (h : get (clearLoop b c i n) j = some e) :
    get b j = some e := by
  fun_induction clearLoop b c i n
  next => exact h
  next b i n ih =>
    have := ih h
    rw [get_put] at this
    split at this
    · cases this
    · exact this

theorem clearLoop_none {b : Buf} {c i n j : Nat} (h : get b j = none) : get (clearLoop b c i n) j = none := by
  cases h' : get (clearLoop b c i n) j with
  | none => rfl
  | some e => rw [clearLoop_some h'] at h; cases h

theorem clearLoop_other (c : Nat) : ∀ (n i : Nat) (b : Buf) (j : Nat),
    (∀ t, i ≤ t → t < i + n → (c + t) % LEN ≠ j % LEN) → get (clearLoop b c i n) j = get b j := by
  intro n
  induction n with
  | zero => intro i b j _; rfl
  | succ n ih =>
    intro i b j h
    unfold clearLoop
    rw [ih (i + 1) _ j (fun t h1 h2 => h t (by omega) (by omega))]
    exact get_put_ne (h i (by omega) (by omega))

theorem clearLoop_cleared {b : Buf} {c i n t : Nat} (h1 : i ≤ t) (h2 : t < i + n) :
    get (clearLoop b c i n) (c + t) = none := by
  fun_induction clearLoop b c i n
  next => omega
  next b i n ih =>
    by_cases hti : t = i
    · subst hti
      exact clearLoop_none (get_put_same rfl)
    · exact ih (by omega) (by omega)

/-- the `min retired_count LEN` rounds of `insert` clear all `retired_count` positions after the cursor (they wrap) -/
theorem clearLoop_prefix (b : Buf) (c rc j : Nat) (hj : j < rc) :
    get (clearLoop b c 0 (Nat.min rc LEN)) (c + j) = none := by
  have hm : j % LEN < Nat.min rc LEN :=
    Nat.lt_min.mpr ⟨Nat.lt_of_le_of_lt (Nat.mod_le _ _) hj, Nat.mod_lt _ LEN_pos⟩
  rw [get_congr _ _ _ (Nat.add_mod_mod c j LEN).symm]
  exact clearLoop_cleared (Nat.zero_le _) (by omega)

/-- bound on values produced by the varint decoder -/
def B : Nat := 2^62

structure Inv (q : CidQueue) : Prop where
  cur : q.cursor < LEN
  /-- the active CID is present (`active()` never unwraps `None`) -/
  act : get q.buffer q.cursor ≠ none
  /-- only the active slot may lack a reset token (the initial CID) -/
  tok : ∀ k e, 0 < k → k < LEN → get q.buffer (q.cursor + k) = some e → e.token ≠ none
  /-- an occupied slot `k` steps after the cursor holds sequence number `offset + k`, which came off the wire -/
  bnd : ∀ k, k < LEN → get q.buffer (q.cursor + k) ≠ none → q.offset + k < B

/-- the two clauses of `Inv` about the slots, for a window that starts at ring position `x` (any representative
    mod LEN) with sequence number `o`; slots from the `z`-th on hold tokens (`z = 1` in `Inv`, 0 once the initial
    CID is gone). Every operation is: change slots (`of_slots`, `put`), then move the window over slots that are empty
    (`shift`). -/
structure Win (b : Buf) (x o z : Nat) : Prop where
  tok : ∀ k e, z ≤ k → k < LEN → get b (x + k) = some e → e.token ≠ none
  bnd : ∀ k, k < LEN → get b (x + k) ≠ none → o + k < B

theorem Inv.win {q : CidQueue} (hI : Inv q) : Win q.buffer q.cursor q.offset 1 := ⟨hI.tok, hI.bnd⟩

theorem Inv.of_win {b : Buf} {c x o z : Nat} (hc : c < LEN) (hx : x % LEN = c) (hact : get b x ≠ none)
    (hw : Win b x o z) (hz : z ≤ 1) : Inv ⟨b, c, o⟩ := by
  have hk : ∀ k, get b (c + k) = get b (x + k) :=
    fun k => (get_add_congr b (hx.trans (Nat.mod_eq_of_lt hc).symm) k).symm
  refine ⟨hc, ?_, fun k e h0 hl h => hw.tok k e (Nat.le_trans hz h0) hl ((hk k).symm.trans h),
    fun k hl h => hw.bnd k hl (fun hn => h ((hk k).trans hn))⟩
  exact fun hn => hact ((hk 0).symm.trans hn)

theorem Inv.offset_lt {q : CidQueue} (hI : Inv q) : q.offset < B := hI.bnd 0 LEN_pos hI.act

theorem Win.of_slots {b b' : Buf} {x o z : Nat} (hw : Win b x o z) (h : ∀ k e, k < LEN → get b' (x + k) = some e →
    get b (x + k) = some e ∨ (z ≤ k → e.token ≠ none) ∧ o + k < B) : Win b' x o z := by
  constructor
  · intro k e h0 hk he
    rcases h k e hk he with h' | h'
    · exact hw.tok k e h0 hk h'
    · exact h'.1 h0
  · intro k hk hne
    cases he : get b' (x + k) with
    | none => exact absurd he hne
    | some e =>
      rcases h k e hk he with h' | h'
      · exact hw.bnd k hk (by rw [h']; simp)
      · exact h'.2

theorem Win.put {b : Buf} {x o z : Nat} (hw : Win b x o z) {s : Nat} (hs : s < LEN) (v : Option Entry)
    (hv : ∀ e, v = some e → (z ≤ s → e.token ≠ none) ∧ o + s < B) : Win (put b (x + s) v) x o z := by
  refine hw.of_slots fun k e hk he => ?_
  rw [get_put] at he
  split at he
  · rename_i heq
    rw [← window_inj hs hk heq]
    exact .inr (hv e he)
  · exact .inl he

theorem no_wrap {b : Buf} {x i k : Nat} (hfirst : ∀ j, j < i → get b (x + j) = none) (hk : k < LEN)
    (h : get b (x + i + k) ≠ none) : i + k < LEN := by
  apply Decidable.byContradiction
  intro hn
  apply h
  have : x + i + k = x + (i + k - LEN) + LEN := by omega
  rw [this, get_congr b _ _ (Nat.add_mod_right _ _)]
  exact hfirst _ (by omega)

theorem Win.shift {b : Buf} {x o z i : Nat} (hw : Win b x o z) (hfirst : ∀ j, j < i → get b (x + j) = none) :
    Win b (x + i) (o + i) (z - i) := by
  constructor
  · intro k e h0 hk he
    have hne : get b (x + i + k) ≠ none := by rw [he]; simp
    exact hw.tok (i + k) e (by omega) (no_wrap hfirst hk hne) (by rwa [← Nat.add_assoc])
  · intro k hk hne
    have := hw.bnd (i + k) (no_wrap hfirst hk hne) (by rwa [← Nat.add_assoc])
    omega

theorem Inv.of_put_initial {b : Buf} {c : Nat} (hc : c < LEN) (hw : Win b c 0 1) (cid : Bytes) :
    Inv ⟨put b c (some ⟨cid, none⟩), c, 0⟩ :=
  Inv.of_win hc (Nat.mod_eq_of_lt hc) (by rw [get_put_same rfl]; simp)
    (hw.put LEN_pos _ (fun e _ => ⟨fun h => absurd h (by decide), by decide⟩)) (Nat.le_refl 1)

theorem new_inv (cid : Bytes) : Inv (new cid) := by
  unfold new
  rw [set_eq_put]
  exact Inv.of_put_initial LEN_pos
    ⟨fun k e _ _ h => by simp [get] at h, fun k _ h => absurd (by simp [get]) h⟩ cid

theorem active_of_get {q : CidQueue} (hc : q.cursor < LEN) {e : Entry} (h : get q.buffer q.cursor = some e) :
    active q = some e.cid := by
  unfold get at h
  unfold active
  rw [dif_pos hc]
  simp only [Nat.mod_eq_of_lt hc] at h
  rw [h]

theorem active_some (q : CidQueue) (hI : Inv q) : ∃ c, active q = some c := by
  cases h : get q.buffer q.cursor with
  | none => exact absurd h hI.act
  | some e => exact ⟨e.cid, active_of_get hI.cur h⟩

theorem head_filterMap_range' {β : Type} (f : Nat → Option β) : ∀ (n s : Nat) (x : β),
    ((List.range' s n).filterMap f).head? = some x →
    ∃ i, s ≤ i ∧ i < s + n ∧ f i = some x ∧ ∀ j, s ≤ j → j < i → f j = none := by
  intro n
  induction n with
  | zero => intro s x h; cases h
  | succ n ih =>
    intro s x h
    rw [List.range'_succ, List.filterMap_cons] at h
    cases hs : f s with
    | none =>
      rw [hs] at h
      obtain ⟨i, h1, h2, h3, h4⟩ := ih (s + 1) x h
      exact ⟨i, by omega, by omega, h3, fun j hj hji => if hjs : j = s then hjs ▸ hs else h4 j (by omega) hji⟩
    | some y =>
      rw [hs] at h
      cases h
      exact ⟨s, Nat.le_refl _, by omega, hs, fun j h1 h2 => absurd h1 (by omega)⟩

theorem second_filterMap_range' {β : Type} (f : Nat → Option β) : ∀ (n s : Nat) (x : β),
    ((List.range' s n).filterMap f)[1]? = some x →
    ∃ i, s < i ∧ i < s + n ∧ f i = some x ∧ (f s ≠ none → ∀ j, s < j → j < i → f j = none) := by
  intro n
  induction n with
  | zero => intro s x h; cases h
  | succ n ih =>
    intro s x h
    rw [List.range'_succ, List.filterMap_cons] at h
    cases hs : f s with
    | none =>
      rw [hs] at h
      obtain ⟨i, h1, h2, h3, _⟩ := ih (s + 1) x h
      exact ⟨i, by omega, by omega, h3, fun h0 => absurd rfl h0⟩
    | some y =>
      rw [hs, List.getElem?_cons_succ, ← List.head?_eq_getElem?] at h
      obtain ⟨i, h1, h2, h3, h4⟩ := head_filterMap_range' f n (s + 1) x h
      exact ⟨i, by omega, by omega, h3, fun _ j hj hji => h4 j hj hji⟩

theorem iter_slot_eq_some (b : Buf) (c j i : Nat) (e : Entry) :
    (get b (c + j)).map (fun e => (j, e)) = some (i, e) ↔ (j = i ∧ get b (c + j) = some e) := by
  cases get b (c + j) <;> simp

structure First (b : Buf) (x i : Nat) (e : Entry) : Prop where
  lt : i < LEN
  occ : get b (x + i) = some e
  before : ∀ j, j < i → get b (x + j) = none

theorem First.congr {b : Buf} {x y i : Nat} {e : Entry} (h : x % LEN = y % LEN) (hf : First b x i e) : First b y i e :=
  ⟨hf.lt, (get_add_congr b h i).symm.trans hf.occ, fun j hj => (get_add_congr b h j).symm.trans (hf.before j hj)⟩

theorem iter_head {b : Buf} {c i : Nat} {e : Entry} (h : (iter b c).head? = some (i, e)) : First b c i e := by
  unfold iter at h
  rw [List.range_eq_range'] at h
  obtain ⟨i', _, hi, hf, hfirst⟩ := head_filterMap_range' _ LEN 0 (i, e) h
  obtain ⟨rfl, hg⟩ := (iter_slot_eq_some b c i' i e).mp hf
  exact ⟨Nat.zero_add LEN ▸ hi, hg, fun j hj => Option.map_eq_none_iff.mp (hfirst j (Nat.zero_le j) hj)⟩

structure Second (b : Buf) (c i : Nat) (e : Entry) : Prop where
  pos : 0 < i
  lt : i < LEN
  occ : get b (c + i) = some e
  between : get b c ≠ none → ∀ j, 0 < j → j < i → get b (c + j) = none

theorem iter_second {b : Buf} {c i : Nat} {e : Entry} (h : (iter b c)[1]? = some (i, e)) : Second b c i e := by
  unfold iter at h
  rw [List.range_eq_range'] at h
  obtain ⟨i', hi0, hi, hf, hfirst⟩ := second_filterMap_range' _ LEN 0 (i, e) h
  obtain ⟨rfl, hg⟩ := (iter_slot_eq_some b c i' i e).mp hf
  exact ⟨hi0, Nat.zero_add LEN ▸ hi, hg, fun h0 j hj0 hj =>
    Option.map_eq_none_iff.mp (hfirst (fun hn => h0 (Option.map_eq_none_iff.mp hn)) j hj0 hj)⟩

theorem exceedsLimit_iff (index rc : Nat) : Gen.cidqExceedsLimit index rc = true ↔ index ≥ LEN + rc := by
  simp [Gen.cidqExceedsLimit, LEN]

section insert
variable (q : CidQueue) (seq rpt : Nat) (cid tok : Bytes)

/-- the buffer after the discard loop (of `Gen.cidqClearCount retired_count = min retired_count LEN` rounds) and the
    recording step of `insert` -/
def recorded : Buf :=
  put (clearLoop q.buffer q.cursor 0 (Nat.min (rpt - q.offset) LEN)) (q.cursor + (seq - q.offset)) (some ⟨cid, some tok⟩)

theorem recorded_of_le (hr : rpt ≤ q.offset) :
    recorded q seq rpt cid tok = put q.buffer (q.cursor + (seq - q.offset)) (some ⟨cid, some tok⟩) := by
  unfold recorded
  rw [Nat.sub_eq_zero_of_le hr]
  rfl

theorem recorded_some (x : Nat) (e : Entry)
    (h : get (recorded q seq rpt cid tok) x = some e) : e = ⟨cid, some tok⟩ ∨ get q.buffer x = some e := by
  unfold recorded at h
  rw [get_put] at h
  split at h
  · exact .inl (Option.some.inj h).symm
  · exact .inr (clearLoop_some h)

/-- every way through `insert`, with its result and, for a panic, the site. `same`: nothing retired, the window stays;
    `retired`: the window moves to the first occupied slot at or after `retire_prior_to`. -/
inductive Inserted : CidQueue × InsertOut → Prop
  | errRetired : seq < q.offset → Inserted (q, .errRetired)
  | errLimit : q.offset ≤ seq → LEN + (rpt - q.offset) ≤ seq - q.offset → Inserted (q, .errLimit)
  | same : q.offset ≤ seq → seq - q.offset < LEN + (rpt - q.offset) → rpt ≤ q.offset →
      Inserted ({ q with buffer := recorded q seq rpt cid tok }, .none)
  | retired (i : Nat) (e : Entry) (t : Bytes) : q.offset ≤ seq → seq - q.offset < LEN + (rpt - q.offset) →
      q.offset < rpt → First (recorded q seq rpt cid tok) (q.cursor + (rpt - q.offset)) i e → e.token = some t →
      Inserted (⟨recorded q seq rpt cid tok, (q.cursor + (rpt - q.offset) + i) % LEN, rpt + i⟩,
        .retired q.offset (Gen.cidqRetiredEnd (rpt + i) q.offset) t)
  | panic : q.offset ≤ seq → (U64 ≤ LEN + (rpt - q.offset) ∨ seq - q.offset < LEN + (rpt - q.offset) ∧
        (U64 ≤ q.cursor + (seq - q.offset) ∨ q.offset < rpt ∧
          (U64 ≤ q.cursor + (rpt - q.offset) ∨ U64 ≤ q.offset + LEN ∨
            (∀ j, j < LEN → get (recorded q seq rpt cid tok) (q.cursor + (rpt - q.offset) + j) = none) ∨
            ∃ i e, First (recorded q seq rpt cid tok) (q.cursor + (rpt - q.offset)) i e ∧
              (U64 ≤ rpt + i ∨ e.token = none)))) →
      Inserted (q, .panic)

theorem insert_cases : Inserted q seq rpt cid tok (insert q seq rpt cid tok) := by
  fun_cases insert q seq rpt cid tok
  next hs => exact .errRetired hs
  next hs _ h1 => exact .panic (Nat.le_of_not_lt hs) (.inl h1)
  next hs _ _ _ hl => exact .errLimit (Nat.le_of_not_lt hs) ((exceedsLimit_iff _ _).mp hl)
  next hs _ _ _ hl h2 =>
    exact .panic (Nat.le_of_not_lt hs) (.inr ⟨Nat.lt_of_not_le fun h => hl ((exceedsLimit_iff _ _).mpr h), .inl h2⟩)
  next hs _ _ _ hl _ _ _ hrc =>
    exact .same (Nat.le_of_not_lt hs) (Nat.lt_of_not_le fun h => hl ((exceedsLimit_iff _ _).mpr h)) (Nat.le_of_sub_eq_zero hrc)
  next hs _ _ _ hl _ _ _ hrc =>
    -- `insertTail` runs on `recorded q seq rpt cid tok` from position `(cursor + retired_count) % LEN`; `tail` reports
    -- its panics
    have hs' := Nat.le_of_not_lt hs
    have hl' := Nat.lt_of_not_le fun h => hl ((exceedsLimit_iff _ _).mpr h)
    have hr := Nat.lt_of_sub_ne_zero hrc
    have tail := fun h => Inserted.panic (cid := cid) (tok := tok) hs' (.inr ⟨hl', .inr ⟨hr, h⟩⟩)
    fun_cases insertTail
    next h => exact tail (.inl h)
    next hh =>
      rw [List.head?_eq_none_iff, iter, List.filterMap_eq_nil_iff] at hh
      exact tail (.inr (.inr (.inl fun j hj =>
        (get_add_congr _ (Nat.mod_mod _ _) j).symm.trans (Option.map_eq_none_iff.mp (hh j (List.mem_range.mpr hj))))))
    next i e hh h => exact tail (.inr (.inr (.inr ⟨i, e, (iter_head hh).congr (Nat.mod_mod _ _), .inl h⟩)))
    next h => exact tail (.inr (.inl h))
    next i e hh _ _ ht => exact tail (.inr (.inr (.inr ⟨i, e, (iter_head hh).congr (Nat.mod_mod _ _), .inr ht⟩)))
    next i e hh _ _ _ _ t ht =>
      have := Inserted.retired (cid := cid) (tok := tok) i e t hs' hl' hr ((iter_head hh).congr (Nat.mod_mod _ _)) ht
      rw [← Nat.mod_add_mod] at this
      exact this

end insert

inductive Nexted (q : CidQueue) : CidQueue × NextOut → Prop
  | same : (iter q.buffer q.cursor)[1]? = none → Nexted q (q, .none)
  | ok (i : Nat) (e : Entry) (t : Bytes) : Second q.buffer q.cursor i e → e.token = some t → q.cursor < LEN →
      Nexted q (⟨put q.buffer q.cursor none, (q.cursor + i) % LEN, q.offset + i⟩, .ok t q.offset (q.offset + i))
  | panic (i : Nat) (e : Entry) : Second q.buffer q.cursor i e →
      (LEN ≤ q.cursor ∨ U64 ≤ q.offset + i ∨ e.token = none) → Nexted q (q, .panic)

theorem next_cases (q : CidQueue) : Nexted q (next q) := by
  fun_cases next q
  next hh => exact .same hh
  next i e hh _ h => exact .panic i e (iter_second hh) (.inr (.inl h))
  next i e hh _ _ ht => exact .panic i e (iter_second hh) (.inr (.inr ht))
  next i e hh hc _ _ t ht =>
    have := Nexted.ok i e t (iter_second hh) ht hc
    rw [← set_eq_put _ _ _ hc] at this
    exact this
  next i e hh hc => exact .panic i e (iter_second hh) (.inl (Nat.le_of_not_lt hc))

theorem no_overflow {a b : Nat} (ha : a < B) (hb : b ≤ B) : ¬ U64 ≤ a + b ∧ ¬ U64 ≤ b + a := by
  simp only [U64, B] at *; omega

theorem LEN_le_B : LEN ≤ B := by decide

/-- `z = 0`: the slot of the initial CID is among the discarded ones -/
theorem recorded_win (q : CidQueue) (hI : Inv q) (seq rpt : Nat) (cid tok : Bytes) (h1 : rpt ≤ seq) (h2 : seq < B)
    (hlt : q.offset < rpt) (hl : seq - q.offset < LEN + (rpt - q.offset)) :
    Win (recorded q seq rpt cid tok) (q.cursor + (rpt - q.offset)) rpt 0 ∧ ∃ d, d < LEN ∧ rpt + d = seq ∧
      get (recorded q seq rpt cid tok) (q.cursor + (rpt - q.offset) + d) = some ⟨cid, some tok⟩ := by
  unfold recorded
  -- write `rpt = offset + rc` and `seq = offset + rc + d`, so that no truncated subtraction is left
  have e1 : q.offset + (rpt - q.offset) = rpt := Nat.add_sub_cancel' (Nat.le_of_lt hlt)
  have e2 : q.offset + (seq - q.offset) = seq := Nat.add_sub_cancel' (Nat.le_trans (Nat.le_of_lt hlt) h1)
  generalize rpt - q.offset = rc at *
  generalize seq - q.offset = idx at *
  have hle : rc ≤ idx := Nat.le_of_add_le_add_left (by rw [e1, e2]; exact h1)
  obtain ⟨d, rfl⟩ : ∃ d, idx = rc + d := ⟨idx - rc, (Nat.add_sub_cancel' hle).symm⟩
  have hrc : 0 < rc := Nat.lt_of_add_lt_add_left (by rw [e1]; exact hlt : q.offset + 0 < q.offset + rc)
  have hds : rpt + d = seq := by rw [← e1, Nat.add_assoc]; exact e2
  have hd : d < LEN := Nat.lt_of_add_lt_add_left (by rw [Nat.add_comm rc LEN]; exact hl)
  have hb1 := (hI.win.of_slots fun _ e _ h => .inl (clearLoop_some h)).shift (clearLoop_prefix _ _ rc)
  rw [e1, Nat.sub_eq_zero_of_le hrc] at hb1
  rw [← Nat.add_assoc]
  exact ⟨hb1.put hd _ (fun e he => by cases he; exact ⟨fun _ => by simp, by rw [hds]; exact h2⟩),
    d, hd, hds, get_put_same rfl⟩

/-- the last clause: after an accepted frame `retire_prior_to` is not ahead of the window and `seq` sits `d` slots into
    it, which is what makes a repeated frame a no-op -/
theorem Inserted.spec {q : CidQueue} {seq rpt : Nat} {cid tok : Bytes} {r : CidQueue × InsertOut}
    (h : Inserted q seq rpt cid tok r) (hI : Inv q) (h1 : rpt ≤ seq) (h2 : seq < B) :
    r.2 ≠ .panic ∧ Inv r.1 ∧ q.offset ≤ r.1.offset ∧
    (q.offset ≤ seq → seq - q.offset < LEN + (rpt - q.offset) → rpt ≤ r.1.offset ∧
      ∃ d, d < LEN ∧ r.1.offset + d = seq ∧ get r.1.buffer (r.1.cursor + d) = some ⟨cid, some tok⟩) := by
  have hc := hI.cur
  have hB := LEN_le_B
  have hrB : rpt < B := Nat.lt_of_le_of_lt h1 h2
  cases h with
  | errRetired hs => exact ⟨nofun, hI, Nat.le_refl _, fun h => absurd h (Nat.not_le.mpr hs)⟩
  | errLimit hs hl => exact ⟨nofun, hI, Nat.le_refl _, fun _ h => absurd hl (Nat.not_le.mpr h)⟩
  | same hs hl hr =>
    have hidx : seq - q.offset < LEN := by have := hl; rw [Nat.sub_eq_zero_of_le hr] at this; exact this
    refine ⟨nofun, ?_, Nat.le_refl _, fun _ _ => ⟨hr, _, hidx, Nat.add_sub_cancel' hs, get_put_same rfl⟩⟩
    rw [recorded_of_le q seq rpt cid tok hr]
    refine Inv.of_win hc (Nat.mod_eq_of_lt hc) ?_
      (hI.win.put hidx _ (fun e he => by
        cases he; exact ⟨fun _ => by simp, by rw [Nat.add_sub_cancel' hs]; exact h2⟩)) (Nat.le_refl 1)
    rw [get_put]
    split
    · simp
    · exact hI.act
  | retired i e t hs hl hr hf ht =>
    obtain ⟨hw, d, hd, hds, hocc⟩ := recorded_win q hI seq rpt cid tok h1 h2 hr hl
    obtain ⟨hi, hg, hfirst⟩ := hf
    have hid : i ≤ d := Nat.le_of_not_lt fun hn => by rw [hfirst d hn] at hocc; cases hocc
    obtain ⟨d', rfl⟩ : ∃ d', d = i + d' := ⟨d - i, (Nat.add_sub_cancel' hid).symm⟩
    refine ⟨nofun, ?_, Nat.le_trans (Nat.le_of_lt hr) (Nat.le_add_right _ _), fun _ _ => ⟨Nat.le_add_right _ _, d',
      Nat.lt_of_le_of_lt (Nat.le_add_left _ _) hd, (Nat.add_assoc _ _ _).trans hds, ?_⟩⟩
    · exact Inv.of_win (Nat.mod_lt _ LEN_pos) rfl (by rw [hg]; simp) (hw.shift hfirst)
        (Nat.le_trans (Nat.sub_le _ _) (Nat.zero_le _))
    · show get (recorded q seq rpt cid tok) ((q.cursor + (rpt - q.offset) + i) % LEN + d') = _
      rw [get_add_congr _ (Nat.mod_mod _ _), Nat.add_assoc]
      exact hocc
  | panic hs hp =>
    exfalso
    rcases hp with hp | ⟨hl, hp | ⟨hr, hp⟩⟩
    · exact (no_overflow (Nat.lt_of_le_of_lt (Nat.sub_le rpt q.offset) hrB) hB).2 hp
    · exact (no_overflow (Nat.lt_of_le_of_lt (Nat.sub_le seq q.offset) h2) (Nat.le_trans (Nat.le_of_lt hc) hB)).2 hp
    obtain ⟨hw, d, hd, _, hocc⟩ := recorded_win q hI seq rpt cid tok h1 h2 hr hl
    rcases hp with hp | hp | hp | ⟨i, e, ⟨hi, hg, _⟩, hp | hp⟩
    · exact (no_overflow (Nat.lt_of_le_of_lt (Nat.sub_le rpt q.offset) hrB) (Nat.le_trans (Nat.le_of_lt hc) hB)).2 hp
    · exact (no_overflow hI.offset_lt hB).1 hp
    · rw [hp d hd] at hocc
      cases hocc
    · exact (no_overflow hrB (Nat.le_trans (Nat.le_of_lt hi) hB)).1 hp
    · exact hw.tok i e (Nat.zero_le i) hi hg hp

theorem Nexted.spec {q : CidQueue} {r : CidQueue × NextOut} (h : Nexted q r) (hI : Inv q) :
    r.2 ≠ .panic ∧ Inv r.1 ∧ q.offset ≤ r.1.offset := by
  cases h with
  | same => exact ⟨nofun, hI, Nat.le_refl _⟩
  | ok i e t hs ht hc =>
    have hw : Win (put q.buffer q.cursor none) q.cursor q.offset 1 :=
      hI.win.put (s := 0) LEN_pos none (fun e h => nomatch h)
    have hfirst : ∀ j, j < i → get (put q.buffer q.cursor none) (q.cursor + j) = none := by
      intro j hj
      cases j with
      | zero => exact get_put_same rfl
      | succ j =>
        rw [get_put_window (Nat.succ_pos j) (Nat.lt_trans hj hs.lt)]
        exact hs.between hI.act _ (Nat.succ_pos j) hj
    exact ⟨nofun, Inv.of_win (Nat.mod_lt _ LEN_pos) rfl
      (by rw [get_put_window hs.pos hs.lt, hs.occ]; simp) (hw.shift hfirst) (by omega), Nat.le_add_right _ _⟩
  | panic i e hs hp =>
    rcases hp with hp | hp | hp
    · exact absurd hI.cur (Nat.not_lt.mpr hp)
    · exact absurd hp (no_overflow hI.offset_lt (Nat.le_trans (Nat.le_of_lt hs.lt) LEN_le_B)).1
    · exact absurd hp (hI.tok i e hs.pos hs.lt hs.occ)

/-! Which reset token the queue reports when the CID in use changes (C04: a stateless reset must carry exactly the
token the peer issued for the connection ID in use). -/

def activeEntry (q : CidQueue) : Option Entry := get q.buffer q.cursor

theorem insert_token (q : CidQueue) (seq rpt : Nat) (cid tok : Bytes) (q' : CidQueue) (a z : Nat) (t : Bytes)
    (h : insert q seq rpt cid tok = (q', .retired a z t)) :
    ∃ e, activeEntry q' = some e ∧ e.token = some t := by
  have hc := insert_cases q seq rpt cid tok
  rw [h] at hc
  cases hc with
  | retired i e _ _ _ _ hf ht => exact ⟨e, (get_mod _ _).trans hf.occ, ht⟩

theorem next_token (q q' : CidQueue) (t : Bytes) (a z : Nat) (h : next q = (q', .ok t a z)) :
    ∃ e, activeEntry q' = some e ∧ e.token = some t := by
  have hc := next_cases q
  rw [h] at hc
  cases hc with
  | ok i e _ hs ht =>
    refine ⟨e, ?_, ht⟩
    show get (put q.buffer q.cursor none) ((q.cursor + i) % LEN) = some e
    -- the slot `next` empties is the old cursor's, not the new one's
    rw [get_mod, get_put_window hs.pos hs.lt, hs.occ]

inductive Op where
  | insert (seq rpt : Nat) (cid tok : Bytes)
  | next
deriving Repr

/-- what `frame::Iter` guarantees for a decoded NEW_CONNECTION_ID: varints, `retire_prior_to ≤ sequence` -/
def Op.valid : Op → Prop
  | .insert seq rpt _ _ => rpt ≤ seq ∧ seq < B
  | .next => True

/-- one operation; `none` = the Rust panics -/
def step (q : CidQueue) : Op → Option CidQueue
  | .insert seq rpt cid tok =>
    match insert q seq rpt cid tok with
    | (_, .panic) => none
    | (q', _) => some q'
  | .next =>
    match next q with
    | (_, .panic) => none
    | (q', _) => some q'

def run : CidQueue → List Op → Option CidQueue
  | q, [] => some q
  | q, op :: ops => match step q op with
    | none => none
    | some q' => run q' ops

theorem step_inv (q : CidQueue) (hI : Inv q) (op : Op) (hv : op.valid) :
    ∃ q', step q op = some q' ∧ Inv q' ∧ q.offset ≤ q'.offset := by
  fun_cases step q op
  next seq rpt cid tok _ hr =>
    have := ((insert_cases q seq rpt cid tok).spec hI hv.1 hv.2).1
    rw [hr] at this
    exact absurd rfl this
  next seq rpt cid tok q' out _ hr =>
    obtain ⟨_, hI', hm, _⟩ := (insert_cases q seq rpt cid tok).spec hI hv.1 hv.2
    rw [hr] at hI' hm
    exact ⟨q', rfl, hI', hm⟩
  next _ hr =>
    have := ((next_cases q).spec hI).1
    rw [hr] at this
    exact absurd rfl this
  next q' out _ hr =>
    obtain ⟨_, hI', hm⟩ := (next_cases q).spec hI
    rw [hr] at hI' hm
    exact ⟨q', rfl, hI', hm⟩

theorem run_inv (ops : List Op) : ∀ (q : CidQueue), Inv q → (∀ op ∈ ops, op.valid) →
    ∃ q', run q ops = some q' ∧ Inv q' ∧ q.offset ≤ q'.offset := by
  induction ops with
  | nil => intro q hI _; exact ⟨q, rfl, hI, Nat.le_refl _⟩
  | cons op ops ih =>
    intro q hI hv
    obtain ⟨q1, h1, hI1, hm1⟩ := step_inv q hI op (hv op (by simp))
    obtain ⟨q2, h2, hI2, hm2⟩ := ih q1 hI1 (fun o ho => hv o (by simp [ho]))
    refine ⟨q2, ?_, hI2, by omega⟩
    simp only [run, h1, h2]

def occupied (q : CidQueue) : Nat := (q.buffer.toList.filter Option.isSome).length

theorem occupied_le (q : CidQueue) : occupied q ≤ LEN := by
  unfold occupied
  have := List.length_filter_le Option.isSome q.buffer.toList
  simpa using this

def MAXP : Nat := Gen.maxPendingRetiredCids

theorem tooMany_iff (p a b : Nat) : Gen.ncidTooManyRetired p a b = true ↔ p + (b - a) > MAXP := by
  unfold Gen.ncidTooManyRetired
  rw [decide_eq_true_iff]
  simp only [MAXP, Gen.maxPendingRetiredCids, Gen.cidQueueLen, Nat.min_def]
  split <;> omega

/-- the already-retired arm applies the pending bound to a range of one -/
theorem retiredFull_iff (p : Nat) : Gen.ncidRetiredArmFull p = true ↔ p + 1 > MAXP := tooMany_iff p 0 1

/-- the transport error (or acceptance) the handler answers with, as a function of the frame and the state -/
def ncidSpec (s : Handler) (a : Bytes) (seq rpt : Nat) (cid tok : Bytes) : FrameOut :=
  if a.isEmpty then .err Gen.codeProtocolViolation 0
  else if rpt > seq then .err Gen.codeProtocolViolation 1
  else if seq < s.q.offset then
    (if s.pending.length + 1 > MAXP then .err Gen.codeConnectionIdLimitError 4 else .discarded)
  else if seq - s.q.offset ≥ LEN + (rpt - s.q.offset) then .err Gen.codeConnectionIdLimitError 3
  else match (insert s.q seq rpt cid tok).2 with
    | .retired start stop _ =>
      if s.pending.length + (stop - start) > MAXP then .err Gen.codeConnectionIdLimitError 2 else .ok
    | _ => .ok

/-- bound on the queue of RETIRE_CONNECTION_ID frames: MAX_PENDING_RETIRED_CIDS while the initial CID is active, and
    LEN - 1 more once a server has switched off it (`update_rem_cid`, at most once) -/
def J (s : Handler) : Prop :=
  (s.q.offset = 0 → s.pending.length ≤ MAXP) ∧ s.pending.length ≤ MAXP + (LEN - 1)

theorem J.of_le {s : Handler} (h : s.pending.length ≤ MAXP) : J s := ⟨fun _ => h, Nat.le_trans h (Nat.le_add_right _ _)⟩

theorem J.of_pos {s : Handler} (h0 : s.q.offset ≠ 0) (h : s.pending.length ≤ MAXP + (LEN - 1)) : J s :=
  ⟨fun h' => absurd h' h0, h⟩

/-- from `s` the handler arm answers `r.2`, which is `out` and no panic, and leaves the state `r.1` -/
structure Handled (s : Handler) (out : FrameOut) (r : Handler × FrameOut) : Prop where
  decision : r.2 = out
  noPanic : r.2 ≠ .panic
  inv : Inv r.1.q
  pending : J s → J r.1

theorem onNewConnectionId_spec (s : Handler) (hI : Inv s.q) (seq rpt : Nat) (cid tok : Bytes) (h2 : seq < B)
    (a : Bytes) (ha : active s.q = some a) :
    Handled s (ncidSpec s a seq rpt cid tok) (onNewConnectionId s seq rpt cid tok) := by
  generalize hr : onNewConnectionId s seq rpt cid tok = r
  unfold onNewConnectionId at hr
  unfold ncidSpec
  simp only [ha, retiredFull_iff, tooMany_iff] at hr
  by_cases he : a.isEmpty = true
  · rw [if_pos he] at hr ⊢
    subst hr
    exact ⟨rfl, nofun, hI, id⟩
  by_cases hrs : rpt > seq
  · rw [if_neg he, if_pos hrs] at hr ⊢
    subst hr
    exact ⟨rfl, nofun, hI, id⟩
  rw [if_neg he, if_neg hrs] at hr ⊢
  have hc := insert_cases s.q seq rpt cid tok
  obtain ⟨hp, hI', _⟩ := hc.spec hI (Nat.le_of_not_lt hrs) h2
  generalize insert s.q seq rpt cid tok = ri at hc hp hI' hr ⊢
  cases hc with
  | errRetired hs =>
    rw [if_pos hs]
    simp only at hr
    by_cases hf : s.pending.length + 1 > MAXP
    · rw [if_pos hf] at hr ⊢
      subst hr
      exact ⟨rfl, nofun, hI, id⟩
    · rw [if_neg hf] at hr ⊢
      subst hr
      exact ⟨rfl, nofun, hI, fun _ => J.of_le (by
        simp only [List.length_append, List.length_singleton]; exact Nat.le_of_not_lt hf)⟩
  | errLimit hs hl =>
    rw [if_neg (Nat.not_lt.mpr hs), if_pos hl]
    subst hr
    exact ⟨rfl, nofun, hI, id⟩
  | same hs hl =>
    -- nothing retired; a server still on the initial CID switches off it
    rw [if_neg (Nat.not_lt.mpr hs), if_neg (Nat.not_le.mpr hl)]
    simp only at hr
    split at hr
    · rename_i hsrv
      have h0 : s.q.offset = 0 := by
        simp only [activeSeq, Bool.and_eq_true, beq_iff_eq] at hsrv; exact hsrv.2
      have hn := next_cases { s.q with buffer := recorded s.q seq rpt cid tok }
      obtain ⟨hnp, hI'', _⟩ := hn.spec hI'
      generalize next { s.q with buffer := recorded s.q seq rpt cid tok } = rn at hn hnp hI'' hr
      cases hn with
      | same =>
        subst hr
        exact ⟨rfl, nofun, hI', id⟩
      | ok i e t hs =>
        subst hr
        refine ⟨rfl, nofun, hI'', fun hJ => J.of_pos (Nat.ne_of_gt (Nat.lt_of_lt_of_le hs.pos (Nat.le_add_left _ _))) ?_⟩
        simp only [List.length_append, List.length_range', Nat.add_sub_cancel_left]
        exact Nat.add_le_add (hJ.1 h0) (Nat.le_sub_one_of_lt hs.lt)
      | panic => exact absurd rfl hnp
    · subst hr
      exact ⟨rfl, nofun, hI', id⟩
  | retired i e t hs hl hlt =>
    -- the window moved: `active_seq` is positive afterwards, so the switch at the end does not fire
    have hne : rpt + i ≠ 0 := Nat.ne_of_gt (Nat.lt_of_lt_of_le (Nat.zero_lt_of_lt hlt) (Nat.le_add_right _ _))
    have hpos : (rpt + i == 0) = false := beq_eq_false_iff_ne.mpr hne
    rw [if_neg (Nat.not_lt.mpr hs), if_neg (Nat.not_le.mpr hl)]
    simp only [activeSeq, hpos, Bool.and_false, Bool.false_eq_true, if_false] at hr ⊢
    by_cases htm : s.pending.length + (Gen.cidqRetiredEnd (rpt + i) s.q.offset - s.q.offset) > MAXP
    · rw [if_pos htm] at hr ⊢
      subst hr
      exact ⟨rfl, nofun, hI', fun hJ => J.of_pos hne hJ.2⟩
    · rw [if_neg htm] at hr ⊢
      subst hr
      exact ⟨rfl, nofun, hI', fun _ => J.of_le (by
        simp only [List.length_append, List.length_range']; exact Nat.le_of_not_lt htm)⟩
  | panic => exact absurd rfl hp

inductive HOp where
  | frame (seq rpt : Nat) (cid tok : Bytes)
  | sent (k : Nat)
deriving Repr

/-- decoded frame fields are varints -/
def HOp.valid : HOp → Prop
  | .frame seq _ _ _ => seq < B
  | .sent _ => True

/-- runs the handler over received frames and packet transmissions; `none` = panic. A rejected frame closes the
    connection in reality; the run continues (the state then only shrinks or stays), which makes the theorem stronger -/
def hrun : Handler → List HOp → Option Handler
  | s, [] => some s
  | s, .frame seq rpt cid tok :: ops =>
    match onNewConnectionId s seq rpt cid tok with
    | (_, .panic) => none
    | (s', _) => hrun s' ops
  | s, .sent k :: ops => hrun (sent s k) ops

theorem hrun_inv (ops : List HOp) : ∀ (s : Handler), Inv s.q → J s → (∀ op ∈ ops, op.valid) →
    ∃ s', hrun s ops = some s' ∧ Inv s'.q ∧ J s' := by
  intro s hI hJ hv
  fun_induction hrun s ops
  next s => exact ⟨s, rfl, hI, hJ⟩
  next s seq rpt cid tok ops _ hr =>
    obtain ⟨a, ha⟩ := active_some s.q hI
    have := (onNewConnectionId_spec s hI seq rpt cid tok (hv _ List.mem_cons_self) a ha).noPanic
    rw [hr] at this
    exact absurd rfl this
  next s seq rpt cid tok ops s' out _ hr ih =>
    obtain ⟨a, ha⟩ := active_some s.q hI
    have h := onNewConnectionId_spec s hI seq rpt cid tok (hv _ List.mem_cons_self) a ha
    rw [hr] at h
    exact ih h.inv (h.pending hJ) fun o ho => hv o (List.mem_cons_of_mem _ ho)
  next s k ops ih =>
    have hle : (sent s k).pending.length ≤ s.pending.length := by
      simp only [sent, List.length_take]; exact Nat.min_le_right _ _
    exact ih hI ⟨fun h => Nat.le_trans hle (hJ.1 h), Nat.le_trans hle hJ.2⟩ fun o ho => hv o (List.mem_cons_of_mem _ ho)

/-- the witness of `corpus/cidq/retire-flood.ops` (retire CID 0, then repeat a NEW_CONNECTION_ID for sequence 0): each
    repeat queues one RETIRE_CONNECTION_ID until the queue is full, then gets CONNECTION_ID_LIMIT_ERROR -/
def retireCidsFlood (n : Nat) : List HOp :=
  .frame 1 1 [2] (List.replicate 16 0) :: List.replicate n (.frame 0 0 [3] (List.replicate 16 0))

def floodInit : Handler := ⟨new [1], [], false⟩

theorem retireCidsFlood_valid (n : Nat) : ∀ op ∈ retireCidsFlood n, op.valid := by
  intro op hop
  simp only [retireCidsFlood, List.mem_cons, List.mem_replicate] at hop
  rcases hop with rfl | ⟨_, rfl⟩ <;> simp [HOp.valid, B]

end QM.CidQueue
