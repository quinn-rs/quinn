import QuinnModel.Endpoint.Token
import QuinnModel.Lemmas.BigEndian
/- Little-endian (the nonce) and big-endian (port, issue time) byte strings of the token coding: the value of an
   encoding, and canonicity (a byte string is the encoding of its value). -/
namespace QM.Token
open QM

def WF (bs : Bytes) : Prop := ∀ b ∈ bs, b < 256

theorem WF_take {l : Bytes} (n : Nat) (h : WF l) : WF (l.take n) := fun b hb => h b (List.mem_of_mem_take hb)
theorem WF_drop {l : Bytes} (n : Nat) (h : WF l) : WF (l.drop n) := fun b hb => h b (List.mem_of_mem_drop hb)
theorem WF_tail {b : Nat} {l : Bytes} (h : WF (b :: l)) : WF l := fun x hx => h x (List.mem_cons_of_mem _ hx)
theorem WF_head {b : Nat} {l : Bytes} (h : WF (b :: l)) : b < 256 := h b List.mem_cons_self
theorem WF_append_right {a r : Bytes} (h : WF (a ++ r)) : WF r := fun x hx => h x (List.mem_append_right _ hx)
theorem WF_reverse {l : Bytes} (h : WF l) : WF l.reverse := fun b hb => h b (List.mem_reverse.mp hb)

theorem beVal_eq_leVal_reverse (l : Bytes) : beVal l = leVal l.reverse := by
  have hf : ∀ r : Bytes, leVal r = r.foldr (fun b a => b + 256 * a) 0 := fun r => by
    induction r with
    | nil => rfl
    | cons b r ih => rw [leVal, ih, List.foldr_cons]
  rw [hf, List.foldr_reverse]
  exact congrArg (fun f => l.foldl f 0) (funext fun a => funext fun b => by omega)

theorem beBytes_snoc (n : Nat) : ∀ x, beBytes (n + 1) x = beBytes n (x / 256) ++ [x % 256] := by
  induction n with
  | zero => intro x; simp [beBytes]
  | succ k ih =>
    intro x
    rw [beBytes, ih x, beBytes, List.cons_append, Nat.div_div_eq_div_mul, Nat.pow_succ, Nat.mul_comm 256]

theorem beBytes_eq_leBytes_reverse (n : Nat) : ∀ x, beBytes n x = (leBytes n x).reverse := by
  induction n with
  | zero => intro x; rfl
  | succ k ih => intro x; rw [beBytes_snoc, leBytes, List.reverse_cons, ih]

theorem leBytes_length (n x : Nat) : (leBytes n x).length = n := by
  rw [← List.length_reverse, ← beBytes_eq_leBytes_reverse, beBytes_length]

theorem leVal_leBytes (n x : Nat) : leVal (leBytes n x) = x % 256 ^ n := by
  rw [← List.reverse_reverse (leBytes n x), ← beVal_eq_leVal_reverse, ← beBytes_eq_leBytes_reverse, beVal_beBytes]

theorem leVal_lt (bs : Bytes) (h : WF bs) : leVal bs < 256 ^ bs.length := by
  have := beVal_lt _ (WF_reverse h)
  rwa [beVal_eq_leVal_reverse, List.reverse_reverse, List.length_reverse] at this

theorem leBytes_leVal (bs : Bytes) (h : WF bs) : leBytes bs.length (leVal bs) = bs := by
  induction bs with
  | nil => rfl
  | cons b r ih =>
    have hb := WF_head h
    simp only [List.length_cons, leBytes, leVal]
    have h1 : (b + 256 * leVal r) % 256 = b := by omega
    have h2 : (b + 256 * leVal r) / 256 = leVal r := by omega
    rw [h1, h2, ih (WF_tail h)]

theorem beBytes_beVal (bs : Bytes) (h : WF bs) : beBytes bs.length (beVal bs) = bs := by
  rw [beBytes_eq_leBytes_reverse, beVal_eq_leVal_reverse, ← List.length_reverse, leBytes_leVal _ (WF_reverse h),
    List.reverse_reverse]

end QM.Token
