import QuinnModel.Lemmas.StreamsView
/-
C11 — what one operation does to the view (`Fx`).  Events and `opened` flags (`EvFx`): `poll` takes an event, any
other operation appends at most one, only a frame of the peer raises a flag.  Halves (`HvFx`): growth, one sending
half changed, or one half dropped with the slot-release decision of `stream_freed`.
-/
namespace QM.Streams

structure Step where
  pre : State
  op : Op
  out : Out
  post : State

def Step.delivered (st : Step) : List Event :=
  match st.out with
  | .event e => [e]
  | _ => []

def Step.data (st : Step) (id : Nat) : Prop :=
  (∃ a l f, st.op = .stream id a l f) ∨ (∃ c f, st.op = .rst id c f)

def Step.names (st : Step) (id : Nat) : Prop :=
  st.data id ∨ (∃ c, st.op = .stopSending id c) ∨ (∃ n, st.op = .maxStreamData id n)

/-- `fully_free` of `stream_freed(id, half)` read off the half view: the other half is not in its map -/
def HV.otherGone (v : HV) (id : Nat) : Half → Bool
  | .send => !v.rp id
  | .recv => decide (v.sh id = .gone)

/-- the slot-release decision of quinn's `stream_freed(id, half)` -/
def RelSpec (s : HV) (id : Nat) (otherGone : Bool) (rel : Dir → Nat) : Prop :=
  (sidInitiator id ≠ s.side ∧ (sidDir id == .uni || otherGone) = true ∧ rel = rel1 (sidDir id)) ∨
  (¬ (sidInitiator id ≠ s.side ∧ (sidDir id == .uni || otherGone) = true) ∧ rel = rel0)

/-- effect of a frame of the peer that names stream `id`; `b`: the frame carries data or ends the stream -/
def Used (b : Bool) (id : Nat) (v v' : View) : Prop :=
  (v'.ev = v.ev ∨ (b = true ∧ v'.ev = v.ev ++ [.readable id])) ∧
  (v'.opened = v.opened ∨ v'.opened = v.opened.set (sidDir id) true)

theorem Used.refl (b : Bool) (id : Nat) (v : View) : Used b id v v := ⟨Or.inl rfl, Or.inl rfl⟩

theorem used_onStreamFrame (s : State) (b : Bool) (id : Nat) :
    Used b id s.view (s.onStreamFrame b id).view ∧ (s.onStreamFrame b id).hv = s.hv := by
  have q : b = true → Used b id s.view (View.mk ((s.events ++ [Event.readable id]).filter loud) s.opened s.hv) :=
    fun hb => ⟨Or.inr ⟨hb, List.filter_append ..⟩, Or.inl rfl⟩
  fun_cases State.onStreamFrame s b id
  · exact ⟨q ‹_›, rfl⟩
  · exact ⟨Used.refl _ _ _, rfl⟩
  · exact ⟨⟨Or.inl rfl, Or.inr rfl⟩, rfl⟩
  · exact ⟨q ‹_›, rfl⟩
  · exact ⟨Used.refl _ _ _, rfl⟩

/-- `gone` asks for `allocd`: growth may re-create the half of an id that is not yet allocated -/
structure SDrop (id : Nat) (v v' : HV) : Prop where
  had : v.sh id ≠ .gone
  gone : v.allocd id → v'.sh id = .gone
  rel : ∃ rel, Grow (some id) none rel v v' ∧ RelSpec v id (v.otherGone id .send) rel

structure RDrop (id : Nat) (v v' : HV) : Prop where
  had : v.rp id = true
  gone : v.allocd id → v'.rp id = false
  rel : ∃ rel, Grow none (some id) rel v v' ∧ RelSpec v id (v.otherGone id .recv) rel

theorem absSend_ne_gone {s : State} {id : Nat} {x : Send} (hx : s.send.find? id = some (some x)) :
    s.hv.sh id ≠ .gone :=
  ne_gone_of_stopped ((congrArg _ (absSend_some hx)).trans (expectedStopped_ofSend x))

theorem absSend_erase_self (s : State) (id : Nat) : absSend { s with send := s.send.erase id } id = .gone := by
  simp only [absSend, Map.find?_erase_self]

theorem absSend_erase_ne (s : State) {id k : Nat} (h : k ≠ id) :
    absSend { s with send := s.send.erase id } k = absSend s k := by
  simp only [absSend, Map.find?_erase_ne _ _ _ h]

theorem not_contains_eq_gone (s : State) (id : Nat) : (!s.send.contains id) = decide (absSend s id = .gone) := by
  unfold Map.contains absSend
  cases h : s.send.find? id with
  | none => simp
  | some o =>
    cases o with
    | none => simp
    | some x =>
      simp only [Option.isSome_some, Bool.not_true]
      exact (decide_eq_false (ne_gone_of_stopped (expectedStopped_ofSend x))).symm

theorem fullyFree_hv (s : State) (id : Nat) (hf : Half) :
    s.fullyFree id hf = (sidDir id == .uni || s.hv.otherGone id hf) := by
  cases hf
  · rfl
  · simp only [State.fullyFree, HV.otherGone, not_contains_eq_gone]; rfl

/-- `stream_freed`: a slot is released and ids are allocated for it, or nothing happens to the view -/
theorem streamFreed_rel {s s' : State} {id : Nat} {hf : Half} (h : s.streamFreed id hf = some s') :
    s'.view.ev = s.view.ev ∧ s'.opened = s.opened ∧
    ∃ rel, Grow none none rel s.hv s'.hv ∧ RelSpec s.hv id (s.hv.otherGone id hf) rel := by
  have fr : ∀ {s1}, s.freeRemote id hf = some s1 → s1.view.ev = s.view.ev ∧ s1.opened = s.opened ∧
      ∃ rel, Grow none none rel s.hv s1.hv ∧ RelSpec s.hv id (s.hv.otherGone id hf) rel := fun {s1} h1 => by
    unfold RelSpec
    rw [← fullyFree_hv]
    rcases freeRemote_inv h1 with ⟨hr, hff, c, hc, he⟩ | ⟨hn, rfl⟩
    · have g := viewGrow_ensureRemoteStreams he
      have gh : Grow none none rel0 (State.hv _) s1.hv := g.hv
      refine ⟨g.ev, g.opened, _, ⟨gh.side, gh.next, gh.maxR, fun d => ?_, gh.sh, gh.rp⟩, Or.inl ⟨hr, hff, rfl⟩⟩
      -- the count was lowered by one before the allocation
      have := gh.cnt d
      simp only [State.hv, Two.get_set, rel0, rel1] at this ⊢
      split at this
      · subst_vars; simp only [↓reduceIte]; omega
      · rename_i hne
        have : ¬ d = sidDir id := fun hh => hne hh.symm
        simp only [this, ↓reduceIte]; omega
    · exact ⟨rfl, rfl, _, Grow.refl _, Or.inr ⟨hn, rfl⟩⟩
  revert h
  fun_cases State.streamFreed s id hf <;> intro h <;> cases h <;> exact (fr ‹State.freeRemote _ _ _ = some _› :)

theorem sdrop_of_streamFreed {s s2 : State} {id : Nat} (hp : s.hv.sh id ≠ .gone)
    (h : ({ s with send := s.send.erase id } : State).streamFreed id .send = some s2) :
    s2.view.ev = s.view.ev ∧ s2.opened = s.opened ∧ SDrop id s.hv s2.hv := by
  have g1 : Grow (some id) none rel0 s.hv ({ s with send := s.send.erase id } : State).hv :=
    ⟨rfl, fun d => Nat.le_refl _, fun d => Nat.le_refl _, fun d => by simp only [State.hv, rel0]; omega,
      fun k hk => Or.inl (absSend_erase_ne s (ne_of_ne_some hk)), fun k _ => Or.inl rfl⟩
  obtain ⟨a, b, rel, g2, hr⟩ := streamFreed_rel h
  exact ⟨a, b, hp, fun ha => ((g2.same_of_allocd (g1.allocd ha)).1 nofun).trans (absSend_erase_self s id),
    rel, g1.trans g2.weaken (fun d => by simp [rel0]), hr⟩

theorem rdrop_of_streamRecvFreed {s s2 : State} {id : Nat} (hp : s.hv.rp id = true)
    (h : ({ s with recv := s.recv.erase id } : State).streamRecvFreed id = some s2) :
    s2.view.ev = s.view.ev ∧ s2.opened = s.opened ∧ RDrop id s.hv s2.hv := by
  have g1 : Grow none (some id) rel0 s.hv ({ s with recv := s.recv.erase id } : State).hv :=
    ⟨rfl, fun d => Nat.le_refl _, fun d => Nat.le_refl _, fun d => by simp only [State.hv, rel0]; omega,
      fun k _ => Or.inl rfl, fun k hk => Or.inl (Map.contains_erase_ne _ (ne_of_ne_some hk))⟩
  obtain ⟨a, b, rel, g2, hr⟩ := streamFreed_rel h
  exact ⟨a, b, hp, fun ha => ((g2.same_of_allocd (g1.allocd ha)).2 nofun).trans (Map.contains_erase_self _ id),
    rel, g1.trans g2.weaken (fun d => by simp [rel0]), hr⟩

def SendHalf.isDataSent : SendHalf → Bool
  | .dataSent _ => true
  | _ => false

theorem fx_finish {s s' : State} {id : Nat} {r : Except WriteErr Unit} (h : s.finish id = (s', r)) :
    (r = .ok () ∧ ViewGrow (some id) none rel0 s.view s'.view ∧
      s.hv.sh id = .ready none ∧ s'.hv.sh id = .dataSent none) ∨
    (r ≠ .ok () ∧ s'.view = s.view) := by
  rcases finish_inv h with ⟨_, rfl, rfl⟩ | ⟨x, s1, hg, ⟨e, _, rfl, rfl⟩ | ⟨x', q, hf, rfl, rfl⟩⟩
  · exact Or.inr ⟨nofun, rfl⟩
  · exact Or.inr ⟨nofun, view_getOrInsertSend hg⟩
  · obtain ⟨f1, f2⟩ := Send.finish_ok hf
    refine Or.inl ⟨rfl, ?_, (absSend_getOrInsert hg).trans f1,
      (absSend_putSend (getOrInsertSend_spec hg).slot).trans f2⟩
    rw [← view_getOrInsertSend hg]
    exact viewGrow_set rfl rfl rfl

theorem fx_reset {s s' : State} {id code : Nat} {b : Bool} (h : s.reset id code = some (s', b)) :
    (b = true ∧ ViewGrow (some id) none rel0 s.view s'.view ∧ (expectedReset (s.hv.sh id)).1 = true ∧
      s'.hv.sh id = (expectedReset (s.hv.sh id)).2) ∨
    (b = false ∧ s'.view = s.view) := by
  obtain ⟨t1, t2⟩ := reset_table h
  rcases sendReset_cases h with ⟨_, rfl, rfl⟩ | ⟨x, s1, hg, ⟨_, rfl, rfl⟩ | ⟨u, ua, _, _, _, rfl, rfl⟩⟩
  · exact Or.inr ⟨rfl, rfl⟩
  · exact Or.inr ⟨rfl, view_getOrInsertSend hg⟩
  · refine Or.inl ⟨rfl, ?_, t1.symm, t2⟩
    rw [← view_getOrInsertSend hg]
    exact viewGrow_set rfl rfl rfl

theorem fx_stopSending {s s' : State} {id code : Nat} (h : s.receivedStopSending id code = s') :
    s'.view = s.view ∨
    (Grow (some id) none rel0 s.hv s'.hv ∧ expectedStopped (s.hv.sh id) = some none ∧
      expectedStopped (s'.hv.sh id) = some (some code) ∧ (s'.hv.sh id).isDataSent = (s.hv.sh id).isDataSent ∧
      s'.view.ev = s.view.ev ++ [.stopped id code] ∧
      (s'.opened = s.opened ∨ s'.opened = s.opened.set (sidDir id) true)) := by
  subst h
  rcases receivedStopSending_cases s id code with ⟨_, e⟩ | ⟨x, s1, hg, ⟨_, e⟩ | ⟨hsr, e⟩⟩ <;> rw [e]
  · exact Or.inl rfl
  · exact Or.inl (view_getOrInsertSend hg)
  · have e1 := view_getOrInsertSend hg
    have hx1 := (getOrInsertSend_spec hg).slot
    have a1 : s.hv.sh id = SendHalf.ofSend x := absSend_getOrInsert hg
    obtain ⟨u, hv⟩ := used_onStreamFrame { (s1.putSend id { x with stopReason := some code }) with
      events := s1.events ++ [Event.stopped id code] } false id
    have g : ViewGrow (some id) none rel0 s1.view (s1.putSend id { x with stopReason := some code }).view :=
      viewGrow_set rfl rfl rfl
    have a2 : (s1.putSend id { x with stopReason := some code }).hv.sh id =
        SendHalf.ofSend { x with stopReason := some code } := absSend_putSend hx1
    rw [e1] at g
    have ev : s1.events.filter loud = s.view.ev := congrArg View.ev e1
    have eo : s1.opened = s.opened := congrArg View.opened e1
    refine Or.inr ⟨?_, ?_, ?_, ?_, ?_, ?_⟩
    · rw [hv]; exact g.hv
    · rw [a1, expectedStopped_ofSend, hsr]
    · rw [hv]; exact (congrArg _ a2).trans (expectedStopped_ofSend _)
    · rw [hv, a1]; refine (congrArg _ a2).trans ?_
      unfold SendHalf.ofSend; cases x.state <;> rfl
    · refine (u.1.resolve_right fun hh => nomatch hh.1).trans ?_
      show List.filter loud (s1.events ++ [_]) = _
      rw [List.filter_append, ev]; rfl
    · rw [← eo]; exact u.2

/-- the result `true`: quinn's `Send::ack` reports the stream as finished -/
theorem Send.ack_done {x x' : Send} {a e : Nat} {fin : Bool} (h : x.ack a e fin = some (x', true)) :
    (∃ fa, x.state = .dataSent fa ∧ (fa || fin) = true) ∧ x'.state = .dataSent true ∧
    x'.pending.unackedLen = 0 := by
  revert h
  fun_cases Send.ack x a e fin <;> intro h
  · cases h
  · rename_i p _ fa hst fa'
    obtain ⟨rfl, h2⟩ := Prod.mk.inj (Option.some.inj h)
    obtain ⟨h1, h2⟩ : fa' = true ∧ p.isFullyAcked = true := by simpa using h2
    exact ⟨⟨fa, hst, h1⟩, congrArg _ h1, by simpa [SendBuf.isFullyAcked] using h2⟩
  · cases h

theorem Send.ack_half {x x' : Send} {a e : Nat} {fin d : Bool} (h : x.ack a e fin = some (x', d)) :
    SendHalf.ofSend x' = SendHalf.ofSend x := by
  revert h
  fun_cases Send.ack x a e fin <;> intro h <;> cases h
  · simp only [SendHalf.ofSend, ‹x.state = _›]
  · rfl

theorem fx_ack {s s' : State} {id a e : Nat} {fin : Bool} (h : s.receivedAckOf id a e fin = some s') :
    s'.view = s.view ∨
    (SDrop id s.hv s'.hv ∧
      (∃ x x', s.send.find? id = some (some x) ∧ x.ack a e fin = some (x', true)) ∧ s'.cv id = none ∧
      s'.view.ev = s.view.ev ++ [.finished id] ∧ s'.opened = s.opened) := by
  revert h
  fun_cases State.receivedAckOf s id a e fin <;> intro h
  · cases h; exact Or.inl rfl
  · cases h
  · cases h
  · rename_i x hf _ ua _ x' done hk s1 _
    obtain rfl := Option.some.inj h
    exact Or.inl (view_setSend hf rfl rfl rfl (Send.ack_half hk))
  · cases h
  · rename_i x hf _ ua _ x' done hk s1 hd s2 hfr
    cases h
    cases done with
    | false => exact absurd rfl hd
    | true =>
    have e0 : s1.view = s.view := view_setSend hf rfl rfl rfl (Send.ack_half hk)
    obtain ⟨q1, q2, q3⟩ := sdrop_of_streamFreed (s := s1) (absSend_ne_gone (find_putSend_self hf)) hfr
    have eh : s1.hv = s.hv := congrArg View.hv e0
    have ee : s1.view.ev = s.view.ev := congrArg View.ev e0
    refine Or.inr ⟨eh ▸ q3, ⟨x, x', hf, hk⟩, ?_, ?_, q2⟩
    · refine (congrFun (congrArg SView.cv (vw_streamFreed hfr)) id).trans ?_
      simp only [State.vw, State.cv, Map.find?_erase_self]
    · show List.filter loud (s2.events ++ [_]) = _
      rw [List.filter_append, ← ee, ← q1]; rfl
  · cases h; exact Or.inl rfl

theorem fx_resetAcked {s s' : State} {id : Nat} (h : s.resetAcked id = some s') :
    s' = s ∨ (s'.view.ev = s.view.ev ∧ s'.opened = s.opened ∧ SDrop id s.hv s'.hv) := by
  revert h
  fun_cases State.resetAcked s id <;> intro h
  · exact Or.inr (sdrop_of_streamFreed (absSend_ne_gone ‹_›) h)
  · cases h; exact Or.inl rfl
  · cases h; exact Or.inl rfl

def ReaderFx (id : Nat) (v v' : View) : Prop :=
  v' = v ∨ (v'.ev = v.ev ∧ v'.opened = v.opened ∧ RDrop id v.hv v'.hv)

/-- the half is dropped if it had been stopped and the final size is now known; then no Readable is queued -/
def FrameFx (id : Nat) (v v' : View) : Prop :=
  (Used true id v v' ∧ v'.hv = v.hv) ∨ (Used false id v v' ∧ RDrop id v.hv v'.hv)

theorem FrameFx.refl (id : Nat) (v : View) : FrameFx id v v := Or.inl ⟨Used.refl _ _ _, rfl⟩

theorem ReaderFx.then_used {id : Nat} {v v1 v2 : View} (f : ReaderFx id v v1) (u : Used false id v1 v2)
    (hv : v2.hv = v1.hv) : FrameFx id v v2 := by
  rcases f with rfl | ⟨a, b, c⟩
  · exact Or.inl ⟨⟨u.1.imp_right fun h => ⟨rfl, h.2⟩, u.2⟩, hv⟩
  · refine Or.inr ⟨?_, hv ▸ c⟩
    unfold Used at u ⊢
    rw [← a, ← b]
    exact u

theorem rp_of_getOrInsertRecv {s s1 : State} {id : Nat} {rs : Recv}
    (h : s.getOrInsertRecv id = some (rs, s1)) : s.hv.rp id = true := by
  revert h
  fun_cases State.getOrInsertRecv s id <;> intro h
  · contradiction
  all_goals simp only [State.hv, Map.contains, ‹Map.find? s.recv id = some _›]; rfl

theorem fx_freeRecvIf {s s' : State} {c : Bool} {id : Nat} (h : s.freeRecvIf c id = some s')
    (hp : s.hv.rp id = true) : ReaderFx id s.view s'.view := by
  unfold State.freeRecvIf at h
  split at h
  · exact Or.inr (rdrop_of_streamRecvFreed hp h)
  · cases h; exact Or.inl rfl

theorem fx_received {s s' : State} {id off len : Nat} {fin : Bool} {r : Except TErr Bool}
    (h : s.received id off len fin = some (s', r)) : FrameFx id s.view s'.view := by
  revert h
  fun_cases State.received s id off len fin <;> intro h <;> cases h
  · exact FrameFx.refl _ _
  · exact FrameFx.refl _ _
  · rw [view_getOrInsertRecv ‹s.getOrInsertRecv id = some (_, s')›]; exact FrameFx.refl _ _
  · rw [view_getOrInsertRecv ‹s.getOrInsertRecv id = some (_, s')›]; exact FrameFx.refl _ _
  · rename_i rs s1 hg _ nb cl rs' _ s2 _
    have e2 : s2.view = s.view := (view_setRecv (s := s1) (s' := s2) rfl rfl rfl).trans (view_getOrInsertRecv hg)
    obtain ⟨u, hv⟩ := used_onStreamFrame s2 true id
    rw [← e2]; exact Or.inl ⟨u, hv⟩
  · rename_i rs s1 hg _ nb cl rs' _ s2 _ s3 hfr t hcq
    have e2 : s2.view = s.view := (view_setRecv (s := s1) (s' := s2) rfl rfl rfl).trans (view_getOrInsertRecv hg)
    have f := fx_freeRecvIf hfr ((congrArg (fun v => v.hv.rp id) e2).trans (rp_of_getOrInsertRecv hg))
    rw [e2, ← view_creditAndQueue hcq] at f
    exact f.then_used (Used.refl _ _ _) rfl

theorem fx_resetFree {s s1 s3 : State} {id : Nat} {rs rs' : Recv} (hg : s.getOrInsertRecv id = some (rs, s1))
    (hfr : (s1.putRecv id rs').freeRecvIf rs'.stopped id = some s3) :
    FrameFx id s.view (s3.onStreamFrame (!rs'.stopped) id).view := by
  have e2 : (s1.putRecv id rs').view = s.view := (view_putRecv s1 id rs').trans (view_getOrInsertRecv hg)
  have hp : (s1.putRecv id rs').view.hv.rp id = true := by rw [e2]; exact rp_of_getOrInsertRecv hg
  obtain ⟨u, hu⟩ := used_onStreamFrame s3 (!rs'.stopped) id
  rw [← e2]
  cases hst : rs'.stopped with
  | false => rw [hst] at hfr u hu; cases hfr; exact Or.inl ⟨u, hu⟩
  | true => rw [hst] at hfr u hu; exact (fx_freeRecvIf hfr hp).then_used u hu

theorem fx_receivedReset {s s' : State} {id code fo : Nat} {r : Except TErr Bool}
    (h : s.receivedReset id code fo = some (s', r)) : FrameFx id s.view s'.view := by
  revert h
  fun_cases State.receivedReset s id code fo <;> intro h
  · cases h; exact FrameFx.refl _ _
  · cases h; exact FrameFx.refl _ _
  · cases h
  · cases h; rw [view_getOrInsertRecv ‹s.getOrInsertRecv id = some (_, s')›]; exact FrameFx.refl _ _
  · cases h; rw [view_getOrInsertRecv ‹s.getOrInsertRecv id = some (_, s')›]; exact FrameFx.refl _ _
  · cases h
  · cases h
  · cases h
  · cases h
  · rename_i hg _ _ _ _ _ _ _ hfr s4 _ _ _ _ _ _ _ _ hcq
    cases h
    have f4 : FrameFx id s.view s4.view := fx_resetFree hg hfr
    -- keep `s4` opaque, or the unifier unfolds the records built on its value
    clear_value s4
    rw [view_creditAndQueue hcq]
    exact f4
  · obtain ⟨rfl, rfl⟩ := Prod.mk.inj (Option.some.inj h)
    exact fx_resetFree ‹s.getOrInsertRecv id = _› ‹State.freeRecvIf _ _ _ = _›

/-- `s0`: the state before `read` took the half out of the map; `finalize` puts it back under the same id -/
theorem view_finalizeReadable_back {s0 s s' : State} {id : Nat} {rs : Recv} {t0 t : Bool}
    (hp : s0.recv.contains id = true) (hs : s.view = ({ s0 with recv := s0.recv.erase id } : State).view)
    (hr : s.recv = s0.recv.erase id)
    (h : s.finalizeReadable id rs false t0 = some (s', t)) : s'.view = s0.view := by
  unfold State.finalizeReadable at h
  simp only [Bool.false_eq_true, ↓reduceIte] at h
  split at h
  · contradiction
  · simp only [Option.some.injEq, Prod.mk.injEq] at h
    rw [← h.1]
    have hh : s.hv = ({ s0 with recv := s0.recv.erase id } : State).hv := congrArg View.hv hs
    refine view_of_hv (congrArg View.ev hs) (congrArg View.opened hs) ?_
    have e : ∀ (r : Rtx), ({ s with rtx := r, recv := (id, some rs) :: s.recv } : State).hv =
        ⟨s.hv.side, s.hv.next, s.hv.maxRemote, s.hv.alloc, s.hv.sh,
          fun k => decide (id = k) || s.recv.contains k⟩ := by
      intro r
      simp only [State.hv, HV.mk.injEq, true_and]
      refine ⟨rfl, ?_⟩
      funext k; exact Map.contains_cons _ _ _ _
    rw [e, hh, hr]
    simp only [State.hv, HV.mk.injEq, true_and]
    refine ⟨rfl, ?_⟩
    funext k
    by_cases hk : id = k
    · subst hk; simp [hp]
    · have : k ≠ id := fun hh => hk hh.symm
      simp [hk, Map.contains_erase_ne _ this]

theorem readEnd_terminal {rs : Recv} {k b : Nat} {e : ReadEnd} {freed : Bool}
    (h : rs.readEnd k b = some (e, freed)) (ht : e = .fin ∨ ∃ c, e = .reset c) : freed = true := by
  revert h
  fun_cases Recv.readEnd rs k b <;> intro h <;> cases h
  · rcases ht with hh | ⟨c, hh⟩ <;> cases hh
  · rfl
  · rfl
  · rcases ht with hh | ⟨c, hh⟩ <;> cases hh

theorem fx_read {s s' : State} {id budget : Nat} {r : ReadRes} (h : s.read id budget = some (s', r)) :
    ReaderFx id s.view s'.view ∧
    ∀ k e t, r = .ok k e t → (e = .fin ∨ ∃ c, e = .reset c) → RDrop id s.view.hv s'.view.hv := by
  rcases read_inv h with ⟨_, rfl, rfl⟩ | ⟨rs, s1, hg, hb⟩
  · exact ⟨Or.inl rfl, nofun⟩
  have hp : s.view.hv.rp id = true := rp_of_getOrInsertRecv hg
  rw [← view_getOrInsertRecv hg] at hp ⊢
  rcases hb with ⟨_, rfl, rfl⟩ | ⟨k, rs1, e, fr, s3, s4, t0, s5, t01, s6, t2, _, _, _, hre, h3, h4, h5, h6, rfl, rfl⟩
  · exact ⟨Or.inl rfl, nofun⟩
  have e6 : ({ s6 with rtx := { s6.rtx with maxData := s6.rtx.maxData || t2 } } : State).view = s5.view := by
    exact (view_addReadCredits h6 :)
  rw [e6]
  have f4 := view_queueMaxStreamId h4
  cases fr with
  | true =>
    have : s5 = s4 := by
      unfold State.finalizeReadable at h5
      rw [if_pos rfl] at h5; cases h5; rfl
    subst this
    rw [f4]
    obtain ⟨he, ho, d⟩ := rdrop_of_streamRecvFreed hp h3
    exact ⟨Or.inr ⟨he, ho, d⟩, fun _ _ _ _ _ => d⟩
  | false =>
    cases h3
    have hr4 : s4.recv = s1.recv.erase id := by rw [queueMaxStreamId_only h4]
    refine ⟨Or.inl (view_finalizeReadable_back hp f4 hr4 h5), fun k e t hr ht => ?_⟩
    cases hr
    cases readEnd_terminal hre ht

theorem fx_stop {s s' : State} {id code : Nat} {b : Bool}
    (h : s.stop id code = some (s', b)) : ReaderFx id s.view s'.view := by
  rcases stop_inv h with ⟨_, rfl, _⟩ | ⟨rs, s1, hg, ⟨_, rfl, _⟩ | ⟨credits, ss, rs', s4, s4q, t, _, h4, h4q, h5, _⟩⟩
  · exact Or.inl rfl
  · exact Or.inl (view_getOrInsertRecv hg)
  have hp : s.view.hv.rp id = true := rp_of_getOrInsertRecv hg
  have e2 : ((s1.putRecv id rs').queueStopSending ss id code).view = s.view :=
    (view_queueStopSending _ _ _ _).trans ((view_putRecv _ _ _).trans (view_getOrInsertRecv hg))
  rw [← e2] at hp ⊢
  rw [view_creditAndQueue h5, view_queueMaxIf h4q]
  exact fx_freeRecvIf h4 hp

theorem fx_recvReceivedReset {s s' : State} {id : Nat} {r : Option (Option Nat)}
    (h : s.recvReceivedReset id = some (s', r)) :
    ReaderFx id s.view s'.view ∧ ∀ c, r = some (some c) → RDrop id s.hv s'.hv := by
  rcases recvReceivedReset_inv h with ⟨rfl, hn, _⟩ | ⟨c, rs, s1, t, _, hx, h1, h2, rfl⟩
  · exact ⟨Or.inl rfl, fun c hc => absurd hc (hn c)⟩
  have hp : s.hv.rp id = true := by simp only [State.hv, Map.contains, hx]; rfl
  obtain ⟨he, ho, d⟩ := rdrop_of_streamRecvFreed hp h1
  have e2 := view_queueMaxStreamId h2
  rw [e2, show s'.hv = s1.hv from congrArg View.hv e2]
  exact ⟨Or.inr ⟨he, ho, d⟩, fun _ _ => d⟩

theorem Send.increaseMaxData_half (x : Send) (n : Nat) :
    SendHalf.ofSend (x.increaseMaxData n).1 = SendHalf.ofSend x := by
  unfold Send.increaseMaxData; split <;> rfl

theorem fx_receivedMaxStreamData {s s' : State} {id n : Nat} {e : Option TErr}
    (h : s.receivedMaxStreamData id n = some (s', e)) : Used false id s.view s'.view ∧ s'.hv = s.hv := by
  revert h
  fun_cases State.receivedMaxStreamData s id n <;> intro h <;> cases h
  · exact ⟨Used.refl _ _ _, rfl⟩
  · exact ⟨Used.refl _ _ _, rfl⟩
  · rename_i wl _ x s1 hg r s2
    have e3 : (s2.afterUnblock r.2 id r.1 wl).view = s.view :=
      (view_afterUnblock (find_putSend_self (getOrInsertSend_spec hg).slot) r.2 wl).trans
        (view_getPutSend hg rfl rfl rfl (Send.increaseMaxData_half x n))
    obtain ⟨u, hu⟩ := used_onStreamFrame (s2.afterUnblock r.2 id r.1 wl) false id
    rw [e3] at u
    exact ⟨u, hu.trans (congrArg View.hv e3)⟩
  · exact ⟨Used.refl _ _ _, rfl⟩
  · exact used_onStreamFrame s false id

theorem fx_poll {s s' : State} {e : Option Event} (h : s.poll = some (s', e)) :
    s'.hv = s.hv ∧
    ((∃ d, e = some (.opened d) ∧ s.opened.get d = true ∧ s'.opened = s.opened.set d false ∧
        s'.view.ev = s.view.ev) ∨
     (s'.opened = s.opened ∧ e.toList.filter loud ++ s'.view.ev = s.view.ev)) := by
  revert h
  fun_cases State.poll s <;> intro h <;> cases h
  · exact ⟨rfl, Or.inl ⟨.bi, rfl, ‹_›, rfl, rfl⟩⟩
  · exact ⟨rfl, Or.inl ⟨.uni, rfl, ‹_›, rfl, rfl⟩⟩
  · obtain ⟨hb1, hb2⟩ := view_pollBlockedIf ‹State.pollBlockedIf _ _ = _›
    refine ⟨congrArg View.hv hb1, Or.inr ⟨congrArg View.opened hb1, ?_⟩⟩
    simp only [Option.toList, List.filter, hb2 _ rfl, List.nil_append]
    exact congrArg View.ev hb1
  · obtain ⟨hb1, _⟩ := view_pollBlockedIf ‹State.pollBlockedIf _ _ = _›
    exact ⟨congrArg View.hv hb1, Or.inr ⟨congrArg View.opened hb1, congrArg View.ev hb1⟩⟩
  · rename_i s1 hp ev rest hev
    obtain ⟨hb1, _⟩ := view_pollBlockedIf hp
    refine ⟨congrArg View.hv hb1, Or.inr ⟨congrArg View.opened hb1, ?_⟩⟩
    have ee : s1.events.filter loud = s.view.ev := congrArg View.ev hb1
    rw [← ee, hev]
    simp only [Option.toList, List.filter_cons, List.filter_nil, State.view]
    split <;> rfl

/-- the events a step other than `poll` queues (Writable / Available aside), with the facts about that step that
    the history invariants need -/
inductive Emits (s s' : State) (o : Op) (out : Out) : List Event → Prop
  | nothing : Emits s s' o out []
  | readable (id : Nat) (hd : (⟨s, o, out, s'⟩ : Step).data id) : Emits s s' o out [.readable id]
  | finished (id a e : Nat) (fin : Bool) (ho : o = .ack id a e fin) (d : SDrop id s.hv s'.hv)
      (h1 : ∃ x x', s.send.find? id = some (some x) ∧ x.ack a e fin = some (x', true)) (hc : s'.cv id = none) :
      Emits s s' o out [.finished id]
  | stopped (id code : Nat) (ho : o = .stopSending id code) (h1 : expectedStopped (s.hv.sh id) = some none)
      (h2 : expectedStopped (s'.hv.sh id) = some (some code)) : Emits s s' o out [.stopped id code]

inductive EvFx (s s' : State) (o : Op) (out : Out) : Prop
  | poll (ho : o = .poll) (e : Option Event) (hout : out = match e with | some e => .event e | none => .none_)
      (hp : s.poll = some (s', e))
  | emit (hne : o ≠ .poll) (l : List Event) (em : Emits s s' o out l) (he : s'.view.ev = s.view.ev ++ l)
      (hf : s'.opened = s.opened ∨
        ∃ id, (⟨s, o, out, s'⟩ : Step).names id ∧ s'.opened = s.opened.set (sidDir id) true)

inductive HvFx (s s' : State) (o : Op) (out : Out) : Prop
  | grow (g : Grow none none rel0 s.hv s'.hv)
  /-- `finish`, `reset`, STOP_SENDING -/
  | send (id : Nat) (g : Grow (some id) none rel0 s.hv s'.hv) (hp : s.hv.sh id ≠ .gone) (hp' : s'.hv.sh id ≠ .gone)
      (st : expectedStopped (s.hv.sh id) = some none ∨
        expectedStopped (s'.hv.sh id) = expectedStopped (s.hv.sh id))
      (ds : (s'.hv.sh id).isDataSent = true → (s.hv.sh id).isDataSent = true ∨ (o = .finish id ∧ out = .ok))
  /-- the completing acknowledgement, the acknowledged reset -/
  | sdrop (id : Nat) (d : SDrop id s.hv s'.hv)
  /-- the application read to the end / saw the reset (`read`, `received_reset`), or it had stopped the stream
      and the final size is now known (`stop`, STREAM with FIN, RESET_STREAM) -/
  | rdrop (id : Nat) (d : RDrop id s.hv s'.hv)

structure Fx (s s' : State) (o : Op) (out : Out) : Prop where
  ev : EvFx s s' o out
  hv : HvFx s s' o out

section
variable {s s' : State} {o : Op} {out : Out} {id : Nat}

theorem EvFx.same (hne : o ≠ .poll) (he : s'.view.ev = s.view.ev)
    (hf : s'.opened = s.opened ∨
      ∃ id, (⟨s, o, out, s'⟩ : Step).names id ∧ s'.opened = s.opened.set (sidDir id) true) : EvFx s s' o out :=
  .emit hne [] .nothing (he.trans (List.append_nil _).symm) hf

theorem Fx.of_grow (hne : o ≠ .poll) (g : ViewGrow none none rel0 s.view s'.view) : Fx s s' o out :=
  ⟨.same hne g.ev (Or.inl g.opened), .grow g.hv⟩

theorem Fx.of_view (hne : o ≠ .poll) (h : s'.view = s.view) : Fx s s' o out := .of_grow hne (ViewGrow.of_eq h)

theorem Fx.of_reader (hne : o ≠ .poll) (f : ReaderFx id s.view s'.view) : Fx s s' o out := by
  rcases f with e | ⟨a, b, c⟩
  · exact .of_view hne e
  · exact ⟨.same hne a (Or.inl b), .rdrop id c⟩

theorem Fx.of_used {b : Bool} (hne : o ≠ .poll) (hn : (⟨s, o, out, s'⟩ : Step).names id)
    (hd : b = true → (⟨s, o, out, s'⟩ : Step).data id) (u : Used b id s.view s'.view) (hv : HvFx s s' o out) :
    Fx s s' o out := by
  rcases u.1 with he | ⟨hb, he⟩
  · exact ⟨.same hne he (u.2.imp_right fun e => ⟨id, hn, e⟩), hv⟩
  · exact ⟨.emit hne _ (.readable id (hd hb)) he (u.2.imp_right fun e => ⟨id, hn, e⟩), hv⟩

theorem Fx.of_frame (hne : o ≠ .poll) (hd : (⟨s, o, out, s'⟩ : Step).data id) (f : FrameFx id s.view s'.view) :
    Fx s s' o out := by
  rcases f with ⟨u, hv⟩ | ⟨u, d⟩
  · exact .of_used hne (Or.inl hd) (fun _ => hd) u (.grow (Grow.of_eq hv))
  · exact .of_used (b := false) hne (Or.inl hd) nofun u (.rdrop id d)

end

theorem expectedReset_ok {h : SendHalf} (h1 : (expectedReset h).1 = true) :
    h ≠ .gone ∧ (expectedReset h).2 ≠ .gone ∧ expectedStopped (expectedReset h).2 = expectedStopped h ∧
      (expectedReset h).2.isDataSent = false := by
  cases h <;> simp [expectedReset, expectedStopped, SendHalf.isDataSent] at h1 ⊢

theorem fx_step {s s' : State} {o : Op} {out : Out} (h : step s o = some (s', out))
    (hr : o.isRestart = false) : Fx s s' o out := by
  cases Steps.of_step h with
  | new | rejected => cases hr
  | conn | stopped | maxData | canSend | canFlow | pendMaxData | pendMaxStreamData | pendMaxStreamId | sendWindow |
      view => exact .of_view nofun rfl
  | params p => exact .of_view nofun (view_setParams s p)
  | open_ h1 => exact .of_grow nofun (viewGrow_open h1)
  | accept d => exact .of_view nofun (view_accept s d)
  | write h1 => exact .of_view nofun (view_write h1)
  | finish id =>
    rcases fx_finish (r := (s.finish id).2) rfl with ⟨a, g, b, c⟩ | ⟨a, e⟩
    · exact ⟨.same nofun g.ev (Or.inl g.opened), .send id g.hv (fun hh => nomatch b.symm.trans hh)
        (fun hh => nomatch c.symm.trans hh) (Or.inl (by rw [b]; rfl)) fun _ => Or.inr ⟨rfl, by rw [a]⟩⟩
    · exact .of_view nofun e
  | reset h1 =>
    rcases fx_reset h1 with ⟨rfl, g, c, d⟩ | ⟨_, e⟩
    · obtain ⟨r1, r2, r3, r4⟩ := expectedReset_ok c
      exact ⟨.same nofun g.ev (Or.inl g.opened), .send _ g.hv r1 (d ▸ r2) (Or.inr (d ▸ r3))
        fun hd => by rw [d, r4] at hd; cases hd⟩
    · exact .of_view nofun e
  | prio id p => exact .of_view nofun ((touch_setPriority (b := (s.setPriority id p).2) rfl).view fun _ _ e => e ▸ rfl)
  | stream h1 => exact .of_frame nofun (Or.inl ⟨_, _, _, rfl⟩) (fx_received h1)
  | rst h1 => exact .of_frame nofun (Or.inr ⟨_, _, rfl⟩) (fx_receivedReset h1)
  | stopSending id code =>
    rcases fx_stopSending (s := s) (id := id) (code := code) rfl with e | ⟨g, a, b, c, he, hf⟩
    · exact .of_view nofun e
    · exact ⟨.emit nofun _ (.stopped id code rfl a b) he (hf.imp_right fun e => ⟨id, Or.inr (Or.inl ⟨code, rfl⟩), e⟩),
        .send id g (ne_gone_of_stopped a) (ne_gone_of_stopped b) (Or.inl a) fun hd => Or.inl (c ▸ hd)⟩
  | maxStreamData h1 =>
    obtain ⟨u, hv⟩ := fx_receivedMaxStreamData h1
    exact .of_used (b := false) nofun (Or.inr (Or.inr ⟨_, rfl⟩)) nofun u (.grow (Grow.of_eq hv))
  | maxStreams d n => exact .of_view nofun (view_receivedMaxStreams s d n)
  | ack h1 =>
    rcases fx_ack h1 with e | ⟨d, hx, hc, he, hf⟩
    · exact .of_view nofun e
    · exact ⟨.emit nofun _ (.finished _ _ _ _ rfl d hx hc) he (Or.inl hf), .sdrop _ d⟩
  | lost h1 => exact .of_view nofun (shuffle_retransmit h1).view
  | rstAck h1 =>
    rcases fx_resetAcked h1 with e | ⟨he, hf, d⟩
    · rw [e]; exact .of_view nofun rfl
    · exact ⟨.same nofun he (Or.inl hf), .sdrop _ d⟩
  | read h1 => exact .of_reader nofun (fx_read h1).1
  | stop h1 => exact .of_reader nofun (fx_stop h1)
  | recvReset h1 => exact .of_reader nofun (fx_recvReceivedReset h1).1
  | poll h1 => exact ⟨.poll rfl _ rfl h1, .grow (Grow.of_eq (fx_poll h1).1)⟩
  | transmit h1 => exact .of_view nofun (shuffle_writeStreamFrames _ _ _ h1).view
  | ctrl h1 => exact .of_view nofun (view_writeControlFrames h1)
  | queueMaxStreamId h1 => exact .of_view nofun (view_queueMaxStreamId h1)
  | recvWindow n => exact .of_view nofun (view_setReceiveWindow s n)
  | maxConcurrent h1 => exact .of_grow nofun (viewGrow_setMaxConcurrent h1)
  | rtx0 h1 => exact .of_view nofun (shuffle_retransmitAllFor0rtt h1).view

theorem poll_fsw {s s' : State} {e : Option Event} (hp : s.poll = some (s', e)) :
    e.toList.filter isFinStop ++ s'.fsw = s.fsw := by
  rw [fsw_view, fsw_view]
  rcases (fx_poll hp).2 with ⟨d, rfl, _, _, he⟩ | ⟨_, he⟩
  · rw [he]; rfl
  · rw [← he, List.filter_append, filter_finStop_loud]

end QM.Streams
