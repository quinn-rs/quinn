import QuinnModel.Conn.FrameRules
import QuinnModel.Lemmas.CidQueue
import QuinnModel.Lemmas.CidState
import QuinnModel.Lemmas.AckFrequency
import QuinnModel.Lemmas.Datagrams
namespace QM.FrameRules
open QM QM.Wire QM.Streams

theorem early_forbidden (server : Bool) (sp : Space) (fl : ConnFlags) (f : Frame) (hsp : sp ≠ .data)
    (hk : earlyAccepted (kindOf f) = false) : verdict server sp fl f = .error [Gen.frProtocolViolation] := by
  cases sp with
  | data => exact absurd rfl hsp
  | initial => simp only [verdict, hk]; rfl
  | handshake => simp only [verdict, hk]; rfl

theorem early_accepted (server : Bool) (sp : Space) (fl : ConnFlags) (f : Frame)
    (hk : earlyAccepted (kindOf f) = true) : verdict server sp fl f = dataVerdict server sp fl f := by
  cases sp <;> simp [verdict, hk]

theorem data_space_all (server : Bool) (fl : ConnFlags) (f : Frame) :
    verdict server .data fl f = dataVerdict server .data fl f := rfl

/-- `v` is a panic only if `p`, and its error / may verdicts name at least one code, all from `l` -/
inductive Out (l : List Code) (p : Prop) : Verdict → Prop
  | ok : Out l p .ok
  | ignore : Out l p .ignore
  | error (c : Code) (h : c ∈ l) : Out l p (.error [c])
  | may (cs : List Code) (hne : cs ≠ []) (h : ∀ c ∈ cs, c ∈ l) : Out l p (.may cs)
  | panic (h : p) : Out l p .panic

theorem Out.codes {l : List Code} {p : Prop} {v : Verdict} (h : Out l p v) (cs : List Code)
    (hv : v = .error cs ∨ v = .may cs) : cs ≠ [] ∧ ∀ c ∈ cs, c ∈ l := by
  cases h with
  | error c hc => simp only [Verdict.error.injEq, reduceCtorEq, or_false] at hv; subst hv; simpa using hc
  | may cs' hne hc => simp only [Verdict.may.injEq, reduceCtorEq, false_or] at hv; subst hv; exact ⟨hne, hc⟩
  | _ => simp at hv

theorem Out.no_panic {l : List Code} {p : Prop} {v : Verdict} (h : Out l (¬ p) v) (hp : p) : v ≠ .panic := by
  cases h <;> simp_all

theorem Out.mono {l l' : List Code} {p q : Prop} {v : Verdict} (h : Out l p v) (hs : ∀ c ∈ l, c ∈ l') (hp : p → q) :
    Out l' q v := by
  cases h with
  | ok => exact .ok
  | ignore => exact .ignore
  | error c hc => exact .error c (hs c hc)
  | may cs hne hc => exact .may cs hne (fun c hm => hs c (hc c hm))
  | panic h => exact .panic (hp h)

theorem creditConsumedBy_some (r : Recv) (offset received maxData : Nat) (ho : offset < 2 ^ 62) (hr : received < 2 ^ 63) :
    r.creditConsumedBy offset received maxData ≠ none := by
  fun_cases Recv.creditConsumedBy r offset received maxData
  case case3 nb _ h _ =>
    -- the only `none`: the byte count overflows `u64`
    have : nb = offset - r.end_ := rfl
    unfold addU at h
    split at h
    · cases h
    · omega
  all_goals nofun

theorem ingest_some (r : Recv) (off len : Nat) (fin : Bool) (received maxData : Nat) (hr : received < 2 ^ 63) :
    r.ingest off len fin received maxData ≠ none := by
  fun_cases Recv.ingest r off len fin received maxData
  case case3 hb _ =>
    have hc := creditConsumedBy_some r (off + len) received maxData (Nat.not_le.1 hb) hr
    fun_cases Recv.ingestTail r off len fin received maxData
    case case1 h => exact absurd h hc
    all_goals nofun
  all_goals nofun

theorem reset_some (r : Recv) (code fo received maxData : Nat) (hf : fo < 2 ^ 62) (hr : received < 2 ^ 63) :
    r.reset code fo received maxData ≠ none := by
  have hc := creditConsumedBy_some r fo received maxData hf hr
  fun_cases Recv.reset r code fo received maxData
  case case2 =>
    fun_cases Recv.resetTail r code fo received maxData
    case case2 h => exact absurd h hc
    all_goals nofun
  all_goals nofun

theorem codeOfTErr_mem_stream (e : TErr) : codeOfTErr e ∈ kindCodes .stream := by
  cases e <;> simp [codeOfTErr, kindCodes]

theorem streamV_out (server : Bool) (fl : ConnFlags) (id off len : Nat) (fin : Bool) :
    Out (kindCodes .stream) (¬ fl.dataRecvd < 2 ^ 63) (streamV server fl id off len fin) := by
  fun_cases streamV server fl id off len fin
  · exact .error _ (codeOfTErr_mem_stream _)
  · exact .ignore
  · exact .ignore
  · rename_i h; exact .panic fun hr => ingest_some _ _ _ _ _ _ hr h
  · exact .error _ (codeOfTErr_mem_stream _)
  · exact .ok

theorem resetV_out (server : Bool) (fl : ConnFlags) (id code fo : Nat) :
    Out (kindCodes .resetStream) (¬ (fo < 2 ^ 62 ∧ fl.dataRecvd < 2 ^ 63)) (resetV server fl id code fo) := by
  fun_cases resetV server fl id code fo
  · exact .error _ (codeOfTErr_mem_stream _)
  · exact .ignore
  · rename_i h; exact .panic fun ⟨hfo, hr⟩ => reset_some _ _ _ _ _ hfo hr h
  · exact .error _ (codeOfTErr_mem_stream _)
  · exact .ignore
  · exact .ok

variable {p : Prop}

theorem maxStreamDataV_out (server : Bool) (fl : ConnFlags) (id : Nat) :
    Out (kindCodes .maxStreamData) p (maxStreamDataV server fl id) := by
  unfold maxStreamDataV
  exact iteInduction (fun _ => .error _ (by decide)) fun _ =>
    iteInduction (fun _ => .error _ (by decide)) fun _ =>
    iteInduction (fun _ => .ok) fun _ =>
    iteInduction (fun _ => .error _ (by decide)) fun _ => .ignore

theorem stopSendingV_out (server : Bool) (fl : ConnFlags) (id : Nat) :
    Out (kindCodes .stopSending) p (stopSendingV server fl id) := by
  unfold stopSendingV
  exact iteInduction
    (fun _ => iteInduction (fun _ => .error _ (by decide)) fun _ => iteInduction (fun _ => .ok) fun _ => .ignore)
    (fun _ => iteInduction (fun _ => .error _ (by decide)) fun _ => iteInduction (fun _ => .ok) fun _ => .ignore)

theorem ackV_out (sp : Space) (fl : ConnFlags) (largest first : Nat) (blocks : List (Nat × Nat)) :
    Out (kindCodes .ack) p (ackV sp fl largest first blocks) := by
  unfold ackV
  refine iteInduction (fun _ => .error _ (by decide)) fun _ => ?_
  cases fl.skipped with
  | none => exact .ok
  | some x => exact iteInduction (fun _ => .error _ (by decide)) fun _ => .ok

theorem cryptoV_out (sp : Space) (fl : ConnFlags) (off len : Nat) :
    Out (kindCodes .crypto) p (cryptoV sp fl off len) := by
  unfold cryptoV
  exact iteInduction (fun _ => .error _ (by decide)) fun _ =>
    iteInduction (fun _ => .error _ (by decide)) fun _ =>
    iteInduction (fun _ => .ok) fun _ => .may _ (List.cons_ne_nil _ _) (by decide)

theorem retireCidV_out (fl : ConnFlags) (seq : Nat) : Out (kindCodes .retireConnectionId) p (retireCidV fl seq) := by
  fun_cases retireCidV fl seq
  · exact .ok
  · rename_i c k h
    rw [(CidState.onCidRetirement_err _ seq 0 _ c k (Prod.ext rfl h)).2]
    exact .error _ (by decide)

theorem datagramV_out (fl : ConnFlags) (d : Bytes) : Out (kindCodes .datagram) p (datagramV fl d) := by
  unfold datagramV
  -- nothing is buffered, so `received` is decided by the window alone: unexpected, oversized, dropped, accepted
  rcases Datagrams.received_char Datagrams.init rfl d fl.dgramWindow with
    ⟨_, h⟩ | ⟨_, _, _, h⟩ | ⟨_, _, _, _, h⟩ | ⟨_, _, _, _, h, _⟩ <;> rw [h]
  · exact .error _ (by decide)
  · exact .error _ (by decide)
  · exact .ok
  · exact .ok

theorem ackFrequencyV_out (fl : ConnFlags) (seq aet req reord : Nat) :
    Out (kindCodes .ackFrequency) p (ackFrequencyV fl seq aet req reord) := by
  unfold ackFrequencyV
  rw [AckFrequency.recv_decision]
  by_cases h1 : ∃ h, (⟨none, 0, 0, fl.ackFreqLast, 0⟩ : AckFrequency.State).lastFrame = some h ∧ seq ≤ h
  · rw [if_pos h1]; exact .ignore
  · rw [if_neg h1]
    by_cases h2 : req * 1000 < Gen.timerGranularityNs
    · rw [if_pos h2]; exact .error _ (by decide)
    · rw [if_neg h2]; exact .ok

/-- NEW_CONNECTION_ID: the handler names only these two codes, whatever the ring; under the ring invariant (which
    `cidq_no_panic` shows to hold along every run) and for a sequence number in varint range it does not panic -/
theorem newCidV_out (fl : ConnFlags) (seq rpt : Nat) (cid tok : Bytes) :
    Out (kindCodes .newConnectionId) (¬ (CidQueue.Inv fl.cid.q ∧ seq < 2 ^ 62)) (newCidV fl seq rpt cid tok) := by
  have hnp : CidQueue.Inv fl.cid.q ∧ seq < 2 ^ 62 → (CidQueue.onNewConnectionId fl.cid seq rpt cid tok).2 ≠ .panic :=
    fun ⟨hI, h2⟩ => by
      obtain ⟨a, ha⟩ := CidQueue.active_some fl.cid.q hI
      exact (CidQueue.onNewConnectionId_spec fl.cid hI seq rpt cid tok h2 a ha).noPanic
  unfold newCidV
  revert hnp
  -- leaves in source order: no active CID; the two checks before `insert`; the five outcomes of `insert`, the last two
  -- followed by the server's switch off the initial CID (`next`: panic / advanced / nothing to advance to / not needed)
  fun_cases CidQueue.onNewConnectionId fl.cid seq rpt cid tok <;> intro hnp
  · exact .panic fun h => hnp h rfl
  · exact .error _ (by decide)
  · exact .error _ (by decide)
  · exact .panic fun h => hnp h rfl
  · exact .error _ (by decide)
  · exact .error _ (by decide)
  · exact .ignore
  · exact .error _ (by decide)
  · exact .panic fun h => hnp h rfl
  · exact .ok
  · exact .ok
  · exact .ok
  · exact .panic fun h => hnp h rfl
  · exact .ok
  · exact .ok
  · exact .ok

theorem receivedMaxStreams_err_code (s : State) (d : Dir) (c : Nat) (e : TErr) (h : (s.receivedMaxStreams d c).2 = some e) :
    codeOfTErr e = Gen.frFrameEncodingError := by
  revert h
  fun_cases State.receivedMaxStreams s d c
  · intro h; cases h; rfl
  · nofun
  · nofun

/-- facts in the range the implementation's `u64` counters and the varint decoder guarantee -/
structure FlagsOk (fl : ConnFlags) : Prop where
  cid : CidQueue.Inv fl.cid.q
  dataRecvd : fl.dataRecvd < 2 ^ 63

theorem dataVerdict_out (server : Bool) (sp : Space) (fl : ConnFlags) (f : Frame) :
    Out (kindCodes (kindOf f)) (¬ (FlagsOk fl ∧ Frame.wellFormed f)) (dataVerdict server sp fl f) := by
  cases f with
  | ack largest delay first blocks ecn => exact ackV_out sp fl largest first blocks
  | resetStream id code fo =>
    exact (resetV_out server fl id code fo).mono (fun _ h => h) fun h ⟨hf, hw⟩ => h ⟨hw.2.2, hf.dataRecvd⟩
  | stopSending id code => exact stopSendingV_out server fl id
  | crypto off d => exact cryptoV_out sp fl off d.length
  | newToken token =>
    exact iteInduction (fun _ => .error _ (by decide : _ ∈ kindCodes .newToken)) fun _ =>
      iteInduction (fun _ => .error _ (by decide : _ ∈ kindCodes .newToken)) fun _ => .ok
  | stream id off fin d =>
    exact (streamV_out server fl id off d.length fin).mono (fun _ h => h) fun h ⟨hf, _⟩ => h hf.dataRecvd
  | maxStreamData id off => exact maxStreamDataV_out server fl id
  | maxStreams uni count =>
    simp only [dataVerdict, kindOf]
    split
    · rename_i e h
      rw [receivedMaxStreams_err_code _ _ _ e h]
      exact .error _ (by decide)
    · exact .ok
  | streamDataBlocked id off => exact iteInduction (fun _ => .error _ (by decide : _ ∈ kindCodes .streamDataBlocked)) fun _ => .ok
  | streamsBlocked uni limit => exact iteInduction (fun _ => .error _ (by decide : _ ∈ kindCodes .streamsBlocked)) fun _ => .ok
  | newConnectionId seq rpt cid tok =>
    exact (newCidV_out fl seq rpt cid tok).mono (fun _ h => h) fun h ⟨hf, hw⟩ => h ⟨hf.cid, hw.1⟩
  | retireConnectionId seq => exact retireCidV_out fl seq
  | pathResponse t => exact iteInduction (fun _ => .ok) fun _ => .ignore
  | datagram d => exact datagramV_out fl d
  | ackFrequency a b c d => exact ackFrequencyV_out fl a b c d
  | padding | ping | maxData _ | dataBlocked _ | pathChallenge _ | closeConn _ _ _ | closeApp _ _ | immediateAck => exact .ok
  | handshakeDone => exact iteInduction (fun _ => .error _ (by decide : _ ∈ kindCodes .handshakeDone)) fun _ => .ok

/-- Every verdict names only codes of its frame type (plus PROTOCOL_VIOLATION in the early spaces), whatever the facts; it is
    the panic outcome of a reused handler model only for facts or frame fields outside `FlagsOk` / `Frame.wellFormed`. -/
theorem verdict_out (server : Bool) (sp : Space) (fl : ConnFlags) (f : Frame) :
    Out (allowedCodes sp (kindOf f)) (¬ (FlagsOk fl ∧ Frame.wellFormed f)) (verdict server sp fl f) := by
  have hd := dataVerdict_out server sp fl f
  cases sp with
  | data => exact hd
  | initial | handshake =>
    exact iteInduction (fun _ => hd.mono (fun c h => List.mem_cons_of_mem _ h) id) fun _ => .error _ (List.mem_cons_self ..)

theorem kindCodes_rfc (k : Kind) : ∀ c ∈ kindCodes k, c ∈ allCodes := by
  cases k <;> decide

end QM.FrameRules
