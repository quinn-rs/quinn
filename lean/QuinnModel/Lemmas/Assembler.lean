import QuinnModel.Data.Assembler
import QuinnModel.Lemmas.RangeSet
/-
`Assembler` under the consistency hypothesis "every inserted frame carries the bytes of the ground
stream `g` at its offset". Runs are lists of calls together with the implementation's observed
choices; a run stops (`none`) when a choice is not allowed by the model or the code panics, so the
theorems speak about every behaviour the correspondence check accepts.
-/
namespace QM.Assembler
open QM QM.RangeSet

/-- `n` bytes of the stream `g` starting at offset `a` -/
def stream (g : Nat → Nat) : Nat → Nat → Bytes
  | _, 0 => []
  | a, n + 1 => g a :: stream g (a + 1) n

theorem stream_eq (g : Nat → Nat) (n : Nat) : ∀ a, stream g a n = (List.range' a n).map g := by
  induction n with
  | zero => intro a; rfl
  | succ n ih => intro a; rw [stream, ih, List.range'_succ, List.map_cons]

theorem stream_length (g : Nat → Nat) (n : Nat) : ∀ a, (stream g a n).length = n := by
  intro a
  rw [stream_eq, List.length_map, List.length_range']

theorem stream_append (g : Nat → Nat) (n m : Nat) : ∀ a, stream g a n ++ stream g (a + n) m = stream g a (n + m) := by
  intro a
  rw [stream_eq, stream_eq, stream_eq, ← List.map_append, List.range'_append_1]

theorem stream_getElem? (g : Nat → Nat) (n : Nat) : ∀ a i, i < n → (stream g a n)[i]? = some (g (a + i)) := by
  intro a i h
  rw [stream_eq, List.getElem?_map, List.getElem?_range' h, Nat.one_mul]; rfl

theorem stream_drop (g : Nat → Nat) (n : Nat) : ∀ a k, (stream g a n).drop k = stream g (a + k) (n - k) := by
  intro a k
  rw [stream_eq, stream_eq, ← List.map_drop, List.drop_range', Nat.mul_one]

theorem stream_take (g : Nat → Nat) (n : Nat) : ∀ a k, k ≤ n → (stream g a n).take k = stream g a k := by
  intro a k h
  rw [stream_eq, stream_eq, ← List.map_take, List.take_range'_of_length_ge h]

/-- every buffered chunk carries ground-stream bytes -/
def Cons (g : Nat → Nat) (d : List (Nat × Bytes)) : Prop := ∀ c ∈ d, c.2 = stream g c.1 c.2.length

theorem lookup_Cons (g : Nat → Nat) (d : List (Nat × Bytes)) (hc : Cons g d) (x v : Nat)
    (h : lookup d x = some v) : v = g x := by
  fun_induction lookup d x with
  | case1 => cases h
  | case2 o b t x hin =>
    have hb : b = stream g o b.length := hc (o, b) List.mem_cons_self
    rw [hb, stream_getElem? g b.length o (x - o) (by omega)] at h
    cases h; congr 1; omega
  | case3 o b t x _ ih => exact ih (fun c hc' => hc c (List.mem_cons_of_mem _ hc')) h

theorem readBytes_Cons (g : Nat → Nat) (d : List (Nat × Bytes)) (hc : Cons g d) (n off : Nat) (bs : Bytes)
    (h : readBytes d off n = some bs) : bs = stream g off n := by
  fun_induction readBytes d off n generalizing bs with
  | case1 => cases h; rfl
  | case2 off n v r hr hv ih => cases h; rw [lookup_Cons g d hc off v hv, ih r hr]; rfl
  | case3 => cases h

theorem covers_iff (s : RS) (a b : Nat) : covers s a b = true ↔ ∃ p ∈ s, p.1 ≤ a ∧ b ≤ p.2 ∧ a < p.2 := by
  simp only [covers, List.any_eq_true, Bool.and_eq_true, decide_eq_true_eq, and_assoc]

theorem covers_mem (s : RS) (a b : Nat) (h : covers s a b = true) :
    ∀ x, a ≤ x → x < b → mem x s := by
  obtain ⟨p, hp, h1, h2, _⟩ := (covers_iff s a b).mp h
  exact fun x hx1 hx2 => ⟨p, hp, Nat.le_trans h1 hx1, Nat.lt_of_lt_of_le hx2 h2⟩

theorem covers_mem_start (s : RS) (a b : Nat) (h : covers s a b = true) : mem a s := by
  obtain ⟨p, hp, h1, _, h3⟩ := (covers_iff s a b).mp h
  exact ⟨p, hp, h1, h3⟩

theorem not_covers_self (s : RS) (a : Nat) (h : covers s a a = false) : ¬ mem a s := by
  rintro ⟨p, hp, h1, h2⟩
  rw [(covers_iff s a a).mpr ⟨p, hp, h1, Nat.le_of_lt h2, h2⟩] at h
  cases h

theorem clipFrom_cons (p : Nat × Nat) (t : RS) (r : Nat) :
    clipFrom (p :: t) r = (if p.2 > r then [(Nat.max p.1 r, p.2)] else []) ++ clipFrom t r := by
  by_cases h : p.2 > r
  · simp only [clipFrom, List.filterMap_cons, if_pos h]; rfl
  · simp only [clipFrom, List.filterMap_cons, if_neg h]; rfl

theorem clipFrom_mem (s : RS) (r x : Nat) : mem x (clipFrom s r) ↔ mem x s ∧ r ≤ x := by
  induction s with
  | nil => exact ⟨fun h => absurd h (mem_nil x), fun h => h.1⟩
  | cons p t ih =>
    rw [clipFrom_cons, mem_append, mem_ite_single, ih, mem_cons, or_and_right]
    refine or_congr_left ?_
    rw [natMax_eq]; omega

theorem clipFrom_from (s : RS) (r k : Nat) (h : From k s) : From k (clipFrom s r) := by
  induction s generalizing k with
  | nil => exact From.nil _
  | cons q t ih =>
    obtain ⟨a, b⟩ := q
    obtain ⟨h1, h2, h3⟩ := from_cons.mp h
    rw [clipFrom_cons]
    exact from_ite_cons (Nat.le_trans h1 (Nat.le_max_left a r)) (fun hc => Nat.max_lt.mpr ⟨h2, hc⟩) (ih _ h3)
      (ih _ (h3.mono (Nat.le_succ_of_le (Nat.le_trans h1 (Nat.le_of_lt h2)))))

theorem removeRange_mem (s : RS) (a b x : Nat) :
    mem x (removeRange s a b) ↔ mem x s ∧ ¬ (a ≤ x ∧ x < b) := by
  fun_induction removeRange s a b with
  | case1 => exact ⟨fun h => absurd h (mem_nil x), fun h => h.1⟩
  | case2 p q t a b hab =>
    exact ⟨fun h => ⟨h, fun h' => Nat.lt_irrefl _ (Nat.lt_of_lt_of_le (Nat.lt_of_le_of_lt h'.1 h'.2) hab)⟩,
      fun h => h.1⟩
  | case3 p q t a b hab ih =>
    rw [mem_append, mem_append, mem_ite_single, mem_ite_single, ih, mem_cons]
    -- what is left of `[p, q)` below `a` and from `b` on
    have key : (p < Nat.min q a ∧ p ≤ x ∧ x < Nat.min q a) ∨ (Nat.max p b < q ∧ Nat.max p b ≤ x ∧ x < q) ↔
        (p ≤ x ∧ x < q) ∧ ¬ (a ≤ x ∧ x < b) := by
      simp only [natMin_eq, natMax_eq]; omega
    rw [key]
    exact or_and_right.symm

theorem removeRange_from (s : RS) (a b k : Nat) (h : From k s) : From k (removeRange s a b) := by
  fun_induction removeRange s a b generalizing k with
  | case1 => exact From.nil _
  | case2 => exact h
  | case3 p q t a b hab ih =>
    obtain ⟨h1, h2, h3⟩ := from_cons.mp h
    have ht : ∀ j, j ≤ q + 1 → From j (removeRange t a b) := fun j hj => ih _ (h3.mono hj)
    have hq : From (q + 1) (removeRange t a b) := ht _ (Nat.le_refl _)
    rw [List.append_assoc]
    -- the part of `[p, q)` below `a` ends before the part from `b` on starts
    have hgap : Nat.min q a + 1 ≤ Nat.max p b :=
      Nat.le_trans (Nat.succ_le_succ (Nat.min_le_right q a)) (Nat.le_trans (Nat.lt_of_not_le hab) (Nat.le_max_right p b))
    exact from_ite_cons h1 id
      (from_ite_cons hgap id hq (ht _ (Nat.succ_le_succ (Nat.min_le_left q a))))
      (from_ite_cons (Nat.le_trans h1 (Nat.le_max_left p b)) id hq
        (ht _ (Nat.le_succ_of_le (Nat.le_trans h1 (Nat.le_of_lt h2)))))

/-- `recvd` when unordered mode is entered -/
theorem fold_insert (l : RS) : ∀ (acc : RS), WF acc →
    WF (l.foldl (fun acc p => (RangeSet.insert acc p.1 p.2).1) acc) ∧
    ∀ x, mem x (l.foldl (fun acc p => (RangeSet.insert acc p.1 p.2).1) acc) ↔ mem x acc ∨ mem x l := by
  induction l with
  | nil => exact fun acc h => ⟨h, fun x => ⟨Or.inl, fun h => h.resolve_right (mem_nil x)⟩⟩
  | cons p t ih =>
    intro acc h
    simp only [List.foldl_cons]
    obtain ⟨h1, h2⟩ := ih (RangeSet.insert acc p.1 p.2).1 (insert_WF acc p.1 p.2 h)
    refine ⟨h1, fun x => ?_⟩
    rw [h2 x, insert_mem acc p.1 p.2 x h, mem_cons, or_assoc]

structure Sys where
  a : Asm
  /-- concatenation of everything returned by ordered reads -/
  out : Bytes
  /-- every chunk handed to the application: (ordered?, offset, bytes), latest first -/
  chunks : List (Bool × Nat × Bytes)
  /-- ranges inserted while in ordered mode since the last `clear` -/
  ins : List (Nat × Nat)

def Sys.init : Sys := ⟨{}, [], [], []⟩

inductive Op where
  | insert (off : Nat) (bytes : Bytes) (alloc : Nat) (tooMany : Bool)
  | read (max : Nat) (ordered : Bool) (obs : Obs)
  | ensure (ordered : Bool)
  | clear

/-- the frame carries ground-stream bytes -/
def Op.consistent (g : Nat → Nat) : Op → Prop
  | .insert off bytes _ _ => bytes = stream g off bytes.length
  | _ => True

/-- one call. `read` is `ensure_ordering(ordered)?; read(max, ordered)` as in `Chunks::new`/`next`.
    `none`: the observed choice is not allowed by the model, or the code panics. -/
def step (s : Sys) : Op → Option Sys
  | .insert off bytes alloc tm =>
    match insert s.a off bytes alloc tm with
    | (a', .ok) => some { s with a := a', ins := if s.a.unordered then s.ins else (off, off + bytes.length) :: s.ins }
    | (a', .tooMany) => some { s with a := a', ins := if s.a.unordered then s.ins else (off, off + bytes.length) :: s.ins }
    | (_, .panic) => none
    | (_, .invalid) => none
  | .read max ordered obs =>
    match ensureOrdering s.a ordered with
    | (a1, false) => some { s with a := a1 }
    | (a1, true) =>
      match read a1 max ordered obs with
      | (a2, .none) => some { s with a := a2 }
      | (a2, .chunk off bytes) =>
        some { s with a := a2, out := if ordered then s.out ++ bytes else s.out,
                      chunks := (ordered, off, bytes) :: s.chunks }
      | (_, .invalid) => none
  | .ensure ordered => some { s with a := (ensureOrdering s.a ordered).1 }
  | .clear => some { s with a := clear s.a, ins := [] }

def run : Sys → List Op → Option Sys
  | s, [] => some s
  | s, op :: ops => match step s op with
    | some s' => run s' ops
    | none => none

theorem mode_absurd {x b : Bool} {P : Prop} (h1 : x = b) (h2 : x = !b) : P := by
  cases b <;> (rw [h1] at h2; cases h2)

theorem step_insert {s s' : Sys} {off : Nat} {bytes : Bytes} {alloc : Nat} {tm : Bool}
    (h : step s (.insert off bytes alloc tm) = some s') :
    ((insert s.a off bytes alloc tm).2 = .ok ∨ (insert s.a off bytes alloc tm).2 = .tooMany) ∧
    s' = { s with a := (insert s.a off bytes alloc tm).1,
                  ins := if s.a.unordered then s.ins else (off, off + bytes.length) :: s.ins } := by
  simp only [step] at h
  split at h
  · rename_i a' e; cases h; rw [e]; exact ⟨Or.inl rfl, rfl⟩
  · rename_i a' e; cases h; rw [e]; exact ⟨Or.inr rfl, rfl⟩
  · cases h
  · cases h

def rangeOf (c : Bool × Nat × Bytes) : Nat × Nat := (c.2.1, c.2.1 + c.2.2.length)

def disj (r q : Nat × Nat) : Prop := ∀ x, ¬ (r.1 ≤ x ∧ x < r.2 ∧ q.1 ≤ x ∧ x < q.2)

theorem Cons_push (g : Nat → Nat) (s : Asm) (off : Nat) (bytes : Bytes) (hc : Cons g s.data)
    (hb : bytes = stream g off bytes.length) : Cons g (push s off bytes).data := by
  intro c hc'
  simp only [push] at hc'
  rcases List.mem_cons.mp hc' with e | e
  · subst e; exact hb
  · exact hc c e

theorem push_cov (s : Asm) (off : Nat) (bytes : Bytes) :
    (push s off bytes).cov = (RangeSet.insert s.cov off (off + bytes.length)).1 := rfl

theorem consistent_take (g : Nat → Nat) (off : Nat) (bytes : Bytes) (k : Nat) (hk : k ≤ bytes.length)
    (hb : bytes = stream g off bytes.length) :
    bytes.take k = stream g off (bytes.take k).length := by
  rw [List.length_take, Nat.min_eq_left hk, ← stream_take g bytes.length off k hk, ← hb]

theorem consistent_drop (g : Nat → Nat) (off : Nat) (bytes : Bytes) (k : Nat)
    (hb : bytes = stream g off bytes.length) :
    bytes.drop k = stream g (off + k) (bytes.drop k).length := by
  rw [List.length_drop, ← stream_drop g bytes.length off k, ← hb]

theorem finishInsert_nil (s : Asm) (off : Nat) (tm : Bool) :
    finishInsert s off [] tm = (s, if tm then .invalid else .ok) := by
  unfold finishInsert; rw [if_pos List.isEmpty_nil]

theorem finishInsert_fst (s : Asm) (off : Nat) (bytes : Bytes) (tm : Bool) :
    (finishInsert s off bytes tm).1 = if bytes.isEmpty then s else push s off bytes := by
  fun_cases finishInsert s off bytes tm with
  | case1 he => rw [if_pos he]
  | case2 he | case3 he | case4 he => rw [if_neg he]

theorem finishInsert_effect {s s' : Asm} {off : Nat} {bytes : Bytes} {tm : Bool} {o : InsertOut}
    (h : finishInsert s off bytes tm = (s', o)) :
    s'.unordered = s.unordered ∧ s'.bytesRead = s.bytesRead ∧ s'.recvd = s.recvd ∧ s'.end_ = s.end_ ∧
    s'.cov = (RangeSet.insert s.cov off (off + bytes.length)).1 ∧
    ∀ g, Cons g s.data → bytes = stream g off bytes.length → Cons g s'.data := by
  obtain rfl : (finishInsert s off bytes tm).1 = s' := by rw [h]
  rw [finishInsert_fst]; split
  · rename_i he
    rw [List.isEmpty_iff] at he
    rw [he]; exact ⟨rfl, rfl, rfl, rfl, (insert_empty s.cov off _ (Nat.le_refl off)).symm, fun g hc _ => hc⟩
  · exact ⟨rfl, rfl, rfl, rfl, rfl, fun g => Cons_push g s off bytes⟩

/-- the duplicate loop over ascending ranges `dups` within `off .. re`, followed by the push of what it leaves: does not
    panic in the loop, changes only `data`, `cov`, `pushes`, and buffers exactly the part of `off .. re` outside `dups` -/
theorem dupLoop_spec {dups : List (Nat × Nat)} {a : Asm} {off : Nat} {bytes : Bytes} (re : Nat) (tm : Bool)
    (hd : From off dups) (hre : ∀ p ∈ dups, p.2 ≤ re) (hle : off ≤ re) (hlen : bytes.length = re - off)
    (hw : WF a.cov) :
    ∃ a1 off1 bytes1, dupLoop dups a off bytes = some (a1, off1, bytes1) ∧
      (a1.unordered = a.unordered ∧ a1.bytesRead = a.bytesRead ∧ a1.recvd = a.recvd ∧ a1.end_ = a.end_) ∧
      WF (finishInsert a1 off1 bytes1 tm).1.cov ∧
      (∀ x, mem x (finishInsert a1 off1 bytes1 tm).1.cov ↔ mem x a.cov ∨ (off ≤ x ∧ x < re ∧ ¬ mem x dups)) ∧
      ∀ g, Cons g a.data → bytes = stream g off bytes.length → Cons g (finishInsert a1 off1 bytes1 tm).1.data := by
  fun_induction dupLoop dups a off bytes with
  | case1 a off bytes =>
    obtain ⟨_, _, _, _, f5, f6⟩ :=
      finishInsert_effect (s' := (finishInsert a off bytes tm).1) (o := (finishInsert a off bytes tm).2) rfl
    rw [hlen, Nat.add_sub_of_le hle] at f5
    refine ⟨a, off, bytes, rfl, ⟨rfl, rfl, rfl, rfl⟩, f5 ▸ insert_WF _ _ _ hw, fun x => ?_, f6⟩
    rw [f5, insert_mem _ _ _ x hw]
    exact or_congr_right ⟨fun h => ⟨h.1, h.2, mem_nil x⟩, fun h => ⟨h.1, h.2.1⟩⟩
  | case2 | case3 | case4 | case6 | case7 =>
    obtain ⟨h1, h2, _⟩ := from_cons.mp hd
    have := hre _ List.mem_cons_self
    simp only at this; omega
  | case5 ds de t a off bytes hgt c1 c2 _ ih =>
    obtain ⟨h1, h2, h6⟩ := from_cons.mp hd
    obtain ⟨h3, hret⟩ := List.forall_mem_cons.mp hre
    have htl : (bytes.take (ds - off)).length = ds - off := by
      rw [List.length_take]; exact Nat.min_eq_left (Nat.le_of_not_lt c1)
    obtain ⟨a1, off1, bytes1, e1, fr, wf, e5, ec⟩ :=
      ih (h6.mono (Nat.le_succ _)) hret h3 (by rw [List.length_drop, List.length_drop, hlen,
        Nat.sub_sub_sub_cancel_right h1, Nat.sub_sub_sub_cancel_right (Nat.le_of_lt h2)]) (insert_WF _ _ _ hw)
    have hlow : ∀ x, x ≤ de → ¬ mem x t := fun x hx => not_mem_of_lt t x (fun p hp => Nat.lt_of_le_of_lt hx (h6.lower p hp))
    refine ⟨a1, off1, bytes1, e1, fr, wf, fun x => ?_, fun g hc hb => ?_⟩
    · rw [e5 x, push_cov, insert_mem _ _ _ x hw, htl, Nat.add_sub_of_le (Nat.le_of_lt hgt), or_assoc, mem_cons]
      refine or_congr_right ⟨?_, fun ⟨hx1, hx2, hx3⟩ => ?_⟩
      · rintro (h | h)
        · exact ⟨h.1, Nat.lt_of_lt_of_le h.2 (Nat.le_trans (Nat.le_of_lt h2) h3),
            fun hm => hm.elim (fun hm => Nat.lt_irrefl _ (Nat.lt_of_lt_of_le h.2 hm.1))
              (hlow x (Nat.le_of_lt (Nat.lt_trans h.2 h2)))⟩
        · exact ⟨Nat.le_trans (Nat.le_trans (Nat.le_of_lt hgt) (Nat.le_of_lt h2)) h.1, h.2.1,
            fun hm => hm.elim (fun hm => Nat.lt_irrefl _ (Nat.lt_of_lt_of_le hm.2 h.1)) h.2.2⟩
      · rcases Nat.lt_or_ge x ds with hxd | hxd
        · exact Or.inl ⟨hx1, hxd⟩
        · exact Or.inr ⟨Nat.le_of_not_lt (fun hxe => hx3 (Or.inl ⟨hxd, hxe⟩)), hx2, fun hm => hx3 (Or.inr hm)⟩
    · have hb1 := consistent_drop g off bytes (ds - off) hb
      have hb2 := consistent_drop g (off + (ds - off)) (bytes.drop (ds - off)) (de - ds) hb1
      rw [Nat.add_sub_of_le (Nat.le_of_lt hgt), Nat.add_sub_of_le (Nat.le_of_not_lt c2)] at hb2
      exact ec g (Cons_push g a off _ hc (consistent_take g off bytes _ (Nat.le_of_not_lt c1) hb)) hb2
  | case8 ds de t a off bytes hgt c1 _ ih =>
    obtain ⟨h1, h2, h6⟩ := from_cons.mp hd
    obtain ⟨h3, hret⟩ := List.forall_mem_cons.mp hre
    have hod : off ≤ de := Nat.le_trans h1 (Nat.le_of_lt h2)
    have hds : ds = off := Nat.le_antisymm (Nat.le_of_not_gt hgt) h1
    obtain ⟨a1, off1, bytes1, e1, fr, wf, e5, ec⟩ :=
      ih (h6.mono (Nat.le_succ _)) hret h3 (by rw [List.length_drop, hlen, Nat.sub_sub_sub_cancel_right hod]) hw
    refine ⟨a1, off1, bytes1, e1, fr, wf, fun x => ?_, fun g hc hb => ec g hc ?_⟩
    · rw [e5 x, mem_cons, hds]
      exact or_congr_right ⟨fun h => ⟨Nat.le_trans hod h.1, h.2.1,
          fun hm => hm.elim (fun hm => Nat.lt_irrefl _ (Nat.lt_of_lt_of_le hm.2 h.1)) h.2.2⟩,
        fun ⟨hx1, hx2, hx3⟩ => ⟨Nat.le_of_not_lt (fun hxe => hx3 (Or.inl ⟨hx1, hxe⟩)), hx2, fun hm => hx3 (Or.inr hm)⟩⟩
    · have hb1 := consistent_drop g off bytes (de - off) hb
      rw [Nat.add_sub_of_le (Nat.le_of_not_lt c1)] at hb1
      exact hb1

/-- the ways through `insert`: a guard fails; in ordered mode (and for an empty frame) what lies at or after the
    read index is pushed; in unordered mode what the duplicate loop leaves, unless it panics -/
theorem insert_cases (s : Asm) (off : Nat) (bytes : Bytes) (alloc : Nat) (tm : Bool) :
    ((bytes.length > alloc ∨ off + bytes.length ≥ 2^64) ∧ insert s off bytes alloc tm = (s, .panic)) ∨
    ((s.unordered = false ∨ bytes = []) ∧
      insert s off bytes alloc tm =
        finishInsert { s with end_ := Nat.max s.end_ (off + bytes.length) } (Nat.max off s.bytesRead)
          (bytes.drop (s.bytesRead - off)) tm) ∨
    (s.unordered = true ∧ bytes ≠ [] ∧
      insert s off bytes alloc tm =
        match dupLoop (RangeSet.replace s.recvd off (off + bytes.length)).1
          { s with end_ := Nat.max s.end_ (off + bytes.length),
                   recvd := (RangeSet.replace s.recvd off (off + bytes.length)).2 } off bytes with
        | none => (s, .panic)
        | some (s1, off1, bytes1) => finishInsert s1 off1 bytes1 tm) := by
  unfold insert
  by_cases h1 : bytes.length > alloc
  · rw [if_pos h1]; exact Or.inl ⟨Or.inl h1, rfl⟩
  by_cases h2 : off + bytes.length ≥ 2^64
  · rw [if_neg h1, if_pos h2]; exact Or.inl ⟨Or.inr h2, rfl⟩
  rw [if_neg h1, if_neg h2]
  by_cases he : bytes = []
  · subst he
    rw [if_pos List.isEmpty_nil, List.drop_nil, finishInsert_nil]; exact Or.inr (Or.inl ⟨Or.inr rfl, rfl⟩)
  rw [if_neg (mt List.isEmpty_iff.mp he)]
  by_cases hu : s.unordered = true
  · rw [if_pos hu]; exact Or.inr (Or.inr ⟨hu, he, rfl⟩)
  rw [if_neg hu]
  refine Or.inr (Or.inl ⟨Or.inl ((Bool.not_eq_true _).mp hu), ?_⟩)
  by_cases hlt : off < s.bytesRead
  · rw [if_pos hlt, show Nat.max off s.bytesRead = s.bytesRead from Nat.max_eq_right (Nat.le_of_lt hlt)]
    by_cases hle : off + bytes.length ≤ s.bytesRead
    · rw [if_pos hle, List.drop_eq_nil_of_le (by omega), finishInsert_nil]
    · rw [if_neg hle]
  · rw [if_neg hlt, show Nat.max off s.bytesRead = off from Nat.max_eq_left (Nat.le_of_not_lt hlt),
      Nat.sub_eq_zero_of_le (Nat.le_of_not_lt hlt), List.drop_zero]

/-- effect of a call of `insert` that passes the guards, on a well-formed state: the coverage gains what the frame
    brings that is neither dead (ordered: below the read index) nor received before (unordered, where `recvd` gains the
    frame's range) -/
structure Inserted (s s' : Asm) (off : Nat) (bytes : Bytes) : Prop where
  mode : s'.unordered = s.unordered
  rd : s'.bytesRead = s.bytesRead
  end_eq : s'.end_ = Nat.max s.end_ (off + bytes.length)
  cons : ∀ g, Cons g s.data → bytes = stream g off bytes.length → Cons g s'.data
  wfc : WF s'.cov
  wfr : s.unordered = true → WF s'.recvd
  recvd : s.unordered = true → ∀ x, mem x s'.recvd ↔ mem x s.recvd ∨ (off ≤ x ∧ x < off + bytes.length)
  cov : ∀ x, mem x s'.cov ↔
    mem x s.cov ∨ (off ≤ x ∧ x < off + bytes.length ∧ if s.unordered then ¬ mem x s.recvd else s.bytesRead ≤ x)

theorem clip_range (off r len x : Nat) :
    (max off r ≤ x ∧ x < max off r + (len - (r - off))) ↔ (off ≤ x ∧ x < off + len ∧ r ≤ x) := by
  omega

theorem finishInsert_no_panic (a : Asm) (off : Nat) (bytes : Bytes) (tm : Bool) (h : a.bytesRead ≤ a.end_) :
    (finishInsert a off bytes tm).2 ≠ .panic := by
  fun_cases finishInsert a off bytes tm with
  | case1 => cases tm <;> exact nofun
  | case2 _ hp => exact absurd h (Nat.not_le.mpr hp)
  | case3 => split <;> exact nofun
  | case4 => exact nofun

/-- `insert` on a well-formed state: a guard fails and nothing happens; or the frame is taken in, and then the code
    panics only if the read index were beyond `end` -/
theorem insert_spec (s : Asm) (off : Nat) (bytes : Bytes) (alloc : Nat) (tm : Bool) (hw : WF s.cov)
    (hwr : s.unordered = true → WF s.recvd) :
    ((bytes.length > alloc ∨ off + bytes.length ≥ 2^64) ∧ insert s off bytes alloc tm = (s, .panic)) ∨
    (Inserted s (insert s off bytes alloc tm).1 off bytes ∧
      (s.bytesRead ≤ s.end_ → (insert s off bytes alloc tm).2 ≠ .panic)) := by
  rcases insert_cases s off bytes alloc tm with h | ⟨hm, e⟩ | ⟨hu, hne, e⟩
  · exact Or.inl h
  · rw [e]
    generalize hf : finishInsert _ _ _ tm = r
    obtain ⟨f1, f2, f3, f4, f5, f6⟩ := finishInsert_effect (s' := r.1) (o := r.2) hf
    -- an empty frame in unordered mode returns before `recvd` is touched
    have hun : s.unordered = true → bytes = [] := fun hu => hm.resolve_left (by rw [hu]; exact Bool.noConfusion)
    refine Or.inr ⟨⟨f1, f2, f4, fun g hc hb => f6 g hc ?_, f5 ▸ insert_WF _ _ _ hw, fun hu => f3 ▸ hwr hu,
      fun hu x => ?_, fun x => ?_⟩, fun hle => hf ▸ finishInsert_no_panic _ _ _ _ (Nat.le_trans hle (Nat.le_max_left _ _))⟩
    · have hb1 := consistent_drop g off bytes (s.bytesRead - off) hb
      rw [show off + (s.bytesRead - off) = Nat.max off s.bytesRead by rw [natMax_eq]; omega] at hb1
      exact hb1
    · rw [f3, hun hu]; exact ⟨Or.inl, fun h => h.elim id (fun h => absurd h.2 (Nat.not_lt.mpr h.1))⟩
    · rw [f5, insert_mem _ _ _ x hw, List.length_drop, natMax_eq, clip_range]
      refine or_congr_right ?_
      cases hu : s.unordered with
      | true =>
        rw [hun hu, if_pos rfl]
        exact ⟨fun h => absurd h.2.1 (Nat.not_lt.mpr h.1), fun h => absurd h.2.1 (Nat.not_lt.mpr h.1)⟩
      | false => rw [if_neg Bool.false_ne_true]
  · have hlt : off < off + bytes.length := Nat.lt_add_of_pos_right (List.length_pos_iff.mpr hne)
    -- the duplicates reported are the frame's range cut out of `recvd`; loop and final push buffer the rest
    obtain ⟨hrw, hrm, hdf, hdb, hdm⟩ := replace_spec s.recvd off _ (hwr hu) hlt
    obtain ⟨s1, off1, bytes1, hd, ⟨lmode, lrd, lrecvd, lend⟩, wf, e5, ec⟩ :=
      dupLoop_spec (a := { s with end_ := Nat.max s.end_ (off + bytes.length),
                                  recvd := (RangeSet.replace s.recvd off (off + bytes.length)).2 })
        (off + bytes.length) tm hdf hdb (Nat.le_of_lt hlt) (Nat.add_sub_cancel_left ..).symm hw
    simp only [e, hd]
    generalize hf : finishInsert s1 off1 bytes1 tm = r at wf e5 ec
    obtain ⟨fmode, frd, frecvd, fend, _, _⟩ := finishInsert_effect (s' := r.1) (o := r.2) hf
    refine Or.inr ⟨⟨fmode.trans lmode, frd.trans lrd, fend.trans lend, ec, wf, fun _ => ?_, fun _ x => ?_, fun x => ?_⟩,
      fun hle => hf ▸ finishInsert_no_panic _ _ _ _ ?_⟩
    · rw [frecvd, lrecvd]; exact hrw
    · rw [frecvd, lrecvd]; exact hrm x
    · rw [e5 x, hu, if_pos rfl]
      exact or_congr_right (and_congr_right fun h1 => and_congr_right fun h2 =>
        not_congr ((hdm x).trans (and_iff_left ⟨h1, h2⟩)))
    · rw [lrd, lend]; exact Nat.le_trans hle (Nat.le_max_left _ _)

theorem insert_no_panic (s : Asm) (hw : WF s.cov) (hwr : s.unordered = true → WF s.recvd) (hle : s.bytesRead ≤ s.end_)
    (off : Nat) (bytes : Bytes) (alloc : Nat) (tm : Bool) (h1 : bytes.length ≤ alloc) (h2 : off + bytes.length < 2^64) :
    (insert s off bytes alloc tm).2 ≠ .panic :=
  ((insert_spec s off bytes alloc tm hw hwr).resolve_left
    fun hp => hp.1.elim (Nat.not_lt.mpr h1) (Nat.not_le.mpr h2)).2 hle

theorem step_insert_spec {s s' : Sys} {off : Nat} {bytes : Bytes} {alloc : Nat} {tm : Bool}
    (h : step s (.insert off bytes alloc tm) = some s') (hw : WF s.a.cov) (hwr : s.a.unordered = true → WF s.a.recvd) :
    ∃ a', Inserted s.a a' off bytes ∧
      s' = { s with a := a', ins := if s.a.unordered then s.ins else (off, off + bytes.length) :: s.ins } := by
  obtain ⟨hok, e⟩ := step_insert h
  refine ⟨_, ((insert_spec s.a off bytes alloc tm hw hwr).resolve_left fun hp => ?_).1, e⟩
  rw [hp.2] at hok; rcases hok with h | h <;> cases h

theorem ensure_mode (a : Asm) (ordered : Bool) (h : (ensureOrdering a ordered).2 = true) :
    (ensureOrdering a ordered).1.unordered = !ordered := by
  revert h
  unfold ensureOrdering
  cases ordered <;> cases hu : a.unordered <;> simp [hu]

theorem ensure_data (a : Asm) (ordered : Bool) : (ensureOrdering a ordered).1.data = a.data := by
  unfold ensureOrdering
  cases ordered <;> cases a.unordered <;> rfl

theorem ensure_end (a : Asm) (ordered : Bool) : (ensureOrdering a ordered).1.end_ = a.end_ := by
  unfold ensureOrdering
  cases ordered <;> cases a.unordered <;> simp

theorem ensure_cases (a : Asm) (ordered : Bool) :
    (ensureOrdering a ordered).1 = a ∨ (ordered = false ∧ a.unordered = false) := by
  unfold ensureOrdering
  cases ordered <;> cases a.unordered <;> simp

/-- entering unordered mode: only offsets at or after the read index stay buffered (`defragment`
    starts at `bytes_read`), `recvd` = everything read so far plus everything still buffered -/
theorem ensure_switch (a : Asm) (hu : a.unordered = false) :
    ∃ r, WF r ∧ (∀ x, mem x r ↔ x < a.bytesRead ∨ mem x (clipFrom a.cov a.bytesRead)) ∧
      (ensureOrdering a false).1 = { a with unordered := true, cov := clipFrom a.cov a.bytesRead, recvd := r } := by
  obtain ⟨hf1, hf2⟩ := fold_insert (clipFrom a.cov a.bytesRead) (RangeSet.insert [] 0 a.bytesRead).1
    (insert_WF [] 0 a.bytesRead WF_nil)
  refine ⟨_, hf1, fun x => ?_, by unfold ensureOrdering; rw [hu]; rfl⟩
  rw [hf2 x, insert_mem [] 0 a.bytesRead x WF_nil]
  exact or_congr_left ⟨fun h => (h.resolve_left (mem_nil x)).2, fun h => Or.inr ⟨Nat.zero_le _, h⟩⟩

/-- the three outcomes of `read`: the observed choice is refused; nothing is returned; or the observed chunk is
    returned and the coverage loses what lies below the new read index (ordered) or the chunk (unordered) -/
theorem read_cases (a : Asm) (max : Nat) (ordered : Bool) (obs : Obs) :
    read a max ordered obs = (a, .invalid) ∨
    (read a max ordered obs = (a, .none) ∧ if ordered then ¬ mem a.bytesRead a.cov else a.cov = []) ∨
    ∃ off len bytes, readBytes a.data off len = some bytes ∧ len ≤ max ∧
      covers a.cov off (off + len) = true ∧ (ordered = true → off = a.bytesRead) ∧
      read a max ordered obs =
        ({ a with cov := if ordered then clipFrom a.cov (a.bytesRead + len) else removeRange a.cov off (off + len),
                  bytesRead := a.bytesRead + len }, .chunk off bytes) := by
  have guard : ∀ {len : Nat} {c : Bool}, ¬ (len > max ∨ (len = 0 ∧ max ≠ 0) ∨ (!c) = true) → len ≤ max ∧ c = true :=
    fun {len c} h => ⟨Nat.le_of_not_gt (fun hh => h (Or.inl hh)),
      by cases c; exact absurd (Or.inr (Or.inr rfl)) h; rfl⟩
  fun_cases read a max ordered obs with
  | case1 | case4 | case5 | case6 | case7 => exact Or.inl rfl
  | case2 ho hc =>
    exact Or.inr (Or.inl ⟨rfl, by rw [if_pos ho]; exact not_covers_self _ _ ((Bool.not_eq_true _).mp hc)⟩)
  | case3 ho hc => exact Or.inr (Or.inl ⟨rfl, by rw [if_neg ho]; exact List.isEmpty_iff.mp hc⟩)
  | case8 off len hv bytes hrb ho hoff =>
    refine Or.inr (Or.inr ⟨off, len, bytes, hrb, (guard hv).1, (guard hv).2, fun _ => Decidable.not_not.mp hoff, ?_⟩)
    rw [if_pos ho]
  | case9 off len hv bytes hrb ho =>
    refine Or.inr (Or.inr ⟨off, len, bytes, hrb, (guard hv).1, (guard hv).2, fun h => absurd h ho, ?_⟩)
    rw [if_neg ho]

theorem read_none {a a2 : Asm} {max : Nat} {ordered : Bool} {obs : Obs}
    (h : read a max ordered obs = (a2, .none)) :
    a2 = a ∧ if ordered then ¬ mem a.bytesRead a.cov else a.cov = [] := by
  rcases read_cases a max ordered obs with e | ⟨e, hc⟩ | ⟨_, _, _, _, _, _, _, e⟩
  · rw [e] at h; cases h
  · rw [e] at h; cases h; exact ⟨rfl, hc⟩
  · rw [e] at h; cases h

theorem read_chunk (g : Nat → Nat) {a a2 : Asm} {max : Nat} {ordered : Bool} {obs : Obs} {off : Nat}
    {bytes : Bytes} (h : read a max ordered obs = (a2, .chunk off bytes)) (hc : Cons g a.data) :
    a2 = { a with cov := if ordered then clipFrom a.cov (a.bytesRead + bytes.length)
                         else removeRange a.cov off (off + bytes.length),
                  bytesRead := a.bytesRead + bytes.length } ∧
    bytes = stream g off bytes.length ∧ bytes.length ≤ max ∧
    (∀ x, off ≤ x → x < off + bytes.length → mem x a.cov) ∧ (ordered = true → off = a.bytesRead) := by
  rcases read_cases a max ordered obs with e | ⟨e, _⟩ | ⟨o, len, bs, hrb, hmax, hcv, hoff, e⟩
  · rw [e] at h; cases h
  · rw [e] at h; cases h
  · rw [e] at h
    have hbs := readBytes_Cons g a.data hc len o bs hrb
    have hlen : bs.length = len := by rw [hbs, stream_length]
    subst hlen
    cases h
    exact ⟨rfl, hbs, hmax, covers_mem a.cov _ _ hcv, hoff⟩

theorem read_end (a : Asm) (max : Nat) (ordered : Bool) (obs : Obs) : (read a max ordered obs).1.end_ = a.end_ := by
  rcases read_cases a max ordered obs with e | ⟨e, _⟩ | ⟨_, _, _, _, _, _, _, e⟩ <;> rw [e]

theorem step_read {s s' : Sys} {max : Nat} {ordered : Bool} {obs : Obs}
    (h : step s (.read max ordered obs) = some s') :
    s' = { s with a := (ensureOrdering s.a ordered).1 } ∨
    ((ensureOrdering s.a ordered).2 = true ∧ ∃ a2 off bytes,
      read (ensureOrdering s.a ordered).1 max ordered obs = (a2, .chunk off bytes) ∧
      s' = { s with a := a2, out := if ordered then s.out ++ bytes else s.out,
                    chunks := (ordered, off, bytes) :: s.chunks }) := by
  simp only [step] at h
  split at h
  · rename_i a1 he; cases h; left; rw [he]
  · rename_i a1 he
    split at h
    · rename_i a2 hr; cases h; left; rw [he, (read_none hr).1]
    · rename_i a2 off bytes hr; cases h; right; rw [he]; exact ⟨rfl, a2, off, bytes, hr, rfl⟩
    · cases h

structure InvO (g : Nat → Nat) (s : Sys) : Prop where
  cons : Cons g s.a.data
  wfc : WF s.a.cov
  content : ∀ c ∈ s.chunks, c.2.2 = stream g c.2.1 c.2.2.length
  out_eq : s.out = stream g 0 s.out.length
  out_len : s.a.unordered = false → s.out.length = s.a.bytesRead
  noloss : s.a.unordered = false → ∀ x, mem x s.ins → s.a.bytesRead ≤ x → mem x s.a.cov

theorem invO_init (g : Nat → Nat) : InvO g Sys.init :=
  ⟨fun c hc => (nomatch hc), WF_nil, fun c hc => (nomatch hc), rfl, fun _ => rfl,
   fun _ x hx => absurd hx (mem_nil x)⟩

/-- ranges handed to the application so far -/
def delivered (s : Sys) : List (Nat × Nat) := s.chunks.map rangeOf

structure InvX (s : Sys) : Prop where
  px : (delivered s).Pairwise disj
  ord : s.a.unordered = false → ∀ x, mem x (delivered s) → x < s.a.bytesRead
  wfr : s.a.unordered = true → WF s.a.recvd
  dr : s.a.unordered = true → ∀ x, mem x (delivered s) → mem x s.a.recvd
  cr : s.a.unordered = true → ∀ x, mem x s.a.cov → mem x s.a.recvd
  cd : s.a.unordered = true → ∀ x, mem x s.a.cov → ¬ mem x (delivered s)

theorem invX_init : InvX Sys.init :=
  ⟨List.Pairwise.nil, fun _ x hx => absurd hx (mem_nil x), fun h => (nomatch h), fun h => (nomatch h),
   fun h => (nomatch h), fun h => (nomatch h)⟩

/-! ### `bytes_read ≤ end`: the subtraction `self.end - self.bytes_read` in `insert` cannot underflow -/

def lenSum (l : List (Nat × Nat)) : Nat := (l.map (fun r => r.2 - r.1)).sum

def inR (r : Nat × Nat) (x : Nat) : Bool := decide (r.1 ≤ x) && decide (x < r.2)

def inL (l : List (Nat × Nat)) (x : Nat) : Bool := l.any (fun r => inR r x)

theorem inR_iff (r : Nat × Nat) (x : Nat) : inR r x = true ↔ r.1 ≤ x ∧ x < r.2 := by
  simp only [inR, Bool.and_eq_true, decide_eq_true_eq]

theorem count_range (r : Nat × Nat) (N : Nat) : (List.range N).countP (inR r) = min r.2 N - r.1 := by
  induction N with
  | zero => rw [Nat.min_zero, Nat.zero_sub]; rfl
  | succ N ih =>
    rw [List.range_succ, List.countP_append, ih, List.countP_singleton]
    rcases Nat.lt_or_ge N r.2 with h | h
    · rw [Nat.min_eq_right (Nat.le_of_lt h), Nat.min_eq_right h]
      by_cases h1 : r.1 ≤ N
      · rw [if_pos ((inR_iff r N).mpr ⟨h1, h⟩)]; exact (Nat.succ_sub h1).symm
      · rw [if_neg (fun hc => h1 ((inR_iff r N).mp hc).1), Nat.sub_eq_zero_of_le (Nat.le_of_not_le h1),
          Nat.sub_eq_zero_of_le (Nat.lt_of_not_le h1)]
    · rw [Nat.min_eq_left h, Nat.min_eq_left (Nat.le_succ_of_le h),
        if_neg (fun hc => Nat.not_lt.mpr h ((inR_iff r N).mp hc).2)]; rfl

theorem countP_or (l : List Nat) (p q : Nat → Bool) (h : ∀ x ∈ l, ¬ (p x = true ∧ q x = true)) :
    l.countP (fun x => p x || q x) = l.countP p + l.countP q := by
  induction l with
  | nil => rfl
  | cons a t ih =>
    rw [List.countP_cons, List.countP_cons, List.countP_cons, ih (fun x hx => h x (List.mem_cons_of_mem _ hx))]
    by_cases hp : p a = true
    · have hq : q a = false := Bool.eq_false_iff.mpr (fun hq => h a List.mem_cons_self ⟨hp, hq⟩)
      rw [hp, hq]; exact Nat.add_right_comm _ _ 1
    · rw [Bool.eq_false_iff.mpr hp, Bool.false_or]; exact (Nat.add_assoc _ _ _)

/-- pairwise disjoint ranges within `0 .. N` cover as many points of `0 .. N` as their lengths add up to -/
theorem lenSum_eq_count (l : List (Nat × Nat)) (N : Nat) (hd : l.Pairwise disj)
    (hb : ∀ r ∈ l, r.1 < r.2 → r.2 ≤ N) : lenSum l = (List.range N).countP (inL l) := by
  induction l with
  | nil => exact (List.countP_eq_zero.mpr (fun x _ (h : inL [] x = true) => Bool.false_ne_true h)).symm
  | cons r t ih =>
    obtain ⟨hdr, hdt⟩ := List.pairwise_cons.mp hd
    have hlen : (List.range N).countP (inR r) = r.2 - r.1 := by
      rw [count_range]
      by_cases h : r.1 < r.2
      · rw [Nat.min_eq_left (hb r List.mem_cons_self h)]
      · rw [Nat.sub_eq_zero_of_le (Nat.le_trans (Nat.min_le_left _ _) (Nat.le_of_not_lt h)),
          Nat.sub_eq_zero_of_le (Nat.le_of_not_lt h)]
    show (r.2 - r.1) + lenSum t = (List.range N).countP (fun x => inR r x || inL t x)
    rw [countP_or _ _ _ ?_, hlen, ih hdt (fun q hq => hb q (List.mem_cons_of_mem _ hq))]
    intro x _ ⟨hx, hxt⟩
    obtain ⟨q, hq, hxq⟩ := List.any_eq_true.mp hxt
    rw [inR_iff] at hx hxq
    exact hdr q hq x ⟨hx.1, hx.2, hxq.1, hxq.2⟩

theorem lenSum_le (l : List (Nat × Nat)) (N : Nat) (hd : l.Pairwise disj)
    (hb : ∀ r ∈ l, r.1 < r.2 → r.2 ≤ N) : lenSum l ≤ N := by
  rw [lenSum_eq_count l N hd hb]
  exact Nat.le_trans List.countP_le_length (Nat.le_of_eq List.length_range)

theorem lenSum_cons (a n : Nat) (l : List (Nat × Nat)) : lenSum ((a, a + n) :: l) = lenSum l + n := by
  show a + n - a + lenSum l = _
  rw [Nat.add_sub_cancel_left, Nat.add_comm]

theorem cover_of_full (l : List (Nat × Nat)) (N : Nat) (hd : l.Pairwise disj)
    (hb : ∀ r ∈ l, r.1 < r.2 → r.2 ≤ N) (hs : lenSum l = N) (x : Nat) (hx : x < N) : mem x l := by
  apply Classical.byContradiction
  intro hn
  -- otherwise `[x, x+1)` could be added to the list, making the sum exceed `N`
  have hd' : ((x, x + 1) :: l).Pairwise disj :=
    List.pairwise_cons.mpr ⟨fun q hq y hy => hn ⟨q, hq, by simp only at hy; omega⟩, hd⟩
  have := lenSum_le _ N hd' fun r hr hlt =>
    (List.mem_cons.mp hr).elim (fun e => e ▸ hx) (fun hr => hb r hr hlt)
  rw [lenSum_cons, hs] at this
  exact Nat.not_succ_le_self N this

structure InvB (s : Sys) : Prop where
  sumEq : s.a.bytesRead = lenSum (delivered s)
  covB : ∀ x, mem x s.a.cov → x < s.a.end_
  delB : ∀ r ∈ delivered s, r.1 < r.2 → r.2 ≤ s.a.end_

theorem invB_init : InvB Sys.init :=
  ⟨rfl, fun x hx => absurd hx (mem_nil x), fun r hr => (nomatch hr)⟩

/-- `O`: content, and the output of ordered reads; `X`: no offset handed out twice; `B`: `bytes_read ≤ end` -/
structure Inv (g : Nat → Nat) (s : Sys) : Prop where
  O : InvO g s
  X : InvX s
  B : InvB s

theorem ensure_inv {g : Nat → Nat} {s : Sys} (h : Inv g s) (ordered : Bool) :
    Inv g { s with a := (ensureOrdering s.a ordered).1 } := by
  obtain ⟨ho, hx, hb⟩ := h
  rcases ensure_cases s.a ordered with e | ⟨rfl, hu⟩
  · rw [e]; exact ⟨ho, hx, hb⟩
  · obtain ⟨r, hr, hm, e⟩ := ensure_switch s.a hu
    rw [e]
    have hclip : ∀ x, mem x (clipFrom s.a.cov s.a.bytesRead) → mem x s.a.cov ∧ s.a.bytesRead ≤ x :=
      fun x => (clipFrom_mem _ _ x).mp
    exact ⟨⟨ho.cons, (clipFrom_from _ _ 0 ho.wfc.from).wf, ho.content, ho.out_eq, fun hc => (nomatch hc),
        fun hc => (nomatch hc)⟩,
      ⟨hx.px, fun hc => (nomatch hc), fun _ => hr, fun _ x hd => (hm x).mpr (Or.inl (hx.ord hu x hd)),
        fun _ x hc => (hm x).mpr (Or.inr hc),
        fun _ x hc hd => Nat.lt_irrefl _ (Nat.lt_of_lt_of_le (hx.ord hu x hd) (hclip x hc).2)⟩,
      ⟨hb.sumEq, fun x hc => hb.covB x (hclip x hc).1, hb.delB⟩⟩

theorem step_inv {g : Nat → Nat} {s s' : Sys} {op : Op} (h : Inv g s) (hs : step s op = some s')
    (hop : op.consistent g) : Inv g s' := by
  cases op with
  | insert off bytes alloc tm =>
    obtain ⟨ho, hx, hb⟩ := h
    obtain ⟨a', i, rfl⟩ := step_insert_spec hs ho.wfc hx.wfr
    have hm : a'.unordered = true → s.a.unordered = true := fun hc => i.mode.symm.trans hc
    have hcov : ∀ x, mem x a'.cov → mem x s.a.cov ∨ (off ≤ x ∧ x < off + bytes.length ∧
        if s.a.unordered then ¬ mem x s.a.recvd else s.a.bytesRead ≤ x) := fun x => (i.cov x).mp
    have u3 : s.a.unordered = true → ∀ x, mem x a'.cov →
        mem x s.a.cov ∨ (off ≤ x ∧ x < off + bytes.length ∧ ¬ mem x s.a.recvd) := by
      intro hu x hc
      have := hcov x hc
      rwa [hu, if_pos rfl] at this
    have hle1 : s.a.end_ ≤ a'.end_ := Nat.le_trans (Nat.le_max_left _ _) (Nat.le_of_eq i.end_eq.symm)
    have hle2 : off + bytes.length ≤ a'.end_ := Nat.le_trans (Nat.le_max_right _ _) (Nat.le_of_eq i.end_eq.symm)
    refine ⟨⟨i.cons g ho.cons hop, i.wfc, ho.content, ho.out_eq,
        fun hu => (ho.out_len (i.mode.symm.trans hu)).trans i.rd.symm, fun hu x hi hr => ?_⟩,
      ⟨hx.px, fun hc x hd => Nat.lt_of_lt_of_le (hx.ord (i.mode.symm.trans hc) x hd) (Nat.le_of_eq i.rd.symm),
        fun hc => i.wfr (hm hc),
        fun hc x hd => (i.recvd (hm hc) x).mpr (Or.inl (hx.dr (hm hc) x hd)),
        fun hc x hc' => (i.recvd (hm hc) x).mpr
          ((u3 (hm hc) x hc').imp (hx.cr (hm hc) x) (fun h1 => ⟨h1.1, h1.2.1⟩)),
        fun hc x hc' hd => (u3 (hm hc) x hc').elim (fun h1 => hx.cd (hm hc) x h1 hd)
          (fun h1 => h1.2.2 (hx.dr (hm hc) x hd))⟩,
      ⟨i.rd.trans hb.sumEq, fun x hc => (hcov x hc).elim (fun h1 => Nat.lt_of_lt_of_le (hb.covB x h1) hle1)
          (fun h1 => Nat.lt_of_lt_of_le h1.2.1 hle2),
        fun r hr hlt => Nat.le_trans (hb.delB r hr hlt) hle1⟩⟩
    -- no loss: what arrived at or after the read index is pushed
    have hu' : s.a.unordered = false := i.mode.symm.trans hu
    have hi' : mem x (if s.a.unordered then s.ins else (off, off + bytes.length) :: s.ins) := hi
    have hr' : s.a.bytesRead ≤ x := Nat.le_trans (Nat.le_of_eq i.rd.symm) hr
    rw [hu'] at hi'
    refine (i.cov x).mpr ?_
    rw [hu', if_neg Bool.false_ne_true]
    exact ((mem_cons x _ _).mp hi').elim (fun h1 => Or.inr ⟨h1.1, h1.2, hr'⟩) (fun h1 => Or.inl (ho.noloss hu' x h1 hr'))
  | read max ordered obs =>
    have he := ensure_inv h ordered
    rcases step_read hs with rfl | ⟨hb, a2, off, bytes, hrd, rfl⟩
    · exact he
    have hmode := ensure_mode s.a ordered hb
    generalize (ensureOrdering s.a ordered).1 = a1 at he hrd hmode ⊢
    obtain ⟨eo, ex, eb⟩ := he
    obtain ⟨rfl, hbs, _, hcov, hoff⟩ := read_chunk g hrd eo.cons
    have hcontent : ∀ c ∈ (ordered, off, bytes) :: s.chunks, c.2.2 = stream g c.2.1 c.2.2.length :=
      List.forall_mem_cons.mpr ⟨hbs, eo.content⟩
    have hnew : ∀ x, mem x (rangeOf (ordered, off, bytes) :: delivered s) ↔
        (off ≤ x ∧ x < off + bytes.length) ∨ mem x (delivered s) := fun x => mem_cons x _ _
    -- the chunk lies below `end`, so the new total stays the sum of the lengths and below `end`
    have hB : ∀ {cov'}, (∀ x, mem x cov' → mem x a1.cov) →
        InvB { s with a := { a1 with cov := cov', bytesRead := a1.bytesRead + bytes.length },
                      out := if ordered then s.out ++ bytes else s.out, chunks := (ordered, off, bytes) :: s.chunks } :=
      fun hsub => ⟨(congrArg (· + bytes.length) eb.sumEq).trans (lenSum_cons off bytes.length (delivered s)).symm,
        fun x hc => eb.covB x (hsub x hc), fun r hr hlt => (List.mem_cons.mp hr).elim
          (fun e => by
            subst e
            have hlt' : off < off + bytes.length := hlt
            exact Nat.le_of_pred_lt (eb.covB _ (hcov (off + bytes.length - 1) (Nat.le_pred_of_lt hlt')
              (Nat.sub_one_lt (Nat.ne_of_gt (Nat.lt_of_le_of_lt (Nat.zero_le _) hlt')))))) (fun e => eb.delB r e hlt)⟩
    cases ordered with
    | true =>
      have hol : s.out.length = a1.bytesRead := eo.out_len hmode
      -- everything delivered so far lies below the read index, where the new chunk starts
      have hbr : ∀ x, mem x (delivered s) → x < a1.bytesRead := ex.ord hmode
      have hoff := hoff rfl
      refine ⟨⟨eo.cons, (clipFrom_from _ _ 0 eo.wfc.from).wf, hcontent, ?_, fun _ => ?_, fun _ x hi hr =>
          (clipFrom_mem _ _ x).mpr ⟨eo.noloss hmode x hi (Nat.le_trans (Nat.le_add_right _ _) hr), hr⟩⟩,
        ⟨List.pairwise_cons.mpr ⟨fun q hq x hx =>
            Nat.lt_irrefl _ (Nat.lt_of_lt_of_le (hbr x ⟨q, hq, hx.2.2.1, hx.2.2.2⟩) (hoff ▸ hx.1)), ex.px⟩,
          fun _ x hd => ((hnew x).mp hd).elim (fun h1 => hoff ▸ h1.2)
            (fun h1 => Nat.lt_of_lt_of_le (hbr x h1) (Nat.le_add_right _ _)),
          fun hc => mode_absurd hc hmode, fun hc => mode_absurd hc hmode,
          fun hc => mode_absurd hc hmode, fun hc => mode_absurd hc hmode⟩,
        hB fun x hc => ((clipFrom_mem _ _ x).mp hc).1⟩
      · show s.out ++ bytes = stream g 0 (s.out ++ bytes).length
        rw [List.length_append, ← stream_append g s.out.length bytes.length 0, ← eo.out_eq, Nat.zero_add, hol,
          ← hoff, ← hbs]
      · show (s.out ++ bytes).length = _
        rw [List.length_append, hol]
    | false =>
      have hcov2 : ∀ x, mem x (removeRange a1.cov off (off + bytes.length)) →
          mem x a1.cov ∧ ¬ (off ≤ x ∧ x < off + bytes.length) :=
        fun x => (removeRange_mem _ _ _ x).mp
      exact ⟨⟨eo.cons, (removeRange_from _ _ _ 0 eo.wfc.from).wf, hcontent, eo.out_eq,
          fun hu => mode_absurd hu hmode, fun hu => mode_absurd hu hmode⟩,
        ⟨List.pairwise_cons.mpr ⟨fun q hq x hx =>
            ex.cd hmode x (hcov x hx.1 hx.2.1) ⟨q, hq, hx.2.2.1, hx.2.2.2⟩, ex.px⟩,
          fun hc => mode_absurd hc hmode, fun _ => ex.wfr hmode,
          fun _ x hd => ((hnew x).mp hd).elim (fun h1 => ex.cr hmode x (hcov x h1.1 h1.2)) (ex.dr hmode x),
          fun _ x hc => ex.cr hmode x (hcov2 x hc).1,
          fun _ x hc hd => ((hnew x).mp hd).elim (hcov2 x hc).2 (ex.cd hmode x (hcov2 x hc).1)⟩,
        hB fun x hc => (hcov2 x hc).1⟩
  | ensure ordered => cases hs; exact ensure_inv h ordered
  | clear =>
    cases hs
    obtain ⟨ho, hx, hb⟩ := h
    exact ⟨⟨fun c hc => (nomatch hc), WF_nil, ho.content, ho.out_eq, ho.out_len, fun _ x hi => absurd hi (mem_nil x)⟩,
      ⟨hx.px, hx.ord, hx.wfr, hx.dr, fun _ x hc => absurd hc (mem_nil x), fun _ x hc => absurd hc (mem_nil x)⟩,
      ⟨hb.sumEq, fun x hc => absurd hc (mem_nil x), hb.delB⟩⟩

/-- what a call leaves alone: `end` moves only with an inserted frame, the chunks handed out only grow, the ordered
    output changes only in ordered mode -/
theorem step_frame {g : Nat → Nat} {s s' : Sys} {op : Op} (h : Inv g s) (hs : step s op = some s') :
    (s'.a.end_ = match (generalizing := false) op with
      | .insert off bytes _ _ => max s.a.end_ (off + bytes.length)
      | _ => s.a.end_) ∧
    (∃ l, s'.chunks = l ++ s.chunks) ∧ (s'.out = s.out ∨ s'.a.unordered = false) := by
  cases op with
  | insert off bytes alloc tm =>
    obtain ⟨a', i, rfl⟩ := step_insert_spec hs h.O.wfc h.X.wfr
    exact ⟨i.end_eq, ⟨[], rfl⟩, Or.inl rfl⟩
  | read max ordered obs =>
    have he := ensure_end s.a ordered
    rcases step_read hs with rfl | ⟨hb, a2, off, bytes, hrd, rfl⟩
    · exact ⟨he, ⟨[], rfl⟩, Or.inl rfl⟩
    · obtain ⟨rfl, _⟩ := read_chunk g hrd (ensure_data s.a ordered ▸ h.O.cons)
      refine ⟨he, ⟨[(ordered, off, bytes)], rfl⟩, ?_⟩
      cases ordered with
      | false => exact Or.inl rfl
      | true => exact Or.inr (ensure_mode s.a true hb)
  | ensure ordered => cases hs; exact ⟨ensure_end _ _, ⟨[], rfl⟩, Or.inl rfl⟩
  | clear => cases hs; exact ⟨rfl, ⟨[], rfl⟩, Or.inl rfl⟩

theorem run_inv {g : Nat → Nat} {ops : List Op} {s s' : Sys} (h : Inv g s) (hc : ∀ op ∈ ops, op.consistent g)
    (hr : run s ops = some s') : Inv g s' := by
  fun_induction run s ops with
  | case1 => cases hr; exact h
  | case2 s op ops s1 hs ih =>
    exact ih (step_inv h hs (hc op List.mem_cons_self)) (fun o ho => hc o (List.mem_cons_of_mem _ ho)) hr
  | case3 => cases hr

theorem reach_inv (g : Nat → Nat) (ops : List Op) (s : Sys) (hc : ∀ op ∈ ops, op.consistent g)
    (h : run Sys.init ops = some s) : Inv g s :=
  run_inv ⟨invO_init g, invX_init, invB_init⟩ hc h

/-! ### regression: the call sequences of findings A1, A2 (corpus/asm/A1-*.ops, A2-*.ops) -/

/-- ground stream of the examples -/
def gId : Nat → Nat := fun o => o

/-- A1: `0..10` and the overlapping `2..6` arrive, an ordered read returns `0..10` (the chunk
    `2..6` stays in the heap), then the application switches to unordered reads: nothing is left -/
def formerA1 : List Op :=
  [.insert 0 (stream gId 0 10) 10 false, .insert 2 (stream gId 2 4) 4 false,
   .read 100 true (.chunk 0 10), .read 100 false .none]

/-- A2: unordered mode; an empty frame at 20, data `25..30` (read), then the re-framed
    `15..30`: only `15..25` is new -/
def formerA2 : List Op :=
  [.ensure false, .insert 20 [] 0 false, .insert 25 (stream gId 25 5) 5 false,
   .read 100 false (.chunk 25 5), .insert 15 (stream gId 15 15) 15 false,
   .read 100 false (.chunk 15 10), .read 100 false .none]

theorem formerA1_delivered : (run Sys.init formerA1).map delivered = some [(0, 10)] := by decide

theorem formerA2_delivered : (run Sys.init formerA2).map delivered = some [(15, 25), (25, 30)] := by decide

end QM.Assembler
