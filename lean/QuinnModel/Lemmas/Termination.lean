import QuinnModel.Conn.Termination
import QuinnModel.Spec.Idle
import QuinnModel.Lemmas.Lifecycle
namespace QM.Life

theorem idlePeriod_eq_spec (t pto : Nat) : idlePeriod t pto = Spec.idlePeriod t pto := by
  simp [idlePeriod, Spec.idlePeriod, Gen.idlePtoFactor]

theorem closePeriod_eq_spec (pto : Nat) : closePeriod pto = Spec.closingPeriod pto := by
  simp [closePeriod, Spec.closingPeriod, Gen.closePtoFactor]

/-- a connection that is closed without having been closed by its own application has its reason reported or
    pending -/
def Reported (l : L) : Prop := l.st.isClosed = true → l.localClose = false → 1 ≤ l.lost + b2n l.error

theorem init_reported : Reported init := fun h => by cases h

theorem Reported.of_error {l : L} (he : l.error = true) : Reported l := fun _ _ => by
  rw [he]; exact Nat.le_add_left 1 _

theorem step_reported (l : L) (e : Ev) (hi : Inv l) (h : Reported l) : Reported (step l e) := by
  have timeout : ∀ now, Reported (step l (.timeout now)) := fun now =>
    -- the close timer is armed only on a closed connection
    timeout_cases l now (fun _ _ => h) (fun _ _ _ => .of_error rfl) fun _ t ht _ _ =>
      h (regime_of_armed hi.openNoCloseTimer ht)
  have polled : l.error = true → Reported { l with error := false, lost := l.lost + 1 } :=
    fun _ _ _ => Nat.le_add_left 1 _
  cases hc : l.st.isClosed with
  | false =>
    rw [step_open hc]
    cases e with
    | close now p => exact fun _ hl => by cases hl
    | pktErr k now p sp => cases k <;> exact .of_error rfl
    | peerClose _ _ | peerCloseEarly _ _ => exact .of_error rfl
    | established => exact iteInduction (fun _ => nofun) fun _ => h
    | timeout now => exact timeout now
    | poll => exact iteInduction polled fun _ => h
    | _ => exact h
  | true =>
    rw [step_closed hc]
    cases e with
    | close now p => exact fun _ hl => by cases hl
    | pktErr k now p sp =>
      cases k with
      | toDrained => exact iteInduction (fun _ => .of_error rfl) fun _ => .of_error rfl
      | _ => exact .of_error rfl
    | closeFrameWhileClosed => exact iteInduction (fun _ _ => h hc) fun _ => h
    | timeout now => exact timeout now
    | poll => exact iteInduction polled fun _ => h
    | pollTransmit => exact iteInduction (fun _ => h) fun _ => h
    | _ => exact h

theorem run_reported (evs : List Ev) : ∀ l, Inv l → WD l evs → Reported l → Reported (run l evs) := by
  induction evs with
  | nil => intro l _ _ h; exact h
  | cons e rest ih =>
    intro l hi hw h
    exact ih _ (step_inv l e hi hw.1) hw.2 (step_reported l e hi h)

end QM.Life
