import QuinnModel.Conn.LossTimer
namespace QM.LossTimer

theorem optMin_isSome (a b : Option Nat) (h : a.isSome = true ∨ b.isSome = true) : (optMin a b).isSome = true := by
  cases a <;> cases b <;> simp_all [optMin]

theorem spacePto_isSome (sp : SpaceL) (d : Nat) (h1 : sp.hasInFlight = true) (h2 : sp.lastAckEliciting.isSome = true) :
    (spacePto sp d).isSome = true := by
  cases hl : sp.lastAckEliciting <;> simp_all [spacePto]

theorem ptoTime_isSome_of_covered (s : S) (now : Nat) (h : covered s) : (ptoTime s now).isSome = true := by
  unfold ptoTime
  simp only
  by_cases h0 : s.inFlightAckEliciting = 0
  · simp [h0]
  · simp only [h0, if_false]
    rcases or_assoc.2 h with h01 | ⟨hh, a, b⟩
    · have h01 : (optMin (spacePto s.sp0 (s.ptoBase * backoff s)) (spacePto s.sp1 (s.ptoBase * backoff s))).isSome = true :=
        optMin_isSome _ _ (h01.imp (fun ⟨a, b⟩ => spacePto_isSome _ _ a b) fun ⟨a, b⟩ => spacePto_isSome _ _ a b)
      split
      · split
        · exact h01
        · exact optMin_isSome _ _ (.inl h01)
      · exact h01
    · simp only [a, if_true, hh, Bool.false_eq_true, if_false]
      exact optMin_isSome _ _ (.inr (spacePto_isSome s.sp2 _ a b))

end QM.LossTimer
