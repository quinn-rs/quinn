import QuinnModel.Util
/- Big-endian byte strings: `beVal` reads back what `beBytes` wrote. -/
namespace QM

theorem beBytes_length (n x : Nat) : (beBytes n x).length = n := by
  induction n with
  | zero => rfl
  | succ k ih => simp only [beBytes, List.length_cons, ih]

theorem beVal_foldl (l : Bytes) : ∀ acc, l.foldl (fun a b => a * 256 + b) acc = acc * 256 ^ l.length + beVal l := by
  unfold beVal
  induction l with
  | nil => intro acc; simp
  | cons x xs ih =>
    intro acc
    simp only [List.foldl_cons, List.length_cons]
    rw [ih (acc * 256 + x), ih (0 * 256 + x), Nat.pow_succ]
    simp only [Nat.zero_mul, Nat.zero_add, Nat.add_mul, Nat.mul_assoc, Nat.mul_comm 256]
    omega

theorem beVal_cons (x : Nat) (l : Bytes) : beVal (x :: l) = x * 256 ^ l.length + beVal l := by
  simp only [beVal, List.foldl_cons, Nat.zero_mul, Nat.zero_add]
  exact beVal_foldl l x

theorem beVal_lt (l : Bytes) (h : ∀ b ∈ l, b < 256) : beVal l < 256 ^ l.length := by
  induction l with
  | nil => simp [beVal]
  | cons x xs ih =>
    have hx : x < 256 := h x (by simp)
    have := ih (fun b hb => h b (by simp [hb]))
    have h2 : x * 256 ^ xs.length ≤ 255 * 256 ^ xs.length := Nat.mul_le_mul_right _ (by omega)
    rw [beVal_cons, List.length_cons, Nat.pow_succ]
    omega

theorem beVal_beBytes (n x : Nat) : beVal (beBytes n x) = x % 256 ^ n := by
  induction n with
  | zero => simp [beBytes, beVal, Nat.mod_one]
  | succ k ih =>
    rw [beBytes, beVal_cons, beBytes_length, ih, Nat.pow_succ, Nat.mod_mul, Nat.mul_comm, Nat.add_comm]

theorem beVal_beBytes_of_lt {n x : Nat} (h : x < 256 ^ n) : beVal (beBytes n x) = x := by
  rw [beVal_beBytes, Nat.mod_eq_of_lt h]

end QM
