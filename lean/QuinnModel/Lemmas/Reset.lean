import QuinnModel.Endpoint.Reset
namespace QM.Reset

theorem resetSize_some (inciting draw n : Nat) (h : resetSize inciting draw = some n) :
    Gen.resetTokenSize + Gen.resetMinPaddingLen < inciting ∧
    n = (if inciting - Gen.resetTokenSize - 1 ≤ Gen.resetIdealMinPaddingLen
         then inciting - Gen.resetTokenSize - 1 else draw) + Gen.resetTokenSize := by
  unfold resetSize at h
  split at h
  · cases h
  · split at h
    · exact ⟨by omega, (Option.some.inj h).symm⟩
    · cases h

theorem resetSize_lt_inciting (inciting draw n : Nat)
    (hd : inciting - Gen.resetTokenSize - 1 ≤ Gen.resetIdealMinPaddingLen ∨ draw < inciting - Gen.resetTokenSize - 1)
    (h : resetSize inciting draw = some n) : n < inciting := by
  obtain ⟨hlen, rfl⟩ := resetSize_some inciting draw n h
  split <;> omega

theorem resetSize_none_small (inciting draw : Nat) (h : inciting ≤ Gen.resetTokenSize + Gen.resetMinPaddingLen) :
    resetSize inciting draw = none := by
  cases hr : resetSize inciting draw with
  | none => rfl
  | some n => have := (resetSize_some inciting draw n hr).1; omega

theorem handle_cases {P : St × Option Nat → Prop} (mi : Nat) (s : St) (now inc d : Nat) (quiet : P (s, none))
    (sent : ∀ n, (∀ l, s.last = some l → l + mi ≤ now) → P (⟨some now⟩, some n)) : P (handle mi s now inc d) := by
  fun_cases handle mi s now inc d
  case case2 l hl hc n _ => exact sent n fun l' hl' => by rw [hl] at hl'; cases hl'; omega
  case case4 hl n _ => exact sent n fun l' hl' => by rw [hl] at hl'; cases hl'
  all_goals exact quiet

theorem handle_last (mi : Nat) (s : St) (now inc d : Nat) (n : Nat) (s' : St)
    (h : handle mi s now inc d = (s', some n)) :
    s'.last = some now ∧ (∀ l, s.last = some l → l + mi ≤ now) :=
  handle_cases (P := fun r => r = (s', some n) → _) mi s now inc d nofun
    (fun _ hg h => ⟨by rw [← (Prod.mk.inj h).1], hg⟩) h

theorem handle_quiet_state (mi : Nat) (s : St) (now inc d : Nat) (s' : St)
    (h : handle mi s now inc d = (s', none)) : s' = s :=
  handle_cases (P := fun r => r = (s', none) → s' = s) mi s now inc d (fun h => (Prod.mk.inj h).1.symm)
    (fun _ _ h => nomatch (Prod.mk.inj h).2) h

/-- times are non-decreasing along the history, starting from the given one -/
def Mono : Nat → List (Nat × Nat × Nat) → Prop
  | _, [] => True
  | t, (now, _, _) :: rest => t ≤ now ∧ Mono now rest

theorem sentTimes_spaced (mi : Nat) (h : List (Nat × Nat × Nat)) (s : St) (t0 : Nat) (hm : Mono t0 h)
    (hl : ∀ l, s.last = some l → l ≤ t0) :
    (∀ l, s.last = some l → ∀ t ∈ sentTimes mi s h, l + mi ≤ t) ∧
    List.Pairwise (fun a b => a + mi ≤ b) (sentTimes mi s h) := by
  fun_induction sentTimes mi s h generalizing t0
  case case1 => exact ⟨fun _ _ _ => nofun, .nil⟩
  case case2 s now inc d rest s' n hh ih =>
    obtain ⟨hlast, hgap⟩ := handle_last mi s now inc d n s' hh
    have ⟨ih1, ih2⟩ := ih now hm.2 fun l hl' => by rw [hlast] at hl'; cases hl'; exact Nat.le_refl _
    refine ⟨fun l hl' t htm => ?_, List.pairwise_cons.mpr ⟨fun t htm => ih1 now hlast t htm, ih2⟩⟩
    rcases List.mem_cons.mp htm with rfl | htm
    · exact hgap l hl'
    · have := ih1 now hlast t htm
      have := hgap l hl'
      omega
  case case3 s now inc d rest s' hh ih =>
    rw [handle_quiet_state mi s now inc d s' hh] at ih ⊢
    exact ih now hm.2 fun l hl' => Nat.le_trans (hl l hl') hm.1

end QM.Reset
