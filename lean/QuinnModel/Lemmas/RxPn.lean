import QuinnModel.Conn.RxPn
import QuinnModel.Lemmas.PacketNumber
/- proofs for Props/C03_total.lean: the packet number a received packet is processed under -/
namespace QM.RxPn
open QM QM.PacketNumber

theorem rxNumber_spec (b : Nat) (hb : Gen.rxPnBound = some b) (p : Nat × Nat) (rx : Nat) (hp : wire p) (hrx : rx < 2 ^ 62) :
    rxNumber p rx = .drop ∨ ∃ n, rxNumber p rx = .accept n ∧ n ≤ b := by
  obtain ⟨n, hn⟩ := expandW_no_overflow (winOf p.1) p.2 (rx + 1) hp.2.2 (by have := winOf_le p.1; omega)
  rw [rxNumber, if_neg (by omega)]
  simp only [expand, hn, hb]
  by_cases h : n > b
  · left; simp [h]
  · right; exact ⟨n, by simp [h], by omega⟩

/-- over every history of received packets: no panic, and the largest processed number and every number a
    packet is processed under stay within the bound -/
theorem history_bounded (b : Nat) (hb : Gen.rxPnBound = some b) (hb62 : b < 2 ^ 62) :
    ∀ (ps : List (Nat × Nat)) (rx : Nat), rx ≤ b → (∀ p ∈ ps, wire p) →
      (∃ rx', run rx ps = some rx' ∧ rx' ≤ b) ∧ ∀ n ∈ accepted rx ps, n ≤ b
  | [], rx, hrx, _ => ⟨⟨rx, rfl, hrx⟩, fun _ h => nomatch h⟩
  | p :: ps, rx, hrx, hw => by
    have hw' : ∀ q ∈ ps, wire q := fun q hq => hw q (List.mem_cons_of_mem _ hq)
    rcases rxNumber_spec b hb p rx (hw p List.mem_cons_self) (by omega) with h | ⟨m, h, hm⟩
    · simp only [run, accepted, h]
      exact history_bounded b hb hb62 ps _ hrx hw'
    · have ih := history_bounded b hb hb62 ps (advance rx (.accept m))
        (show (if m ≥ rx then m else rx) ≤ b by split <;> omega) hw'
      simp only [run, accepted, h, List.mem_cons]
      exact ⟨ih.1, fun n hn => hn.elim (fun e => e ▸ hm) (ih.2 n)⟩

end QM.RxPn
