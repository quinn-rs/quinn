import QuinnModel.Lemmas.StreamsBasic
/-
The receiver view: the connection-level receive accounting (`RCore`) and every instantiated receiving half (`rv`).
What the receive side proves (C06) is stated on it.
-/
namespace QM.Streams

structure RCore where
  dataRecvd : Nat
  localMaxData : Nat
  receiveWindow : Nat
  debt : Nat
  srw : Nat
deriving DecidableEq

def State.rcore (s : State) : RCore :=
  ⟨s.dataRecvd, s.localMaxData, s.receiveWindow, s.receiveWindowShrinkDebt, s.streamReceiveWindow⟩

def State.rv (s : State) (id : Nat) : Option Recv :=
  match s.recv.find? id with
  | some (some r) => some r
  | _ => none

structure RView where
  core : RCore
  rv : Nat → Option Recv

def State.rvw (s : State) : RView := ⟨s.rcore, s.rv⟩

theorem rv_of_rvw {s s' : State} (h : s'.rvw = s.rvw) (k : Nat) : s'.rv k = s.rv k :=
  congrFun (congrArg RView.rv h) k

theorem rv_eq_some {s : State} {id : Nat} {r : Recv} : s.rv id = some r ↔ s.recv.find? id = some (some r) := by
  simp only [State.rv]
  split
  · rename_i x hx; simp [hx]
  · rename_i hn
    constructor
    · intro h; contradiction
    · intro h; exact absurd h (hn r)

theorem rv_putRecv {s : State} {id : Nat} {r : Recv} {w : Option Recv} (hx : s.recv.find? id = some w) (k : Nat) :
    (s.putRecv id r).rv k = if k = id then some r else s.rv k := by
  simp only [State.rv, State.putRecv]
  by_cases hk : k = id
  · subst hk; rw [Map.find?_set_self _ _ _ _ hx]; simp
  · rw [Map.find?_set_ne _ _ _ _ hk]; simp [hk]

theorem rv_erase (s : State) (id k : Nat) :
    ({ s with recv := s.recv.erase id } : State).rv k = if k = id then none else s.rv k := by
  simp only [State.rv]
  by_cases hk : k = id
  · subst hk; rw [Map.find?_erase_self]; simp
  · rw [Map.find?_erase_ne _ _ _ hk]; simp [hk]

theorem rv_cons (s : State) (id k : Nat) (r : Recv) :
    ({ s with recv := (id, some r) :: s.recv } : State).rv k = if k = id then some r else s.rv k := by
  simp only [State.rv, Map.find?_cons]
  by_cases hk : id = k
  · subst hk; simp
  · have : ¬ k = id := fun h => hk h.symm
    simp [hk, this]

end QM.Streams
