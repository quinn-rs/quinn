import QuinnModel.Conn.ResetTokens
import QuinnModel.Lemmas.CidQueue
/-! Proofs for Props/C04_reset.lean: every token a connection honours was issued by the peer in THIS connection. -/
namespace QM.ResetTokens
open QM QM.CidQueue

def BufToks (b : Buf) (P : Bytes → Prop) : Prop :=
  ∀ j e t, get b j = some e → e.token = some t → P t

/-- `P` is, for the property, "the peer issued it in this connection" -/
def Inv (s : St) (P : Bytes → Prop) : Prop :=
  (∀ t, s.tok = some t → P t) ∧ BufToks s.q.buffer P

theorem new_bufToks (cid : Bytes) (P : Bytes → Prop) : BufToks (CidQueue.new cid).buffer P := by
  intro j e t h1 h2
  unfold CidQueue.new CidQueue.get at h1
  rw [Vector.getElem_set] at h1
  split at h1
  · cases h1; cases h2
  · simp at h1

theorem init_inv (server : Bool) (c : Bytes) (P : Bytes → Prop) : Inv (init server c) P :=
  ⟨fun _ h => (nomatch h), new_bufToks c P⟩

theorem insert_bufToks (q : CidQueue) (seq rpt : Nat) (cid tok : Bytes) (P : Bytes → Prop) (h : BufToks q.buffer P)
    (ht : P tok) : BufToks (insert q seq rpt cid tok).1.buffer P := by
  have hrec : BufToks (recorded q seq rpt cid tok) P := by
    intro j e t h1 h2
    rcases recorded_some q seq rpt cid tok j e h1 with rfl | hq
    · cases h2; exact ht
    · exact h j e t hq h2
  have hc := insert_cases q seq rpt cid tok
  generalize insert q seq rpt cid tok = r at hc ⊢
  cases hc with
  | same => exact hrec
  | retired => exact hrec
  | _ => exact h

theorem next_bufToks (q : CidQueue) (P : Bytes → Prop) (h : BufToks q.buffer P) : BufToks (next q).1.buffer P := by
  have hc := next_cases q
  generalize next q = r at hc ⊢
  cases hc with
  | ok =>
    intro j e t h1 h2
    have h1 : get (put q.buffer q.cursor none) j = some e := h1
    rw [get_put] at h1
    split at h1
    · cases h1
    · exact h j e t h1 h2
  | _ => exact h

theorem updateRemCid_inv (s : St) (P : Bytes → Prop) (h : Inv s P) : Inv (updateRemCid s) P := by
  have hb := next_bufToks s.q P h.2
  fun_cases updateRemCid s
  next q' t a z hn =>
    obtain ⟨e, he, ht⟩ := next_token s.q q' t a z hn
    rw [hn] at hb
    exact ⟨fun t' ht' => by cases ht'; exact hb q'.cursor e t he ht, hb⟩
  · exact h
  · exact h

theorem onNewCid_inv (s : St) (seq rpt : Nat) (cid tok : Bytes) (P : Bytes → Prop) (h : Inv s P) (ht : P tok) :
    Inv (onNewCid s seq rpt cid tok) P := by
  -- both accepting arms end with the switch a server makes off the initial CID
  have fin : ∀ s1, Inv s1 P → Inv (if s1.server && activeSeq s1.q == 0 then updateRemCid s1 else s1) P := by
    intro s1 h1
    split
    · exact updateRemCid_inv _ _ h1
    · exact h1
  unfold onNewCid
  split
  · exact h
  · have hb := insert_bufToks s.q seq rpt cid tok P h.2 ht
    cases hi : insert s.q seq rpt cid tok with
    | mk q' o =>
      rw [hi] at hb
      cases o with
      | none => exact fin _ ⟨h.1, hb⟩
      | retired a z t =>
        obtain ⟨e, he, hte⟩ := insert_token s.q seq rpt cid tok q' a z t hi
        exact fin _ ⟨fun t' ht' => by cases ht'; exact hb q'.cursor e t he hte, hb⟩
      | _ => exact h

theorem run_inv : ∀ (es : List Ev) (s : St) (P : Bytes → Prop), Gen.init0rttClearsResetToken = true → Inv s P →
    (∀ t ∈ issued es, P t) → Inv (run s es) P := by
  intro es
  induction es with
  | nil => exact fun s P _ h _ => h
  | cons e es ih =>
    intro s P hg h hP
    unfold run
    cases e with
    | resume r =>
      refine ih _ P hg ?_ hP
      show Inv (init0rtt s r) P
      unfold init0rtt init0rttWith
      rw [hg]
      split
      · exact h
      · exact ⟨fun _ ht => (nomatch ht), h.2⟩
    | params t =>
      cases t with
      | none => exact ih _ P hg ⟨fun _ ht => (nomatch ht), h.2⟩ hP
      | some t =>
        exact ih _ P hg ⟨fun t' ht' => by cases ht'; exact hP t List.mem_cons_self, h.2⟩
          (fun x hx => hP x (List.mem_cons_of_mem _ hx))
    | newCid seq rpt cid tok =>
      exact ih _ P hg (onNewCid_inv s seq rpt cid tok P h (hP tok List.mem_cons_self))
        (fun x hx => hP x (List.mem_cons_of_mem _ hx))
    | switch => exact ih _ P hg (updateRemCid_inv s P h) hP

theorem accepts_iff (s : St) (len : Nat) (t : Bytes) :
    accepts s len t = true ↔ len ≥ Gen.resetTokenSize + Gen.resetMinLenExtra ∧ s.tok = some t := by
  simp [accepts]

end QM.ResetTokens
