import QuinnModel.Lemmas.StreamsSenderView
/-
C05 — the sender never exceeds the limits its peer advertised: ghost functions over histories,
the invariant, its preservation by the operations that neither convey credit nor restart the state
(`frame_step`) and by those that convey or consume credit (`inv_*`); the restarts are in StreamsC05Main.
-/
namespace QM.Streams

/-- the stream-data limit `p` conveys for a sending half on `id` (as seen by endpoint `side`) -/
def Params.limitFor (p : Params) (side : Side) (id : Nat) : Nat :=
  match sidDir id with
  | .uni => p.initialMaxStreamDataUni
  | .bi => if side != sidInitiator id then p.initialMaxStreamDataBidiLocal else p.initialMaxStreamDataBidiRemote

def Params.maxStreams (p : Params) : Dir → Nat
  | .bi => p.initialMaxStreamsBidi
  | .uni => p.initialMaxStreamsUni

/-- largest connection data limit conveyed so far (transport parameters and MAX_DATA frames);
    like the other ghosts it restarts when 0-RTT is rejected: what was remembered or conveyed before
    is void -/
def peerMaxData : Hist → Nat
  | [] => 0
  | (.rejected, _) :: _ => 0
  | (.params p, _) :: h => Nat.max p.initialMaxData (peerMaxData h)
  | (.maxData n, _) :: h => Nat.max n (peerMaxData h)
  | _ :: h => peerMaxData h

/-- largest stream-count limit conveyed so far for direction `d` -/
def peerMaxStreams (d : Dir) : Hist → Nat
  | [] => 0
  | (.rejected, _) :: _ => 0
  | (.params p, _) :: h => Nat.max (p.maxStreams d) (peerMaxStreams d h)
  | (.maxStreams d' n, .ok) :: h => if d' = d then Nat.max n (peerMaxStreams d h) else peerMaxStreams d h
  | _ :: h => peerMaxStreams d h

/-- largest stream data limit conveyed so far for the sending half of stream `id` -/
def peerStreamLimit (side : Side) (id : Nat) : Hist → Nat
  | [] => 0
  | (.rejected, _) :: _ => 0
  | (.params p, _) :: h => Nat.max (p.limitFor side id) (peerStreamLimit side id h)
  | (.maxStreamData id' n, .ok) :: h =>
      if id' = id then Nat.max n (peerStreamLimit side id h) else peerStreamLimit side id h
  | _ :: h => peerStreamLimit side id h

/-- total number of bytes `write` accepted so far = sum over all streams of the highest offset -/
def totalAccepted : Hist → Nat
  | [] => 0
  | (.rejected, _) :: _ => 0
  | (.write _ _, .okNat k) :: h => k + totalAccepted h
  | _ :: h => totalAccepted h

/-- bytes `write` accepted so far on stream `id` -/
def acceptedOn (id : Nat) : Hist → Nat
  | [] => 0
  | (.rejected, _) :: _ => 0
  | (.write id' _, .okNat k) :: h => if id' = id then k + acceptedOn id h else acceptedOn id h
  | _ :: h => acceptedOn id h

/-- operations the ghost functions look at -/
def Op.isGhost : Op → Bool
  | .params _ | .maxData _ | .maxStreamData _ _ | .maxStreams _ _ | .write _ _ | .rejected => true
  | _ => false

/-- operations that convey credit or consume it -/
def Op.isCredit (o : Op) : Bool :=
  o.isGhost || (match o with | .open_ _ => true | _ => false)

theorem ghosts_other (o : Op) (out : Out) (h : Hist) (ho : o.isGhost = false) :
    peerMaxData ((o, out) :: h) = peerMaxData h ∧
    (∀ d, peerMaxStreams d ((o, out) :: h) = peerMaxStreams d h) ∧
    (∀ side id, peerStreamLimit side id ((o, out) :: h) = peerStreamLimit side id h) ∧
    totalAccepted ((o, out) :: h) = totalAccepted h := by
  -- `o` is none of the operations a ghost function looks at, so its catch-all equation applies
  have hne : ∀ {o' : Op} {x x' : Out}, o'.isGhost = true → (o, x) = (o', x') → False :=
    fun h' e => by cases e; rw [h'] at ho; cases ho
  exact ⟨peerMaxData.eq_5 _ _ (fun _ => hne rfl) (fun _ _ => hne rfl) (fun _ _ => hne rfl),
    fun d => peerMaxStreams.eq_5 d _ _ (fun _ => hne rfl) (fun _ _ => hne rfl) (fun _ _ => hne rfl),
    fun side id => peerStreamLimit.eq_5 side id _ _ (fun _ => hne rfl) (fun _ _ => hne rfl) (fun _ _ => hne rfl),
    totalAccepted.eq_4 _ _ (fun _ => hne rfl) (fun _ _ _ => hne rfl)⟩

/-- the C05 invariant, on the sender view -/
structure InvV (side : Side) (h : Hist) (v : SView) : Prop where
  side_eq : v.core.side = side
  maxData : v.core.maxData = peerMaxData h
  max : ∀ d, v.core.max.get d = peerMaxStreams d h
  sent : v.core.dataSent = totalAccepted h
  sent_le : v.core.dataSent ≤ v.core.maxData
  next_le : ∀ d, v.core.next.get d ≤ v.core.max.get d
  stream : ∀ id c, v.cv id = some c → c.1 ≤ c.2 ∧ c.2 ≤ peerStreamLimit side id h
  init_le : ∀ id, v.core.maxSendData id ≤ peerStreamLimit side id h

theorem InvV.of_frame {side : Side} {h : Hist} {v v' : SView} (i : InvV side h v) (f : FrameV v v') :
    InvV side h v' := by
  obtain ⟨c', cv'⟩ := v'
  obtain ⟨rfl, hr⟩ : c' = v.core ∧ _ := ⟨f.core, f.rel⟩
  exact ⟨i.side_eq, i.maxData, i.max, i.sent, i.sent_le, i.next_le,
    fun id c hc => (hr id c hc).elim (i.stream id c) fun hh => hh ▸ ⟨Nat.zero_le _, i.init_le id⟩, i.init_le⟩

theorem InvV.of_ghosts {side : Side} {h h' : Hist} {v : SView} (i : InvV side h v)
    (g1 : peerMaxData h' = peerMaxData h) (g2 : ∀ d, peerMaxStreams d h' = peerMaxStreams d h)
    (g3 : ∀ id, peerStreamLimit side id h ≤ peerStreamLimit side id h')
    (g4 : totalAccepted h' = totalAccepted h) : InvV side h' v :=
  ⟨i.side_eq, g1 ▸ i.maxData, fun d => g2 d ▸ i.max d, g4 ▸ i.sent, i.sent_le, i.next_le,
   fun id c hc => ⟨(i.stream id c hc).1, Nat.le_trans (i.stream id c hc).2 (g3 id)⟩,
   fun id => Nat.le_trans (i.init_le id) (g3 id)⟩

theorem InvV.raise {side : Side} {h : Hist} {v v' : SView} {id : Nat} (i : InvV side h v) (hcore : v'.core = v.core)
    (hcv : ∀ j c, v'.cv j = some c → v.cv j = some c ∨
      (j = id ∧ ∃ md, v.cv id = some (c.1, md) ∧ md ≤ c.2 ∧ c.2 ≤ peerStreamLimit side id h)) : InvV side h v' := by
  obtain ⟨c', cv'⟩ := v'
  obtain rfl : c' = _ := hcore
  refine ⟨i.side_eq, i.maxData, i.max, i.sent, i.sent_le, i.next_le, fun j c hj => ?_, i.init_le⟩
  rcases hcv j c hj with hh | ⟨rfl, md, hsrc, h1, h2⟩
  · exact i.stream j c hh
  · exact ⟨Nat.le_trans (i.stream j _ hsrc).1 h1, h2⟩

theorem InvV.cons_of_frame {side : Side} {h : Hist} {v v' : SView} (i : InvV side h v) (f : FrameV v v')
    (o : Op) (out : Out) (ho : o.isGhost = false) : InvV side ((o, out) :: h) v' := by
  obtain ⟨g1, g2, g3, g4⟩ := ghosts_other o out h ho
  exact (i.of_frame f).of_ghosts g1 g2 (fun id => Nat.le_of_eq (g3 side id).symm) g4

/-- loss, (re)transmission and acknowledgement consume no credit and instantiate nothing: connection accounting is
    unchanged, and every sending half that is there afterwards was there before, with the same offset and limit -/
theorem retransmit_sub {s s' : State} {o : Op} {out : Out} (h : step s o = some (s', out))
    (ho : (match o with
      | .lost .. | .transmit .. | .ack .. | .rstAck _ | .rtx0 => true
      | _ => false) = true) : Sub s.vw s'.vw := by
  cases Steps.of_step h with
  | lost h1 => exact .of_eq (shuffle_retransmit h1).vw
  | transmit h1 => exact .of_eq (shuffle_writeStreamFrames _ _ _ h1).vw
  | ack h1 => exact sub_receivedAckOf h1
  | rstAck h1 => exact sub_resetAcked h1
  | rtx0 h1 => exact .of_eq (shuffle_retransmitAllFor0rtt h1).vw
  | _ => exact Bool.noConfusion ho

theorem frame_step {s s' : State} {o : Op} {out : Out} (h : step s o = some (s', out))
    (hc : o.isCredit = false) (hr : o.isRestart = false) : FrameV s.vw s'.vw := by
  cases Steps.of_step h with
  | stopped | canSend | canFlow | view => exact .refl _
  | conn | pendMaxData | pendMaxStreamData | pendMaxStreamId | sendWindow => exact .of_eq rfl
  | accept d => exact .of_eq (vw_accept s d)
  | finish id => exact (touch_finish rfl).frame fun _ _ => Send.finish_credit
  | reset h1 => exact (touch_reset h1).frame fun x _ e => e ▸ Send.reset_credit x
  | prio id p => exact (touch_setPriority rfl).frame fun _ _ e => e ▸ rfl
  | stream h1 => exact .of_eq (vw_received h1)
  | rst h1 => exact .of_eq (vw_receivedReset h1)
  | stopSending id code => exact frame_receivedStopSending s id code
  | read h1 => exact .of_eq (vw_read h1)
  | stop h1 => exact .of_eq (vw_stop h1)
  | recvReset h1 => exact .of_eq (vw_recvReceivedReset h1)
  | poll h1 => exact .of_eq (vw_poll h1)
  | ctrl h1 => exact .of_eq (vw_writeControlFrames h1)
  | queueMaxStreamId h1 => exact .of_eq (vw_queueMaxStreamId h1)
  | recvWindow n => exact .of_eq (vw_setReceiveWindow s n)
  | maxConcurrent h1 => exact .of_eq (vw_setMaxConcurrent h1)
  | lost | transmit | ack | rstAck | rtx0 => exact (retransmit_sub h rfl).frame
  | _ => first | exact Bool.noConfusion hc | exact Bool.noConfusion hr

theorem inv_maxData {side : Side} {h : Hist} {s : State} (i : InvV side h s.vw) (n : Nat) (out : Out) :
    InvV side ((.maxData n, out) :: h) (s.receivedMaxData n).vw := by
  refine ⟨i.side_eq, ?_, i.max, i.sent, Nat.le_trans i.sent_le (Nat.le_max_left _ _), i.next_le, i.stream, i.init_le⟩
  show Nat.max s.maxData n = Nat.max n (peerMaxData h)
  rw [← (i.maxData : s.maxData = _)]; exact Nat.max_comm _ _

theorem inv_maxStreams {side : Side} {h : Hist} {s : State} (i : InvV side h s.vw) (d : Dir) (n : Nat) :
    InvV side ((.maxStreams d n, match (s.receivedMaxStreams d n).2 with | none => .ok | some e => .errT e) :: h)
      (s.receivedMaxStreams d n).1.vw := by
  unfold State.receivedMaxStreams
  by_cases h1 : Gen.maxStreamsUnrepresentable n = true
  · -- a refused frame is not an `(.maxStreams _ _, .ok)` entry: no ghost function sees it
    rw [if_pos h1]; exact i.of_ghosts rfl (fun _ => rfl) (fun _ => Nat.le_refl _) rfl
  rw [if_neg h1]
  have hlim : ∀ d', peerMaxStreams d' ((.maxStreams d n, .ok) :: h) =
      if d = d' then Nat.max n (s.max.get d') else s.max.get d' := fun d' => (i.max d').symm ▸ rfl
  by_cases h2 : n > s.max.get d
  · rw [if_pos h2]
    refine ⟨i.side_eq, i.maxData, fun d' => ?_, i.sent, i.sent_le, fun d' => ?_, i.stream, i.init_le⟩
    · show (s.max.set d n).get d' = _
      rw [hlim, Two.get_set]
      split
      · next hd => subst hd; exact (Nat.max_eq_left (Nat.le_of_lt h2)).symm
      · rfl
    · show s.next.get d' ≤ (s.max.set d n).get d'
      rw [Two.get_set]
      split
      · next hd => subst hd; exact Nat.le_trans (i.next_le d) (Nat.le_of_lt h2)
      · exact i.next_le d'
  · rw [if_neg h2]
    refine ⟨i.side_eq, i.maxData, fun d' => ?_, i.sent, i.sent_le, i.next_le, i.stream, i.init_le⟩
    show s.max.get d' = _
    rw [hlim]
    split
    · next hd => subst hd; exact (Nat.max_eq_right (Nat.le_of_not_lt h2)).symm
    · rfl

theorem inv_open {side : Side} {h : Hist} {s s' : State} {d : Dir} {r : Option Nat} (out : Out)
    (i : InvV side h s.vw) (h1 : s.open_ d = some (s', r)) : InvV side ((.open_ d, out) :: h) s'.vw := by
  rcases open_cases h1 with ⟨_, rfl, _⟩ | ⟨_, _, _, rfl⟩ | ⟨_, hlt, _, s2, hins, rfl⟩
  · exact i.cons_of_frame (FrameV.refl _) _ _ rfl
  · exact i.cons_of_frame (.of_eq rfl) _ _ rfl
  · have hv : ({ s2 with sendStreams := s2.sendStreams + 1 } : State).vw =
        ⟨{ s.core with next := s.next.set d (s.next.get d + 1) }, s.cv⟩ :=
      (vw_rest ..).trans (alloc_insert hins).vw
    rw [hv]
    have i := i.of_ghosts (h' := (.open_ d, out) :: h) rfl (fun _ => rfl) (fun _ => Nat.le_refl _) rfl
    refine ⟨i.side_eq, i.maxData, i.max, i.sent, i.sent_le, fun d' => ?_, i.stream, i.init_le⟩
    simp only [Two.get_set]
    split
    · next hd => subst hd; exact hlt
    · exact i.next_le d'

theorem Send.increaseMaxData_credit (x : Send) (n : Nat) :
    ∃ md', (x.increaseMaxData n).1.credit = (x.pending.offset, md') ∧ (md' = x.maxData ∨ (x.maxData < n ∧ md' = n)) := by
  unfold Send.increaseMaxData
  split
  · exact ⟨_, rfl, Or.inl rfl⟩
  · next hh =>
    simp only [Bool.or_eq_true, decide_eq_true_eq, not_or, Nat.not_le] at hh
    exact ⟨_, rfl, Or.inr ⟨hh.1, rfl⟩⟩

theorem inv_maxStreamData {side : Side} {h : Hist} {s s' : State} {id n : Nat} {e : Option TErr}
    (i : InvV side h s.vw) (h1 : s.receivedMaxStreamData id n = some (s', e)) :
    InvV side ((.maxStreamData id n, match (motive := _ → Out) e with | none => .ok | some e => .errT e) :: h) s'.vw := by
  rcases receivedMaxStreamData_cases h1 with ⟨he, rfl⟩ | ⟨rfl, hv⟩ | ⟨rfl, x, s0, hg, hv⟩
  · -- a refused frame is not an `(.maxStreamData _ _, .ok)` entry: no ghost function sees it
    cases e with
    | none => cases he
    | some e' => exact i.of_ghosts rfl (fun _ => rfl) (fun _ => Nat.le_refl _) rfl
  all_goals
    have hlim : ∀ k, peerStreamLimit side k ((.maxStreamData id n, .ok) :: h) =
        if id = k then Nat.max n (peerStreamLimit side k h) else peerStreamLimit side k h := fun _ => rfl
    have hmono : ∀ k, peerStreamLimit side k h ≤ peerStreamLimit side k ((.maxStreamData id n, .ok) :: h) := by
      intro k; rw [hlim]; split
      · exact Nat.le_max_right _ _
      · exact Nat.le_refl _
    rw [hv]
  · exact i.of_ghosts rfl (fun _ => rfl) hmono rfl
  · have hx0 := (getOrInsertSend_spec hg).slot
    have i0 := (i.of_frame (getOrInsertSend_spec hg).frame).of_ghosts (h' := (.maxStreamData id n, .ok) :: h) rfl (fun _ => rfl) hmono rfl
    refine i0.raise (id := id) rfl fun j c hj => ?_
    replace hj : (s0.putSend id (x.increaseMaxData n).1).cv j = some c := hj
    rw [cv_putSend hx0] at hj
    split at hj
    · next hji =>
      subst hji
      obtain ⟨md', hcr, hmd⟩ := Send.increaseMaxData_credit x n
      rw [hcr] at hj
      cases hj
      have hsrc : s0.vw.cv j = some (x.pending.offset, x.maxData) := by simp only [State.vw, State.cv, hx0]; rfl
      refine Or.inr ⟨rfl, x.maxData, hsrc, ?_, ?_⟩
      · rcases hmd with rfl | ⟨hlt, rfl⟩
        · exact Nat.le_refl _
        · exact Nat.le_of_lt hlt
      · rcases hmd with rfl | ⟨_, rfl⟩
        · exact (i0.stream j _ hsrc).2
        · rw [hlim, if_pos rfl]; exact Nat.le_max_left _ _
    · exact Or.inl hj

theorem InvV.accept {side : Side} {h : Hist} {v v' : SView} {id n k off md : Nat} (i : InvV side h v)
    (hsrc : v.cv id = some (off, md))
    (hcore : v'.core = { v.core with dataSent := v.core.dataSent + k })
    (hcv : ∀ j, v'.cv j = if j = id then some (off + k, md) else v.cv j)
    (hk1 : k ≤ md - off) (hk2 : k ≤ v.core.maxData - v.core.dataSent) :
    InvV side ((.write id n, .okNat k) :: h) v' := by
  obtain ⟨c', cv'⟩ := v'
  have hs := i.stream id _ hsrc
  obtain rfl : c' = _ := hcore
  have hsent := i.sent
  have hle := i.sent_le
  refine ⟨i.side_eq, i.maxData, i.max, ?_, ?_, i.next_le, fun j c hj => ?_, i.init_le⟩
  · show v.core.dataSent + k = k + totalAccepted h; omega
  · show v.core.dataSent + k ≤ v.core.maxData; omega
  · rw [hcv j] at hj
    split at hj
    · next hji => subst hji; cases hj; exact ⟨by show off + k ≤ md; omega, hs.2⟩
    · exact i.stream j c hj

theorem inv_write {side : Side} {h : Hist} {s s' : State} {id n : Nat} {r : Except WriteErr Nat}
    (i : InvV side h s.vw) (h1 : s.write id n = some (s', r)) :
    InvV side ((.write id n, match (motive := _ → Out) r with | .ok k => .okNat k | .error e => .errWrite e) :: h) s'.vw := by
  cases r with
  | error e =>
    exact (i.of_frame ((touch_write_err h1).frame fun _ _ e => e ▸ rfl)).of_ghosts rfl (fun _ => rfl)
      (fun _ => Nat.le_refl _) rfl
  | ok k =>
    obtain ⟨x, s0, hg, w⟩ := write_ok h1
    have g := getOrInsertSend_spec hg
    have hc0 : s0.core = s.core := g.frame.core
    have hmd : s0.maxData = s.maxData := congrArg Core.maxData hc0
    have hds : s0.dataSent = s.dataSent := congrArg Core.dataSent hc0
    refine (i.of_frame g.frame).accept (off := x.pending.offset) (md := x.maxData) ?_ w.core w.cv ?_ ?_
    · show s0.cv id = _; simp only [State.cv, g.slot]; rfl
    · rw [w.amount]; exact Nat.le_trans (Nat.min_le_right _ _) (Nat.min_le_right _ _)
    · show k ≤ s0.maxData - s0.dataSent
      rw [w.amount, hmd, hds]
      exact Nat.le_trans (Nat.min_le_right _ _) (Nat.le_trans (Nat.min_le_left _ _) (Nat.min_le_left _ _))

/-- `set_params` instantiates nothing -/
theorem setParams_cv_empty {s : State} (p : Params) (he : ∀ k x, s.send.find? k ≠ some (some x)) (k : Nat) :
    (s.setParams p).cv k = none := by
  simp only [State.cv, State.setParams, State.receivedMaxData]
  split
  · next x' hx' =>
    rcases setParamsLoop_send s.side p.initialMaxStreamDataBidiLocal (s.maxRemote.get .bi) s.send 0 k with e | ⟨x, hx, _⟩
    · exact absurd (e ▸ hx') (he k x')
    · exact absurd hx (he k x)
  · rfl

/-- `set_params` is admissible in state `s`: it does not lower a stream-count limit, and it does not
    put the limit of a peer-initiated bidirectional stream below what was already written on it
    (at the real call sites no such stream has been used yet) -/
structure ParamsOk (s : State) (p : Params) : Prop where
  streams : ∀ d, s.max.get d ≤ p.maxStreams d
  remoteBidi : ∀ id x, s.send.find? id = some (some x) → sidInitiator id = s.side.not → sidDir id = .bi →
    x.pending.offset ≤ p.initialMaxStreamDataBidiLocal

theorem side_ne_not (a b : Side) : (a != b) = true ↔ b = a.not := by
  cases a <;> cases b <;> simp [Side.not]

theorem inv_params {side : Side} {h : Hist} {s : State} {p : Params} (out : Out)
    (i : InvV side h s.vw) (ok : ParamsOk s p) :
    InvV side ((.params p, out) :: h) (s.setParams p).vw := by
  have hside : s.side = side := i.side_eq
  have hmax : ∀ d, (⟨p.initialMaxStreamsBidi, p.initialMaxStreamsUni⟩ : Two Nat).get d = p.maxStreams d :=
    fun d => by cases d <;> rfl
  have hlim : ∀ k, (s.setParams p).core.maxSendData k = p.limitFor side k := fun k => by rw [← hside]; rfl
  refine ⟨hside, ?_, fun d => ?_, i.sent, ?_, fun d => ?_, fun k c hc => ?_, fun k => ?_⟩
  · show Nat.max s.maxData p.initialMaxData = Nat.max p.initialMaxData (peerMaxData h)
    rw [← (i.maxData : s.maxData = _)]; exact Nat.max_comm _ _
  · show (⟨p.initialMaxStreamsBidi, p.initialMaxStreamsUni⟩ : Two Nat).get d =
      Nat.max (p.maxStreams d) (peerMaxStreams d h)
    rw [hmax, ← (i.max d : s.max.get d = _)]; exact (Nat.max_eq_left (ok.streams d)).symm
  · exact Nat.le_trans i.sent_le (Nat.le_max_left _ _)
  · show s.next.get d ≤ (⟨p.initialMaxStreamsBidi, p.initialMaxStreamsUni⟩ : Two Nat).get d
    rw [hmax]; exact Nat.le_trans (i.next_le d) (ok.streams d)
  · have hmono : peerStreamLimit side k h ≤ peerStreamLimit side k ((.params p, out) :: h) := Nat.le_max_right _ _
    have hnew : p.limitFor side k ≤ peerStreamLimit side k ((.params p, out) :: h) := Nat.le_max_left _ _
    have hc : (match (setParamsLoop s.side p.initialMaxStreamDataBidiLocal s.send (s.maxRemote.get .bi) 0).find? k with
        | some (some x) => some x.credit | _ => none) = some c := hc
    split at hc
    · next x' hx' =>
      cases hc
      rcases setParamsLoop_send s.side p.initialMaxStreamDataBidiLocal (s.maxRemote.get .bi) s.send 0 k with
        e | ⟨x, hx, e, hi, hd⟩
      · have hold := i.stream k x'.credit (by simp only [State.vw, State.cv, ← e, hx'])
        exact ⟨hold.1, Nat.le_trans hold.2 hmono⟩
      · cases e.symm.trans hx'
        have hl : p.limitFor side k = p.initialMaxStreamDataBidiLocal := by
          simp only [Params.limitFor, hd, hi, ← hside]
          cases s.side <;> rfl
        exact ⟨ok.remoteBidi k x hx hi hd, hl ▸ hnew⟩
    · cases hc
  · show (s.setParams p).core.maxSendData k ≤ _
    rw [hlim k]; exact Nat.le_max_left _ _

end QM.Streams
