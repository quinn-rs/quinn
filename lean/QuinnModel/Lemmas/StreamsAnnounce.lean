import QuinnModel.Lemmas.StreamsSenderView
/-
C02 / C18 — no withheld stream-count update on the application side.

A slot that an APPLICATION call gives back to the peer (`RecvStream::stop` on a stream whose final size is known,
a read that reaches the end, `RecvStream::received_reset`) is queued for MAX_STREAMS by that very call, whenever the
unannounced part of the limit is one `queue_max_stream_id` announces at all (`Gen.maxStreamsSignificant`, read from
the source).  Without it the frame is queued only at the end of the next incoming packet — and a peer parked on the
stream limit sends none.

`Announced s d` is a statement about the RESULTING state only (limit, announced limit, concurrency, pending flag);
everything a call does after `queue_max_stream_id` leaves those four alone.
-/
namespace QM.Streams

/-- direction `d`: an unannounced raise of the peer's stream limit that is significant is queued for MAX_STREAMS -/
def Announced (s : State) (d : Dir) : Prop :=
  Gen.maxStreamsSignificant (s.maxRemote.get d - s.sentMaxRemote.get d) (s.maxConcurrentRemoteCount.get d) = true →
    s.rtx.maxStreamId.get d = true

theorem announce_step (t : State) (d : Dir) (t' : State)
    (ht : t' = if Gen.maxStreamsSignificant (t.maxRemote.get d - t.sentMaxRemote.get d)
        (t.maxConcurrentRemoteCount.get d) = true
      then { t with rtx := { t.rtx with maxStreamId := t.rtx.maxStreamId.set d true } } else t) :
    Announced t' d ∧ ∀ d', d' ≠ d → Announced t d' → Announced t' d' := by
  subst ht
  by_cases q : Gen.maxStreamsSignificant (t.maxRemote.get d - t.sentMaxRemote.get d)
      (t.maxConcurrentRemoteCount.get d) = true
  · rw [if_pos q]
    refine ⟨fun _ => ?_, fun d' hd a hs => ?_⟩
    · show (t.rtx.maxStreamId.set d true).get d = true
      rw [Two.get_set, if_pos rfl]
    · show (t.rtx.maxStreamId.set d true).get d' = true
      rw [Two.get_set, if_neg (Ne.symm hd)]; exact a hs
  · rw [if_neg q]; exact ⟨fun hs => absurd hs q, fun _ _ a => a⟩

theorem queueMaxStreamId_announced {s s' : State} {b : Bool} (h : s.queueMaxStreamId = some (s', b)) (d : Dir) :
    Announced s' d := by
  revert h
  fun_cases State.queueMaxStreamId s <;> intro h
  case case3 d0 h0 _ s1 d1 h1 _ s2 =>
    obtain ⟨rfl, _⟩ := Prod.mk.inj (Option.some.inj h)
    cases (subU_eq h0).1
    cases (subU_eq h1).1
    have a1 := announce_step s .bi s1 rfl
    have a2 := announce_step s1 .uni s2 rfl
    cases d
    · exact a2.2 .bi (by decide) a1.1
    · exact a2.1
  all_goals contradiction

/-- `RecvStream::stop`: when the call raises the peer's stream limit (it freed a stream whose final size was known),
    a significant unannounced raise is queued in the state the call leaves behind -/
theorem stop_announces {s s' : State} {id code : Nat} {b : Bool} (d : Dir)
    (h : s.stop id code = some (s', b)) (hr : s.maxRemote.get d < s'.maxRemote.get d) : Announced s' d := by
  rcases stop_inv h with ⟨_, rfl, _⟩ | ⟨rs, s1, hg, hh⟩
  · exact absurd hr (Nat.lt_irrefl _)
  obtain ⟨_, rfl⟩ := getOrInsertRecv_eq hg
  rcases hh with ⟨_, rfl, _⟩ | ⟨_, stopSending, rs', _, _, _, _, hfree, hq, hcq, _⟩
  · exact absurd hr (Nat.lt_irrefl _)
  obtain ⟨_, _, _, rfl⟩ := creditAndQueue_eq hcq
  rcases queueMaxIf_cases hq with ⟨hc, rfl⟩ | ⟨_, _, hq6⟩
  · -- the final size is not known: nothing is freed, the limit is where it was
    rw [hc] at hfree
    cases hfree
    cases stopSending <;> exact absurd hr (Nat.lt_irrefl _)
  · -- freed: `queue_max_stream_id` ran on the state with the raised limit
    exact queueMaxStreamId_announced hq6 d

/-- a read that gives a slot back (it reached the end of the stream, or the reset) -/
theorem read_announces {s s' : State} {id budget : Nat} {r : ReadRes} (d : Dir)
    (h : s.read id budget = some (s', r)) (hr : s.maxRemote.get d < s'.maxRemote.get d) : Announced s' d := by
  rcases read_inv h with ⟨_, rfl, _⟩ | ⟨rs, s1, hg, ⟨_, rfl, _⟩ |
    ⟨_, _, _, _, _, _, _, _, _, _, _, _, _, _, _, _, hq, hz, hc, rfl, _⟩⟩
  · exact absurd hr (Nat.lt_irrefl _)
  · obtain ⟨_, rfl⟩ := getOrInsertRecv_eq hg
    exact absurd hr (Nat.lt_irrefl _)
  · obtain ⟨_, _, rfl⟩ := addReadCredits_fields hc
    obtain ⟨_, _, rfl⟩ := finalizeReadable_eq hz
    exact queueMaxStreamId_announced hq d

/-- `RecvStream::received_reset` that reports the code (and drops the stream) -/
theorem recvReceivedReset_announces {s s' : State} {id : Nat} {r : Option (Option Nat)} (d : Dir)
    (h : s.recvReceivedReset id = some (s', r)) (hr : s.maxRemote.get d < s'.maxRemote.get d) : Announced s' d := by
  rcases recvReceivedReset_inv h with ⟨rfl, _⟩ | ⟨_, _, _, _, _, _, _, hq, _⟩
  · exact absurd hr (Nat.lt_irrefl _)
  · exact queueMaxStreamId_announced hq d

end QM.Streams
