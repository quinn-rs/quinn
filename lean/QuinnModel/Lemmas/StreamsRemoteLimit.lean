import QuinnModel.Lemmas.StreamsC06Main
/-
C06 — `next_remote[dir] ≤ max_remote[dir]` in every reachable state: no frame opens more peer-initiated streams
than were advertised.  Supporting invariant: every peer-initiated key of the `send` map lies below `max_remote`
(entries are created by `StreamsState::new` and `ensure_remote_streams` only, each time together with the limit).
-/
namespace QM.Streams

@[simp] theorem skeys_putSend (s : State) (id : Nat) (x : Send) : skeys (s.putSend id x) = skeys s :=
  Map.keys_set _ _ _

theorem rl_new {c : Config} {s0 : State} (h : State.new c = some s0) : RLInv s0 := by
  obtain ⟨s1, a1, a2⟩ := alloc_new h
  obtain ⟨_, e1, k1⟩ := a1.rvw
  obtain ⟨_, e2, k2⟩ := a2.rvw
  have e := e2.trans e1
  simp only [State.rl, Prod.mk.injEq] at e
  obtain ⟨_, h2, h3, h4⟩ := e
  refine ⟨fun d => by rw [h3]; cases d <;> exact Nat.zero_le _, fun k hk _ => ?_, fun d => by rw [h4, h3]; exact Nat.le_refl _⟩
  rw [h2]
  rcases k2 k hk with hk1 | ⟨j, hj, rfl⟩
  · rcases k1 k hk1 with h0 | ⟨j, hj, rfl⟩
    · cases h0
    · simp only [sidDir_sidNew, sidIndex_sidNew]; exact hj
  · simp only [sidDir_sidNew, sidIndex_sidNew]; exact hj

theorem reachR_rl {c : Config} {s : State} {C W : Nat} {U : Prop} (r : ReachR c s C W U) : RLInv s := by
  induction r with
  | init h0 => exact rl_new h0
  | step r hr hs ih =>
    rcases step_acts hs hr with ⟨id, a⟩ | ⟨n, rfl, rfl⟩
    · exact ih.ext a.ext
    · refine ih.ext ?_
      unfold State.setReceiveWindow
      split <;> exact Ext.same rfl rfl

theorem accept_some {s s' : State} {d : Dir} {id : Nat} (h : s.accept d = (s', some id)) :
    id = sidNew s.side.not d (s.nextReportedRemote.get d) ∧
    s.nextReportedRemote.get d ≠ s.nextRemote.get d ∧
    s'.nextReportedRemote.get d = s.nextReportedRemote.get d + 1 := by
  unfold State.accept at h
  split at h
  · simp at h
  · rename_i hne
    simp only [Prod.mk.injEq, Option.some.injEq] at h
    refine ⟨h.2.symm, fun e => hne e.symm, ?_⟩
    rw [← h.1]
    split <;> simp [Two.get_set]

end QM.Streams
