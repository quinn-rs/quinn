import QuinnModel.Lemmas.Mtud
/-
Proofs about whole `MtuDiscovery` states (C13): runs, what each call does to the state, the invariants of all runs,
floor and ceiling of `current_mtu`, the caller's view of the probe in flight, termination of a search.
-/
namespace QM.Mtud
open QM

/-- state after a sequence of calls; a panic aborts the process: frozen before the first panicking call -/
def exec (s : State) : List Op → State
  | [] => s
  | op :: ops => if (step s op).2 = .panic then s else exec (step s op).1 ops

def trace (s : State) : List Op → List (Op × Out)
  | [] => []
  | op :: ops => if (step s op).2 = .panic then [] else (op, (step s op).2) :: trace (step s op).1 ops

/-- a contract on the calls that may depend on the current state -/
def okRun (C : State → Op → Prop) (s : State) : List Op → Prop
  | [] => True
  | op :: ops => C s op ∧ ((step s op).2 ≠ .panic → okRun C (step s op).1 ops)

instance okRunDec (C : State → Op → Prop) [inst : ∀ s op, Decidable (C s op)] :
    (s : State) → (ops : List Op) → Decidable (okRun C s ops)
  | _, [] => isTrue trivial
  | s, op :: ops =>
    have := okRunDec C (step s op).1 ops
    show Decidable (C s op ∧ ((step s op).2 ≠ .panic → okRun C (step s op).1 ops)) from inferInstance

theorem exec_induct_okRun (C : State → Op → Prop) (P : State → Prop)
    (hstep : ∀ s op, P s → C s op → (step s op).2 ≠ .panic → P (step s op).1)
    (ops : List Op) : ∀ s, P s → okRun C s ops → P (exec s ops) := by
  induction ops with
  | nil => intro s h _; exact h
  | cons op ops ih =>
    intro s h hc
    simp only [exec]
    split
    · exact h
    · rename_i hp; exact ih _ (hstep s op h hc.1 hp) (hc.2 hp)

theorem okRun_true (ops : List Op) : ∀ s, okRun (fun _ _ => True) s ops := by
  induction ops with
  | nil => intro s; trivial
  | cons op ops ih => intro s; exact ⟨trivial, fun _ => ih _⟩

theorem exec_induct (P : State → Prop) (hstep : ∀ s op, P s → (step s op).2 ≠ .panic → P (step s op).1)
    (ops : List Op) (s : State) (h : P s) : P (exec s ops) :=
  exec_induct_okRun (fun _ _ => True) P (fun s op hs _ => hstep s op hs) ops s h (okRun_true ops s)

/-- what `MtuDiscovery::poll_transmit` makes of the result of `EnabledMtuDiscovery::poll_transmit` -/
def pollOut : Option (Option Nat) → Out
  | some r => .probe r
  | none => .panic

theorem pollOut_panic {r : Option (Option Nat)} (h : pollOut r = .panic) : r = none := by
  cases r with
  | none => rfl
  | some r => cases h

theorem pollOut_probe {r : Option (Option Nat)} {p : Option Nat} (h : pollOut r = .probe p) : r = some p := by
  cases r with
  | none => cases h
  | some r => cases h; rfl

/-- what a call does and returns, by the cases the code distinguishes (`step_stepped`: there are no others) -/
inductive Stepped (s : State) : Op → State × Out → Prop
  | pollOff {now pn : Nat} (h : s.state = none) : Stepped s (.poll now pn) (s, .probe none)
  | poll {now pn : Nat} (e : Enabled) (R : PollR) (h : s.state = some e) (hR : Polled e s.currentMtu now pn R) :
      Stepped s (.poll now pn) ({ s with state := some R.1 }, pollOut R.2)
  | notData {pn len : Nat} : Stepped s (.acked false pn len) (s, .bool false)
  | ackedOther {pn len : Nat}
      (h : ∀ e st, s.state = some e → e.phase = .searching st → st.inFlightProbe ≠ some pn) :
      Stepped s (.acked true pn len) ({ s with det := s.det.onNonProbeAcked pn len }, .bool false)
  | ackedProbe {pn len : Nat} (e : Enabled) (st : SearchState) (he : s.state = some e)
      (hph : e.phase = .searching st) (hfl : st.inFlightProbe = some pn) :
      Stepped s (.acked true pn len)
        ({ s with currentMtu := st.lastProbedMtu, state := some { e with phase := .searching st.cleared },
                  det := s.det.onProbeAcked pn len }, .bool true)
  | lostIdle (h : ∀ e, s.state = some e → ∀ st, e.phase ≠ .searching st) : Stepped s .probeLost (s, .unit)
  | probeLost (e : Enabled) (st : SearchState) (he : s.state = some e) (hph : e.phase = .searching st) :
      Stepped s .probeLost ({ s with state := some { e with phase := .searching st.lostOne } }, .unit)
  | lostPanic {pn len : Nat} (h : s.det.onNonProbeLost pn len = none) : Stepped s (.nonProbeLost pn len) (s, .panic)
  | nonProbeLost {pn len : Nat} (d : Detector) (h : s.det.onNonProbeLost pn len = some d) :
      Stepped s (.nonProbeLost pn len) ({ s with det := d }, .unit)
  | noBlackHole {now : Nat} (d : Detector) (h : s.det.blackHoleDetected = (d, false)) :
      Stepped s (.blackHole now) ({ s with det := d }, .bool false)
  | blackHole {now : Nat} (d : Detector) (h : s.det.blackHoleDetected = (d, true)) :
      Stepped s (.blackHole now)
        ({ s with currentMtu := Nat.min s.currentMtu d.minMtu,
                  state := s.state.map (fun e => e.onBlackHoleDetected now), det := d }, .bool true)
  | peerMaxOff {v : Nat} (h : s.state = none) :
      Stepped s (.peerMax v) ({ s with currentMtu := Nat.min s.currentMtu v, peerMax := v }, .unit)
  /-- the deliberate panic of `on_peer_max_udp_payload_size_received`, exactly while a search is running -/
  | peerMaxPanic {v : Nat} (e : Enabled) (st : SearchState) (he : s.state = some e) (hph : e.phase = .searching st) :
      Stepped s (.peerMax v) ({ s with currentMtu := Nat.min s.currentMtu v, peerMax := v }, .panic)
  | peerMax {v : Nat} (e : Enabled) (he : s.state = some e) (hns : ∀ st, e.phase ≠ .searching st) :
      Stepped s (.peerMax v)
        ({ s with currentMtu := Nat.min s.currentMtu v, peerMax := v, state := some { e with peerMax := v } }, .unit)
  | resetOff {c m : Nat} (h : s.state = none) :
      Stepped s (.reset c m)
        ({ currentMtu := Nat.min c s.peerMax, state := none, det := Detector.new m, peerMax := s.peerMax }, .unit)
  /-- `reset` re-applies the peer limit, which it takes from the discovery state when there is one -/
  | reset {c m : Nat} (e : Enabled) (he : s.state = some e) :
      Stepped s (.reset c m)
        ({ currentMtu := Nat.min c e.peerMax, state := some ⟨.initial, e.peerMax, e.config⟩, det := Detector.new m,
           peerMax := e.peerMax }, .unit)

theorem step_stepped (s : State) (op : Op) : Stepped s op (step s op) := by
  cases op with
  | poll now pn =>
    cases hst : s.state with
    | none => simp only [step, pollTransmit, hst]; exact .pollOff hst
    | some e =>
      have hR := pollTransmit_polled e now s.currentMtu pn
      simp only [step, pollTransmit, hst]
      generalize e.pollTransmit now s.currentMtu pn = R at hR ⊢
      obtain ⟨e', _ | r⟩ := R <;> exact .poll e _ hst hR
  | acked isData pn len =>
    cases isData with
    | false => exact .notData
    | true =>
      obtain ⟨cur, state, det, pm⟩ := s
      cases state with
      | none => exact .ackedOther nofun
      | some e =>
        obtain ⟨ph, epm, cfg⟩ := e
        cases ph with
        | initial | complete => exact .ackedOther (fun e st h h' => by cases h; cases h')
        | searching st =>
          by_cases hfl : st.inFlightProbe = some pn
          · simp only [step, onAcked, Option.bind_some, Enabled.onProbeAcked, if_pos hfl]
            exact .ackedProbe ⟨.searching st, epm, cfg⟩ st rfl rfl hfl
          · simp only [step, onAcked, Option.bind_some, Enabled.onProbeAcked, if_neg hfl]
            exact .ackedOther (fun e st' h h' => by cases h; cases h'; exact hfl)
  | probeLost =>
    obtain ⟨cur, state, det, pm⟩ := s
    cases state with
    | none => exact .lostIdle nofun
    | some e =>
      obtain ⟨ph, epm, cfg⟩ := e
      cases ph with
      | searching st => exact .probeLost ⟨.searching st, epm, cfg⟩ st rfl rfl
      | initial | complete => exact .lostIdle (fun e h st h' => by cases h; cases h')
  | nonProbeLost pn len =>
    simp only [step, onNonProbeLost]
    cases hl : s.det.onNonProbeLost pn len with
    | none => exact .lostPanic hl
    | some d => exact .nonProbeLost d hl
  | blackHole now =>
    simp only [step, blackHoleDetected]
    rcases hd : s.det.blackHoleDetected with ⟨d, _ | _⟩
    · exact .noBlackHole d hd
    · exact .blackHole d hd
  | peerMax v =>
    obtain ⟨cur, state, det, pm⟩ := s
    cases state with
    | none => exact .peerMaxOff rfl
    | some e =>
      obtain ⟨ph, epm, cfg⟩ := e
      cases ph with
      | searching st => exact .peerMaxPanic _ st rfl rfl
      | initial | complete => exact .peerMax _ rfl nofun
  | reset c m =>
    obtain ⟨cur, state, det, pm⟩ := s
    cases state with
    | none => exact .resetOff rfl
    | some e => exact .reset e rfl

/-! Invariants speak of the discovery state `e` with `s.state = some e`: how to move them through a step that stores a
given `e'`, or maps a function over `s.state`. -/

theorem forall_some {α : Type} {a : α} {P : α → Prop} (h : P a) : ∀ x, some a = some x → P x := by
  rintro _ ⟨⟩; exact h

theorem forall_map {α β : Type} {o : Option α} {f : α → β} {P : β → Prop} (h : ∀ a, o = some a → P (f a)) :
    ∀ b, o.map f = some b → P b := by
  intro b hb
  cases o with
  | none => cases hb
  | some a => cases hb; exact h a rfl

/-- the general invariant (G): of all runs, with no assumption on configuration or caller -/
structure GInv (s : State) : Prop where
  enabled : ∀ e, s.state = some e → e.peerMax = s.peerMax ∧ ∀ st, e.phase = .searching st → GOk e.peerMax st
  bursts : s.det.bursts.length ≤ Gen.mtudBlackHoleThreshold + 1

theorem step_ginv (s : State) (op : Op) (hg : GInv s) (hp : (step s op).2 ≠ .panic) : GInv (step s op).1 := by
  obtain ⟨hs, hd⟩ := hg
  have h := step_stepped s op
  generalize step s op = r at h hp ⊢
  cases h with
  | pollOff | notData | lostIdle => exact ⟨hs, hd⟩
  | poll e R hst hR =>
    obtain ⟨hpm, hgok⟩ := hs e hst
    have h1 := hR.frame.1
    exact ⟨forall_some ⟨h1.trans hpm, h1 ▸ (hR.gok hgok).1⟩, hd⟩
  | ackedOther => exact ⟨hs, (onNonProbeAcked_kept s.det _ _).bursts hd⟩
  | ackedProbe e st he hph =>
    obtain ⟨hpm, hgok⟩ := hs e he
    exact ⟨forall_some ⟨hpm, forall_searching (hgok st hph).cleared⟩, Nat.zero_le _⟩
  | probeLost e st he hph =>
    obtain ⟨hpm, hgok⟩ := hs e he
    exact ⟨forall_some ⟨hpm, forall_searching (hgok st hph).lostOne⟩, hd⟩
  | lostPanic | peerMaxPanic => exact absurd rfl hp
  | nonProbeLost d hl => exact ⟨hs, (onNonProbeLost_kept s.det d _ _ hl).bursts hd⟩
  | noBlackHole d hb => exact ⟨hs, (blackHoleDetected_result s.det d _ hb).bursts hd⟩
  | blackHole d hb =>
    refine ⟨forall_map (fun e he => ⟨(hs e he).1, nofun⟩), ?_⟩
    rw [(blackHoleDetected_result s.det d _ hb).cleared rfl]; exact Nat.zero_le _
  | peerMaxOff hn => exact ⟨fun e he => (by rw [hn] at he; cases he), hd⟩
  | peerMax e he hns => exact ⟨forall_some ⟨rfl, fun st h' => absurd h' (hns st)⟩, hd⟩
  | resetOff => exact ⟨nofun, Nat.zero_le _⟩
  | reset => exact ⟨forall_some ⟨rfl, nofun⟩, Nat.zero_le _⟩

theorem poll_probe_le_peer (s : State) (hg : GInv s) (now pn p : Nat) (h : (step s (.poll now pn)).2 = .probe (some p)) :
    ∃ e, s.state = some e ∧ p ≤ e.peerMax := by
  have hs := step_stepped s (.poll now pn)
  generalize step s (.poll now pn) = r at hs h
  cases hs with
  | pollOff => cases h
  | poll e R hst hR => exact ⟨e, hst, (hR.gok (hg.enabled e hst).2).2 p (pollOut_probe h)⟩

/-- the search invariant (S) of a whole state: `SOk` of the running search, relative to `current_mtu`; kept with
    `minimum_change ≥ 3` under `Contract` (`step_sinv`) -/
def SInv (s : State) : Prop :=
  ∀ e, s.state = some e → 3 ≤ e.config.minimumChange
    ∧ ∀ st, e.phase = .searching st → SOk s.currentMtu e.peerMax e.config st

/-- what `Connection::detect_lost_packets` guarantees: `on_probe_lost` is only called for the in-flight probe -/
def Contract (s : State) : Op → Prop
  | .probeLost => (inFlightMtuProbe s).isSome = true
  | _ => True

instance (s : State) (op : Op) : Decidable (Contract s op) := by
  cases op <;> simp only [Contract] <;> infer_instance

theorem lost_in_flight {s : State} {e : Enabled} {st : SearchState} (he : s.state = some e)
    (hph : e.phase = .searching st) (hc : Contract s .probeLost) : ∃ q, st.inFlightProbe = some q := by
  obtain ⟨ph, pm, cfg⟩ := e
  cases hph
  simpa only [Contract, inFlightMtuProbe, he, Option.isSome_iff_exists] using hc

theorem sok_result {cur pm : Nat} {cfg : Config} {st : SearchState} (hs : SOk cur pm cfg st) (pn : Nat)
    (hfl : st.inFlightProbe = some pn) :
    SOk st.lastProbedMtu pm cfg st.cleared ∧ SOk cur pm cfg st.lostOne := by
  have hne : st.inFlightProbe ≠ none := by rw [hfl]; nofun
  have hb := hs.busy (Or.inl hne)
  refine ⟨⟨hs.mc, hs.lo_last, hs.last_up, hs.up_pm, hs.up_cfg, fun _ _ => ?_, fun hb' => ?_, fun hb' => absurd rfl hb'⟩,
    ⟨hs.mc, hs.lo_last, hs.last_up, hs.up_pm, hs.up_cfg, fun _ h0 => (by cases h0), fun _ => hb, fun hb' => absurd rfl hb'⟩⟩
  · exact (Nat.min_eq_left (Nat.le_trans hs.last_up hs.up_pm)).symm
  · exact hb'.elim (absurd rfl) (absurd rfl)

theorem step_sinv (s : State) (op : Op) (hi : SInv s) (hc : Contract s op) (hp : (step s op).2 ≠ .panic) :
    SInv (step s op).1 := by
  have h := step_stepped s op
  generalize step s op = r at h hp ⊢
  cases h with
  | pollOff | notData | ackedOther | lostIdle | nonProbeLost | noBlackHole => exact hi
  | poll e R hst hR =>
    obtain ⟨h3, hs⟩ := hi e hst
    obtain ⟨hpm, hcfg⟩ := hR.frame
    exact forall_some ⟨hcfg ▸ h3, hpm ▸ hcfg ▸ fun st' h' => ((hR.ok h3 hs).search st' h').1⟩
  | ackedProbe e st he hph hfl =>
    obtain ⟨h3, hs⟩ := hi e he
    exact forall_some ⟨h3, forall_searching (sok_result (hs st hph) _ hfl).1⟩
  | probeLost e st he hph =>
    obtain ⟨q, hfl⟩ := lost_in_flight he hph hc
    obtain ⟨h3, hs⟩ := hi e he
    exact forall_some ⟨h3, forall_searching (sok_result (hs st hph) q hfl).2⟩
  | lostPanic | peerMaxPanic => exact absurd rfl hp
  | blackHole => exact forall_map (fun e he => ⟨(hi e he).1, nofun⟩)
  | peerMaxOff hn => exact fun e he => by rw [hn] at he; cases he
  | peerMax e he hns => exact forall_some ⟨(hi e he).1, fun st h' => absurd h' (hns st)⟩
  | resetOff => exact nofun
  | reset e he => exact forall_some ⟨(hi e he).1, nofun⟩

def slot (s : State) : Option (Nat × Nat) :=
  match s.state with
  | some e => slotE e
  | none => none

/-- what a caller that only sees calls and results believes is outstanding -/
def ghostStep (g : Option (Nat × Nat)) (op : Op) (out : Out) : Option (Nat × Nat) :=
  match op, out with
  | .poll _ pn, .probe (some p) => some (pn, p)
  | .acked _ _ _, .bool true => none
  | .probeLost, _ => none
  | .reset _ _, _ => none
  | .blackHole _, .bool true => none
  | _, _ => g

def ghost (g : Option (Nat × Nat)) : List (Op × Out) → Option (Nat × Nat)
  | [] => g
  | (op, out) :: t => ghost (ghostStep g op out) t

theorem slot_some {s : State} {e : Enabled} (h : s.state = some e) : slot s = slotE e := by simp only [slot, h]

theorem slot_of_search {s : State} {e : Enabled} {st : SearchState} {pn : Nat} (he : s.state = some e)
    (hph : e.phase = .searching st) (hfl : st.inFlightProbe = some pn) : slot s = some (pn, st.lastProbedMtu) := by
  simp only [slot, he, slotE, hph, hfl, Option.map_some]

theorem search_of_slot {s : State} {pn p : Nat} (h : slot s = some (pn, p)) :
    ∃ e st, s.state = some e ∧ e.phase = .searching st ∧ st.inFlightProbe = some pn ∧ st.lastProbedMtu = p := by
  unfold slot at h
  split at h
  · rename_i e he
    unfold slotE at h
    split at h
    · rename_i st hph
      cases hfl : st.inFlightProbe with
      | none => rw [hfl] at h; cases h
      | some q => rw [hfl] at h; cases h; exact ⟨e, st, he, hph, hfl, rfl⟩
    · cases h
  · cases h

theorem slotE_idle {e : Enabled} (h : ∀ st, e.phase ≠ .searching st) : slotE e = none := by
  unfold slotE; split
  · rename_i st h'; exact absurd h' (h st)
  · rfl

theorem ghost_step (s : State) (op : Op) (hp : (step s op).2 ≠ .panic) :
    ghostStep (slot s) op (step s op).2 = slot (step s op).1 := by
  have h := step_stepped s op
  generalize step s op = r at h hp ⊢
  cases h with
  | poll e R hst hR =>
    obtain ⟨h1, h2⟩ := hR.slot
    rw [slot_some hst]
    obtain ⟨e', _ | _ | p⟩ := R
    · exact absurd rfl hp
    · exact (h2 rfl).1.symm
    · exact ((h1 p rfl).2).symm
  | lostIdle hn =>
    show none = slot s
    cases hst : s.state with
    | none => simp only [slot, hst]
    | some e => rw [slot_some hst]; exact (slotE_idle (hn e hst)).symm
  | lostPanic | peerMaxPanic => exact absurd rfl hp
  | blackHole => cases hst : s.state <;> rfl
  | @peerMax v e he hns =>
    show slot s = slotE { e with peerMax := v }
    rw [slot_some he, slotE_idle hns]; exact (slotE_idle (e := { e with peerMax := v }) hns).symm
  -- the remaining calls keep the slot and tell the caller nothing about it, or clear it and say so
  | _ => rfl

theorem ghost_trace (ops : List Op) : ∀ s, ghost (slot s) (trace s ops) = slot (exec s ops) := by
  induction ops with
  | nil => intro s; rfl
  | cons op ops ih =>
    intro s
    simp only [trace, exec]
    split
    · rfl
    · rename_i hp
      simp only [ghost]
      rw [ghost_step s op hp]
      exact ih _

theorem slot_inflight (s : State) : (slot s).map (·.1) = inFlightMtuProbe s := by
  unfold slot inFlightMtuProbe slotE
  cases hs : s.state with
  | none => rfl
  | some e =>
    obtain ⟨ph, pm, cfg⟩ := e
    cases ph with
    | initial | complete => rfl
    | searching st => cases h : st.inFlightProbe <;> simp [h]

theorem probe_only_when_idle (s : State) (now pn p : Nat) (h : (step s (.poll now pn)).2 = .probe (some p)) :
    slot s = none ∧ slot (step s (.poll now pn)).1 = some (pn, p) := by
  have hs := step_stepped s (.poll now pn)
  generalize step s (.poll now pn) = r at hs h ⊢
  cases hs with
  | pollOff => cases h
  | poll e R hst hR => rw [slot_some hst]; exact hR.slot.1 p (pollOut_probe h)

theorem poll_ok (s : State) (hi : SInv s) (now pn : Nat) :
    (step s (.poll now pn)).2 ≠ .panic
    ∧ ∀ p, (step s (.poll now pn)).2 = .probe (some p) →
        ∃ e, s.state = some e ∧ s.currentMtu < p ∧ p ≤ e.config.upperBound ∧ p ≤ e.peerMax
          ∧ inFlightMtuProbe s = none ∧ inFlightMtuProbe (step s (.poll now pn)).1 = some pn := by
  have hs := step_stepped s (.poll now pn)
  generalize step s (.poll now pn) = r at hs ⊢
  cases hs with
  | pollOff => exact ⟨nofun, nofun⟩
  | poll e R hst hR =>
    obtain ⟨h3, hs⟩ := hi e hst
    have hok := hR.ok h3 hs
    refine ⟨fun h => hok.noPanic (pollOut_panic h), fun p hp => ?_⟩
    obtain ⟨h0, h1⟩ := hR.slot.1 p (pollOut_probe hp)
    obtain ⟨h4, h5, h6⟩ := hok.probe p (pollOut_probe hp)
    exact ⟨e, hst, h4, h5, h6, by rw [← slot_inflight, slot_some hst, h0]; rfl,
      by rw [← slot_inflight]; exact congrArg (Option.map (·.1)) h1⟩

theorem step_peerMax_eq (s : State) (v : Nat) :
    (step s (.peerMax v)).1.currentMtu = Nat.min s.currentMtu v ∧ (step s (.peerMax v)).1.peerMax = v := by
  have h := step_stepped s (.peerMax v)
  generalize step s (.peerMax v) = r at h ⊢
  cases h <;> exact ⟨rfl, rfl⟩

theorem step_limits (s : State) (op : Op) :
    ((∀ e, s.state = some e → e.peerMax = s.peerMax) →
      (step s op).1.peerMax = match op with | .peerMax v => v | _ => s.peerMax)
    ∧ (step s op).1.det.minMtu = match op with | .reset _ m => m | _ => s.det.minMtu := by
  have h := step_stepped s op
  generalize step s op = r at h ⊢
  cases h with
  | ackedOther => exact ⟨fun _ => rfl, (onNonProbeAcked_kept s.det _ _).minMtu⟩
  | nonProbeLost d hl => exact ⟨fun _ => rfl, (onNonProbeLost_kept s.det d _ _ hl).minMtu⟩
  | noBlackHole d hb | blackHole d hb => exact ⟨fun _ => rfl, (blackHoleDetected_result s.det d _ hb).minMtu⟩
  | reset e he => exact ⟨fun hq => hq e he, rfl⟩
  | _ => exact ⟨fun _ => rfl, rfl⟩

theorem min_ne_left {a b : Nat} (h : Nat.min a b ≠ a) : Nat.min a b = b ∧ b < a := by
  rw [natMin] at h ⊢; omega

theorem mtu_change (s : State) (op : Op) (hne : (step s op).1.currentMtu ≠ s.currentMtu) :
    (∃ pn len e st, op = .acked true pn len ∧ s.state = some e ∧ e.phase = .searching st
        ∧ st.inFlightProbe = some pn ∧ (step s op).1.currentMtu = st.lastProbedMtu ∧ (step s op).2 = .bool true)
    ∨ (∃ v, op = .peerMax v ∧ (step s op).1.currentMtu = v ∧ v < s.currentMtu)
    ∨ (∃ now, op = .blackHole now ∧ (step s op).2 = .bool true ∧ (step s op).1.currentMtu = s.det.minMtu
        ∧ s.det.minMtu < s.currentMtu)
    ∨ (∃ c m, op = .reset c m) := by
  have h := step_stepped s op
  generalize step s op = r at h hne ⊢
  cases h with
  | ackedProbe e st he hph hfl => exact Or.inl ⟨_, _, e, st, rfl, he, hph, hfl, rfl, rfl⟩
  | peerMaxOff | peerMaxPanic | peerMax => exact Or.inr (Or.inl ⟨_, rfl, min_ne_left hne⟩)
  | blackHole d hb =>
    refine Or.inr (Or.inr (Or.inl ⟨_, rfl, rfl, ?_⟩))
    rw [← (blackHoleDetected_result s.det d _ hb).minMtu]; exact min_ne_left hne
  | resetOff | reset => exact Or.inr (Or.inr (Or.inr ⟨_, _, rfl⟩))
  | _ => exact absurd rfl hne

theorem acked_raises (s : State) (hi : SInv s) (e : Enabled) (st : SearchState) (pn : Nat) (he : s.state = some e)
    (hph : e.phase = .searching st) (hfl : st.inFlightProbe = some pn) : s.currentMtu < st.lastProbedMtu :=
  (((hi e he).2 st hph).busy (Or.inl (by rw [hfl]; nofun))).2

def Floor (s : State) : Prop := Nat.min s.det.minMtu s.peerMax ≤ s.currentMtu

/-- what `PathData::reset` guarantees: the MTU it resets to is `max(initial_mtu, min_mtu) ≥ min_mtu` -/
def ResetContract (_ : State) : Op → Prop
  | .reset c m => m ≤ c
  | _ => True

/-- additional assumption for the floor as a STATE invariant: a later peer limit is not larger than an earlier one
    (otherwise the floor itself rises above an estimate that was clamped by the earlier limit) -/
def PeerMonotone (s : State) : Op → Prop
  | .peerMax v => v ≤ s.peerMax
  | _ => True

theorem floor_reset (s : State) (c m : Nat) (h : m ≤ c) : Floor (step s (.reset c m)).1 := by
  have hs := step_stepped s (.reset c m)
  generalize step s (.reset c m) = r at hs ⊢
  cases hs <;> exact Nat.le_min.2 ⟨Nat.le_trans (Nat.min_le_left _ _) h, Nat.min_le_right _ _⟩

theorem fall_not_below_floor (s : State) (op : Op) (hi : SInv s) (hr : ResetContract s op)
    (hlt : (step s op).1.currentMtu < s.currentMtu) :
    Nat.min (step s op).1.det.minMtu (step s op).1.peerMax ≤ (step s op).1.currentMtu := by
  rcases mtu_change s op (Nat.ne_of_lt hlt) with
    ⟨pn, len, e, st, _, h2, h3, h4, h5, _⟩ | ⟨v, rfl, h2, _⟩ | ⟨now, rfl, _, h3, _⟩ | ⟨c, m, rfl⟩
  · exact absurd hlt (Nat.lt_asymm (h5 ▸ acked_raises s hi e st pn h2 h3 h4))
  · rw [(step_peerMax_eq s v).2, h2]; exact Nat.min_le_right _ _
  · rw [(step_limits s _).2, h3]; exact Nat.min_le_left _ _
  · exact floor_reset s c m hr

theorem step_floor (s : State) (op : Op) (hq : ∀ e, s.state = some e → e.peerMax = s.peerMax) (hi : SInv s)
    (hf : Floor s) (hr : ResetContract s op) (hm : PeerMonotone s op) : Floor (step s op).1 := by
  by_cases hlt : (step s op).1.currentMtu < s.currentMtu
  · exact fall_not_below_floor s op hi hr hlt
  · -- the estimate did not fall, and the floor rises only through `reset`
    unfold Floor at hf ⊢
    have h1 := (step_limits s op).2
    have h2 := (step_limits s op).1 hq
    cases op with
    | reset c m => exact floor_reset s c m hr
    | peerMax v =>
      have hv : v ≤ s.peerMax := hm
      rw [h1, h2]
      refine Nat.le_trans (Nat.le_trans ?_ hf) (Nat.le_of_not_lt hlt)
      show Nat.min s.det.minMtu v ≤ _
      simp only [natMin]; omega
    | _ => rw [h1, h2]; exact Nat.le_trans hf (Nat.le_of_not_lt hlt)

def Ceil (s : State) : Prop := s.currentMtu ≤ s.peerMax

theorem step_ceil (s : State) (op : Op) (hg : GInv s) (hc : Ceil s) : Ceil (step s op).1 := by
  have h := step_stepped s op
  generalize step s op = r at h ⊢
  cases h with
  | ackedProbe e st he hph => exact (hg.enabled e he).1 ▸ ((hg.enabled e he).2 st hph).last
  | blackHole => exact Nat.le_trans (Nat.min_le_left _ _) hc
  | peerMaxOff | peerMaxPanic | peerMax | resetOff | reset => exact Nat.min_le_right _ _
  | _ => exact hc

theorem peerMax_ceil (s : State) (v : Nat) : Ceil (step s (.peerMax v)).1 := by
  unfold Ceil
  rw [(step_peerMax_eq s v).1, (step_peerMax_eq s v).2]; exact Nat.min_le_right _ _

def searchOf (s : State) : Option SearchState :=
  match s.state with
  | some e => (match e.phase with
    | .searching st => some st
    | _ => none)
  | none => none

theorem searchOf_iff (s : State) (st : SearchState) :
    searchOf s = some st ↔ ∃ e, s.state = some e ∧ e.phase = .searching st := by
  unfold searchOf
  cases hs : s.state with
  | none => simp
  | some e => cases hph : e.phase <;> simp [hph]

/-- a probe result: the ack of the in-flight probe, or its loss -/
def isProbeResult (op : Op) (out : Out) : Bool :=
  match op, out with
  | .acked _ _ _, .bool true => true
  | .probeLost, _ => true
  | _, _ => false

theorem four_mul_lt (a b r : Nat) (h : a < b) : 4 * a + 3 < 4 * b + r :=
  Nat.lt_of_lt_of_le (Nat.lt_of_lt_of_le (Nat.add_lt_add_left (by decide : 3 < 4) _) (Nat.mul_le_mul_left 4 h))
    (Nat.le_add_right _ _)

/-- after a probe result both remaining intervals are strictly shorter than the whole one -/
theorem measure_arith (lo last up lost : Nat) (h1 : lo < last) (h2 : last ≤ up) (h3 : lost ≤ 2) :
    4 * (up - last) + 3 < 4 * (up - lo) + (3 - lost)
    ∧ 4 * (last - 1 - lo) + 3 < 4 * (up - lo) + (3 - lost)
    ∧ 4 * (up - lo) + (3 - (lost + 1)) < 4 * (up - lo) + (3 - lost) :=
  ⟨four_mul_lt _ _ _ (Nat.sub_lt_sub_left (Nat.lt_of_lt_of_le h1 h2) h1),
    four_mul_lt _ _ _ (Nat.sub_lt_sub_right (Nat.le_pred_of_lt h1)
      (Nat.lt_of_lt_of_le (Nat.pred_lt (Nat.ne_of_gt (Nat.zero_lt_of_lt h1))) h2)),
    Nat.add_lt_add_left (Nat.sub_succ_lt_self 3 lost (Nat.lt_succ_of_le h3)) _⟩

theorem measure_result {cur pm : Nat} {cfg : Config} {st : SearchState} (hs : SOk cur pm cfg st) (pn : Nat)
    (hfl : st.inFlightProbe = some pn) : measure st.cleared < measure st ∧ measure st.lostOne < measure st := by
  have hne : st.inFlightProbe ≠ none := by rw [hfl]; nofun
  have hl := hs.lost_fl hne
  obtain ⟨h1, h2, h3⟩ := measure_arith st.lowerBound st.lastProbedMtu st.upperBound st.lostProbeCount
    (by rw [(hs.busy (Or.inl hne)).1]; exact (hs.busy (Or.inl hne)).2) hs.last_up hl
  rw [measure_busy st (Or.inl hne), measure_idle st.cleared rfl rfl]
  refine ⟨h1, ?_⟩
  by_cases hl2 : st.lostProbeCount = 2
  · rw [measure_given_up st.lostOne rfl (by rw [hl2]; exact Nat.le_refl 3 : 3 ≤ st.lostProbeCount + 1)]
    exact h2
  · rw [measure_busy st.lostOne (Or.inr ⟨Nat.succ_pos _, Nat.succ_lt_succ (Nat.lt_of_le_of_ne hl hl2)⟩)]
    exact h3

theorem measure_step (s : State) (op : Op) (hi : SInv s) (hc : Contract s op) (hp : (step s op).2 ≠ .panic)
    (st st' : SearchState) (h : searchOf s = some st) (h' : searchOf (step s op).1 = some st') :
    measure st' ≤ measure st ∧ (isProbeResult op (step s op).2 = true → measure st' < measure st) := by
  obtain ⟨e, he, hph⟩ := (searchOf_iff s st).1 h
  obtain ⟨h3, hs⟩ := hi e he
  have running : ∀ e0 st0, s.state = some e0 → e0.phase = .searching st0 → e0 = e ∧ st0 = st := by
    intro e0 st0 he0 hph0
    rw [he] at he0; cases he0
    rw [hph] at hph0; cases hph0
    exact ⟨rfl, rfl⟩
  have hstep := step_stepped s op
  generalize step s op = r at hstep hp h'
  cases hstep with
  | poll e0 R he0 hR =>
    rw [he] at he0; cases he0
    obtain ⟨e', he', hph'⟩ := (searchOf_iff _ st').1 h'
    cases he'
    exact ⟨Nat.le_of_eq (((hR.ok h3 hs).search st' hph').2 st hph), nofun⟩
  | ackedProbe e0 st0 he0 hph0 hfl =>
    obtain ⟨rfl, rfl⟩ := running e0 st0 he0 hph0
    cases h'
    have := (measure_result (hs st0 hph) _ hfl).1
    exact ⟨Nat.le_of_lt this, fun _ => this⟩
  | probeLost e0 st0 he0 hph0 =>
    obtain ⟨q, hfl⟩ := lost_in_flight he0 hph0 hc
    obtain ⟨rfl, rfl⟩ := running e0 st0 he0 hph0
    cases h'
    have := (measure_result (hs st0 hph) q hfl).2
    exact ⟨Nat.le_of_lt this, fun _ => this⟩
  | lostPanic | peerMaxPanic => exact absurd rfl hp
  | blackHole d hb =>
    simp only [searchOf, he, Option.map_some, Enabled.onBlackHoleDetected] at h'
    cases h'
  | peerMax e0 he0 hns => rw [he] at he0; cases he0; exact absurd hph (hns st)
  | resetOff | reset => cases h'
  | lostIdle hn => exact absurd hph (hn e he st)
  | pollOff | notData | ackedOther | nonProbeLost | noBlackHole | peerMaxOff =>
    have : searchOf s = some st' := h'
    rw [h] at this; cases this
    exact ⟨Nat.le_refl _, nofun⟩

theorem poll_progress (s : State) (hi : SInv s) (now pn : Nat) (st : SearchState) (h : searchOf s = some st)
    (hfl : st.inFlightProbe = none) :
    (∃ p, (step s (.poll now pn)).2 = .probe (some p))
    ∨ ((step s (.poll now pn)).2 = .probe none ∧ searchOf (step s (.poll now pn)).1 = none) := by
  obtain ⟨e, he, hph⟩ := (searchOf_iff s st).1 h
  obtain ⟨h3, hs⟩ := hi e he
  have hstep := step_stepped s (.poll now pn)
  generalize step s (.poll now pn) = r at hstep ⊢
  cases hstep with
  | pollOff hn => rw [he] at hn; cases hn
  | poll e0 R he0 hR =>
    rw [he] at he0; cases he0
    have hnp := (hR.ok h3 hs).noPanic
    obtain ⟨e', _ | _ | p⟩ := R
    · exact absurd rfl hnp
    · obtain ⟨t, ht⟩ := (hR.slot.2 rfl).2 st hph hfl
      exact Or.inr ⟨rfl, by simp only [searchOf]; rw [ht]⟩
    · exact Or.inl ⟨p, rfl⟩

theorem new_panics_iff (i m : Nat) (p : Option Nat) (cfg : Config) : Mtud.new i m p cfg = none ↔ i < m := by
  unfold Mtud.new
  by_cases h : i < m
  · have : Gen.mtudNewOk i m = false := by simp [Gen.mtudNewOk]; omega
    simp [this, h]
  · have : Gen.mtudNewOk i m = true := by simp [Gen.mtudNewOk]; omega
    simp only [this, Bool.not_true, Bool.false_eq_true, if_false, h, iff_false]
    cases p <;> simp

/-- how an `MtuDiscovery` comes into being: `new` (not panicking) or `disabled` -/
def Start (s0 : State) : Prop :=
  (∃ i m p cfg, Mtud.new i m p cfg = some s0) ∨ (∃ i m, s0 = disabled i m)

theorem new_eq (i m : Nat) (p : Option Nat) (cfg : Config) (s : State) (h : Mtud.new i m p cfg = some s) :
    m ≤ i ∧ s = { currentMtu := p.elim i (Nat.min i),
                  state := some ⟨.initial, p.getD Gen.maxUdpPayload, cfg⟩, det := Detector.new m,
                  peerMax := p.getD Gen.maxUdpPayload } := by
  have hle : m ≤ i := Nat.le_of_not_lt (fun hlt => by rw [(new_panics_iff i m p cfg).2 hlt] at h; cases h)
  have hok : Gen.mtudNewOk i m = true := decide_eq_true hle
  simp only [Mtud.new, hok, Bool.not_true, Bool.false_eq_true, if_false] at h
  cases p <;> cases h <;> exact ⟨hle, rfl⟩

theorem start_cases (s0 : State) (h : Start s0) :
    s0.det.bursts = [] ∧ (s0.state = none ∨ ∃ cfg, s0.state = some ⟨.initial, s0.peerMax, cfg⟩) := by
  rcases h with ⟨i, m, p, cfg, h⟩ | ⟨i, m, rfl⟩
  · obtain ⟨_, rfl⟩ := new_eq i m p cfg s0 h
    exact ⟨rfl, Or.inr ⟨cfg, rfl⟩⟩
  · exact ⟨rfl, Or.inl rfl⟩

theorem start_ginv (s0 : State) (h : Start s0) : GInv s0 := by
  obtain ⟨hd, hs⟩ := start_cases s0 h
  refine ⟨fun e he => ?_, by rw [hd]; exact Nat.zero_le _⟩
  rcases hs with hs | ⟨cfg, hs⟩ <;> rw [hs] at he <;> cases he
  exact ⟨rfl, nofun⟩

theorem start_slot (s0 : State) (h : Start s0) : slot s0 = none := by
  rcases (start_cases s0 h).2 with hs | ⟨cfg, hs⟩ <;> simp only [slot, hs] <;> rfl

def configOf (s : State) : Option Config := s.state.map (·.config)

theorem start_sinv (s0 : State) (h : Start s0) (h3 : ∀ cfg, configOf s0 = some cfg → 3 ≤ cfg.minimumChange) : SInv s0 := by
  intro e he
  refine ⟨h3 e.config (by simp only [configOf, he, Option.map_some]), fun st hph => ?_⟩
  rcases (start_cases s0 h).2 with hs | ⟨cfg, hs⟩ <;> rw [hs] at he <;> cases he
  cases hph

/-- as `Start`, with what `PathData::new` guarantees for `disabled` too: the initial MTU is at least `min_mtu`
    (`new` asserts it) -/
def StartOk (s0 : State) : Prop :=
  (∃ i m p cfg, Mtud.new i m p cfg = some s0) ∨ (∃ i m, m ≤ i ∧ s0 = disabled i m)

theorem StartOk.start {s0 : State} (h : StartOk s0) : Start s0 := h.imp id (fun ⟨i, m, _, h⟩ => ⟨i, m, h⟩)

theorem start_floor (s0 : State) (h : StartOk s0) : Floor s0 := by
  unfold Floor
  rcases h with ⟨i, m, p, cfg, h⟩ | ⟨i, m, hle, rfl⟩
  · obtain ⟨hle, rfl⟩ := new_eq i m p cfg s0 h
    cases p with
    | none => exact Nat.le_trans (Nat.min_le_left _ _) hle
    | some v => exact Nat.le_min.2 ⟨Nat.le_trans (Nat.min_le_left _ _) hle, Nat.min_le_right _ _⟩
  · exact Nat.le_trans (Nat.min_le_left _ _) hle

theorem start_ceil (s0 : State) (h : Start s0) (hi : s0.currentMtu ≤ Gen.maxUdpPayload) : Ceil s0 := by
  unfold Ceil
  rcases h with ⟨i, m, p, cfg, h⟩ | ⟨i, m, rfl⟩
  · obtain ⟨_, rfl⟩ := new_eq i m p cfg s0 h
    cases p with
    | none => exact hi
    | some v => exact Nat.min_le_right _ _
  · exact hi

theorem exec_ginv (s0 : State) (h : GInv s0) (ops : List Op) : GInv (exec s0 ops) :=
  exec_induct GInv (fun s op hg hp => step_ginv s op hg hp) ops s0 h

theorem exec_sinv (s0 : State) (h : SInv s0) (ops : List Op) (hc : okRun Contract s0 ops) : SInv (exec s0 ops) :=
  exec_induct_okRun Contract SInv (fun s op hi hc hp => step_sinv s op hi hc hp) ops s0 h hc

def FloorRun (s : State) (op : Op) : Prop := Contract s op ∧ ResetContract s op ∧ PeerMonotone s op

theorem exec_floor (s0 : State) (hg : GInv s0) (h : SInv s0) (hf : Floor s0) (ops : List Op)
    (hc : okRun FloorRun s0 ops) : Floor (exec s0 ops) :=
  (exec_induct_okRun FloorRun (fun s => GInv s ∧ SInv s ∧ Floor s)
    (fun s op ⟨hg, hi, hf⟩ ⟨hc, hr, hm⟩ hp => ⟨step_ginv s op hg hp, step_sinv s op hi hc hp,
      step_floor s op (fun e he => (hg.enabled e he).1) hi hf hr hm⟩) ops s0 ⟨hg, h, hf⟩ hc).2.2

theorem exec_ceil (s0 : State) (h : GInv s0) (hc : Ceil s0) (ops : List Op) : Ceil (exec s0 ops) :=
  (exec_induct (fun s => GInv s ∧ Ceil s)
    (fun s op hi hp => ⟨step_ginv s op hi.1 hp, step_ceil s op hi.1 hi.2⟩) ops s0 ⟨h, hc⟩).2

/-- callers pass `u16` values to `on_peer_max_udp_payload_size_received` -/
def U16Args (_ : State) : Op → Prop
  | .peerMax v => v < 65536
  | _ => True

/-- so the `as u16` casts of the Rust never truncate: the bounds of a search stay below the remembered peer limit
    (`GInv`), and that is a `u16` -/
theorem exec_u16 (s0 : State) (hg : GInv s0) (hi : s0.peerMax < 65536) (ops : List Op) (hc : okRun U16Args s0 ops) :
    ∀ e st, (exec s0 ops).state = some e → e.phase = .searching st →
      st.lowerBound < 65536 ∧ st.upperBound < 65536 ∧ st.lastProbedMtu < 65536 := by
  obtain ⟨hg', h2⟩ := exec_induct_okRun U16Args (fun s => GInv s ∧ s.peerMax < 65536)
    (fun s op ⟨hg, hlt⟩ hc hp => ⟨step_ginv s op hg hp, by
      rw [(step_limits s op).1 (fun e he => (hg.enabled e he).1)]
      cases op with
      | peerMax v => exact hc
      | _ => exact hlt⟩) ops s0 ⟨hg, hi⟩ hc
  intro e st he hph
  obtain ⟨hpm, hgok⟩ := hg'.enabled e he
  have h1 := hgok st hph
  rw [← hpm] at h2
  exact ⟨Nat.lt_of_le_of_lt h1.lo h2, Nat.lt_of_le_of_lt h1.up h2, Nat.lt_of_le_of_lt h1.last h2⟩

theorem start_u16 (s0 : State)
    (h : (∃ i m p cfg, Mtud.new i m p cfg = some s0 ∧ ∀ v, p = some v → v < 65536) ∨ (∃ i m, s0 = disabled i m)) :
    s0.peerMax < 65536 := by
  have hmax : Gen.maxUdpPayload < 65536 := by decide
  rcases h with ⟨i, m, p, cfg, h, hp⟩ | ⟨i, m, rfl⟩
  · obtain ⟨_, rfl⟩ := new_eq i m p cfg s0 h
    cases p with
    | none => exact hmax
    | some v => exact hp v rfl
  · exact hmax

/-! `minimum_change = 0`: the search never ends (configuration finding F8) -/

def cfg0 : Config := Config.make 0 1200 0 0

/-- searching between 1200 and 1200 with `minimum_change = 0`, nothing in flight -/
def stuck (d : Detector) : State :=
  { currentMtu := 1200, state := some ⟨.searching ⟨1200, 1200, 0, 1200, none, 0⟩, Gen.maxUdpPayload, cfg0⟩, det := d,
    peerMax := Gen.maxUdpPayload }

/-- one round: poll (returns a probe), then that probe is acknowledged -/
def round (s : State) (pn : Nat) : State := (step (step s (.poll 0 pn)).1 (.acked true pn 1200)).1

theorem stuck_round (d : Detector) (pn : Nat) :
    (step (stuck d) (.poll 0 pn)).2 = .probe (some 1200) ∧ round (stuck d) pn = stuck (d.onProbeAcked pn 1200) := by
  have h1 : step (stuck d) (.poll 0 pn) =
      ({ currentMtu := 1200, state := some ⟨.searching ⟨1200, 1200, 0, 1200, some pn, 0⟩, Gen.maxUdpPayload, cfg0⟩, det := d,
         peerMax := Gen.maxUdpPayload },
       .probe (some 1200)) := by
    simp [step, stuck, pollTransmit, Enabled.pollTransmit, Enabled.pollSearching, Gen.mtudRetransmit,
      Gen.mtudLastProbeSucceeded, SearchState.nextMtuToProbe, SearchState.pick, Gen.mtudMidpoint, Gen.mtudStop]
  refine ⟨by rw [h1], ?_⟩
  unfold round
  rw [h1]
  simp [step, onAcked, Enabled.onProbeAcked, stuck]

def rounds : Nat → State → State
  | 0, s => s
  | n + 1, s => rounds n (round s n)

theorem stuck_forever (n : Nat) : ∀ d, ∃ d', rounds n (stuck d) = stuck d' := by
  induction n with
  | zero => intro d; exact ⟨d, rfl⟩
  | succ n ih => intro d; simp only [rounds, (stuck_round d n).2]; exact ih _

end QM.Mtud
