import QuinnModel.Conn.TokenFlow
import QuinnModel.Lemmas.TokenCache
/- Client-side token flow: every token is in the Initials of at most one attempt (proof of Props/C14_flow). -/
namespace QM.TokenFlow
open TokenCache (allToks)

variable {α : Type}

/-- attempt `j` currently carries token `a` -/
def holds (l : List (Attempt α)) (j : Nat) (a : α) : Prop := ∃ n, l[j]? = some ⟨n, some a⟩

theorem holds_append {l : List (Attempt α)} {x : Attempt α} {j : Nat} {a : α} (h : holds (l ++ [x]) j a) :
    holds l j a ∨ (j = l.length ∧ x.token = some a) := by
  obtain ⟨n, hn⟩ := h
  rcases Nat.lt_trichotomy j l.length with hj | hj | hj
  · exact Or.inl ⟨n, by rwa [List.getElem?_append_left hj] at hn⟩
  · rw [hj, List.getElem?_concat_length] at hn
    exact Or.inr ⟨hj, by rw [Option.some.inj hn]⟩
  · rw [List.getElem?_eq_none (by rw [List.length_append, List.length_singleton]; omega)] at hn
    nomatch hn

theorem holds_setToken {l : List (Attempt α)} {i : Nat} {t : Option α} {j : Nat} {a : α}
    (h : holds (setToken l i t) j a) : (j = i ∧ t = some a) ∨ (j ≠ i ∧ holds l j a) := by
  by_cases hji : j = i
  · subst hji
    refine Or.inl ⟨rfl, ?_⟩
    revert h
    fun_cases setToken l j t
    case case1 x hx =>
      rintro ⟨n, hn⟩
      rw [List.getElem?_set_self (List.getElem?_eq_some_iff.mp hx).1] at hn
      exact (Attempt.mk.inj (Option.some.inj hn)).2
    case case2 hx => exact fun ⟨n, hn⟩ => nomatch hx.symm.trans hn
  · refine Or.inr ⟨hji, ?_⟩
    revert h
    fun_cases setToken l i t
    case case1 x hx =>
      rintro ⟨n, hn⟩
      exact ⟨n, by rwa [List.getElem?_set_ne (Ne.symm hji)] at hn⟩
    case case2 => exact id

variable [DecidableEq α]

/-- attempt `j` is the only place where token `a` lives -/
structure Owned (c : TokenCache.State α) (l : List (Attempt α)) (iss : List α) (j : Nat) (a : α) : Prop where
  issued : a ∈ iss
  notCached : (allToks c.lru).count a = 0
  unique : ∀ k, holds l k a → k = j

theorem Owned.transfer {c c' : TokenCache.State α} {l l' : List (Attempt α)} {iss iss' : List α} {j : Nat} {a : α}
    (h : Owned c l iss j a) (hiss : ∀ x ∈ iss, x ∈ iss') (hc : (allToks c'.lru).count a ≤ (allToks c.lru).count a)
    (hh : ∀ k, holds l' k a → holds l k a) : Owned c' l' iss' j a :=
  ⟨hiss a h.issued, Nat.le_zero.mp (h.notCached ▸ hc), fun k hk => h.unique k (hh k hk)⟩

/-- invariant of a run, `iss` = the tokens servers issued to this client so far -/
structure Inv (s : St α) (iss : List α) : Prop where
  cinv : TokenCache.Inv s.cache
  cacheLe : ∀ a, (allToks s.cache.lru).count a ≤ iss.count a
  held : ∀ j a, holds s.attempts j a → Owned s.cache s.attempts iss j a
  wire : ∀ i a, (i, a) ∈ s.wire → Owned s.cache s.attempts iss i a
  once : ∀ i j a, (i, a) ∈ s.wire → (j, a) ∈ s.wire → i = j

theorem init_inv (a b : Nat) : Inv (init a b : St α) [] :=
  ⟨TokenCache.init_inv a b, fun _ => Nat.le_refl _, fun _ _ ⟨_, hn⟩ => (nomatch hn), fun _ _ h => (nomatch h),
    fun _ _ _ h => (nomatch h)⟩

theorem Inv.grow {s : St α} {iss : List α} (h : Inv s iss) (extra : List α) : Inv s (iss ++ extra) :=
  ⟨h.cinv, fun a => by have := h.cacheLe a; rw [List.count_append]; omega,
    fun j a hj => (h.held j a hj).transfer (fun _ => List.mem_append_left _) (Nat.le_refl _) fun _ hk => hk,
    fun i a hi => (h.wire i a hi).transfer (fun _ => List.mem_append_left _) (Nat.le_refl _) fun _ hk => hk, h.once⟩

theorem step_inv (s : St α) (iss : List α) (h : Inv s iss) (e : Ev α) (hnd : (iss ++ issued [e]).Nodup) :
    ∃ s', step s e = some s' ∧ Inv s' (iss ++ issued [e]) := by
  -- a token issued by this event is new
  have hfresh : ∀ tok, issued [e] = [tok] → tok ∉ iss ∧ (allToks s.cache.lru).count tok = 0 := by
    intro tok he
    rw [he] at hnd
    have hf : tok ∉ iss := fun hm => (List.nodup_append.mp hnd).2.2 tok hm tok (List.mem_singleton.mpr rfl) rfl
    exact ⟨hf, by have := h.cacheLe tok; have := List.count_eq_zero.mpr hf; omega⟩
  -- branches: `connect` (cache panics / answers), `sendInitial` (with a token / without), `retry`, `newToken`
  -- (cache panics / answers / no such attempt), `initialKeysDiscarded`, `ended`
  fun_cases step s e
  case case1 n hx =>
    obtain ⟨_, _, hc, _⟩ := TokenCache.take_spec s.cache h.cinv n
    exact nomatch hx.symm.trans hc
  case case2 n c o hx =>
    obtain ⟨c', o', hc, hci, _, _, hcnt⟩ := TokenCache.take_spec s.cache h.cinv n
    obtain ⟨rfl, rfl⟩ := Prod.mk.inj (Option.some.inj (hc.symm.trans hx))
    refine ⟨_, rfl, Inv.grow (iss := iss) ?_ _⟩
    have hle : ∀ a, (allToks c'.lru).count a ≤ (allToks s.cache.lru).count a := fun a => by have := hcnt a; omega
    -- the new attempt's token was in the cache, so nobody held it and it was never on the wire
    have hnew : ∀ a, o' = some a → a ∈ iss ∧ (allToks c'.lru).count a = 0 ∧ 1 ≤ (allToks s.cache.lru).count a := by
      intro a ha
      have h1 := hcnt a
      rw [ha, Option.toList_some, List.count_cons_self, List.count_nil] at h1
      have h2 := h.cacheLe a
      have h3 := List.nodup_iff_count.mp (List.nodup_append.mp hnd).1 a
      exact ⟨List.count_pos_iff.mp (by omega), by omega, by omega⟩
    have keep : ∀ {j a}, Owned s.cache s.attempts iss j a → Owned c' (s.attempts ++ [⟨n, o'⟩]) iss j a :=
      fun ho => ho.transfer (fun _ hx => hx) (hle _) fun k hk => (holds_append hk).elim id fun ⟨_, htok⟩ => by
        have := (hnew _ htok).2.2; have := ho.notCached; omega
    refine ⟨hci, fun a => Nat.le_trans (hle a) (h.cacheLe a), fun j a hj => ?_, fun i a hi => keep (h.wire i a hi),
      h.once⟩
    rcases holds_append hj with hold | ⟨hjl, htok⟩
    · exact keep (h.held j a hold)
    · obtain ⟨h1, h2, h3⟩ := hnew a htok
      refine ⟨h1, h2, fun k hk => ?_⟩
      rcases holds_append hk with hkold | ⟨hkl, _⟩
      · have := (h.held k a hkold).notCached; omega
      · omega
  case case3 i n t hi =>
    refine ⟨_, rfl, Inv.grow (iss := iss) ?_ _⟩
    have hh : holds s.attempts i t := ⟨n, hi⟩
    -- an entry of the new wire is an old one or the pair just sent, which its attempt holds
    have split : ∀ {i' a}, (i', a) ∈ s.wire ++ [(i, t)] → (i', a) ∈ s.wire ∨ (i' = i ∧ a = t) := fun hm =>
      (List.mem_append.mp hm).imp_right fun hn => Prod.mk.inj (List.mem_singleton.mp hn)
    refine ⟨h.cinv, h.cacheLe, h.held, fun i' a hi' => ?_, fun i' j' a hi' hj' => ?_⟩
    · rcases split hi' with hold | ⟨rfl, rfl⟩
      · exact h.wire i' a hold
      · exact h.held _ _ hh
    · rcases split hi' with ho1 | ⟨e1, a1⟩ <;> rcases split hj' with ho2 | ⟨e2, a2⟩
      · exact h.once i' j' a ho1 ho2
      · subst e2 a2; exact ((h.wire i' _ ho1).unique _ hh).symm
      · subst e1 a1; exact (h.wire j' _ ho2).unique _ hh
      · exact e1.trans e2.symm
  case case4 => exact ⟨s, rfl, h.grow _⟩
  case case5 i tok =>
    obtain ⟨hf, hc0⟩ := hfresh tok rfl
    refine ⟨_, rfl, ?_⟩
    have keep : ∀ {j a}, Owned s.cache s.attempts iss j a →
        Owned s.cache (setToken s.attempts i (some tok)) (iss ++ [tok]) j a :=
      fun ho => ho.transfer (fun _ => List.mem_append_left _) (Nat.le_refl _) fun k hk =>
        (holds_setToken hk).elim (fun ⟨_, hta⟩ => absurd (Option.some.inj hta ▸ ho.issued) hf) (·.2)
    refine ⟨h.cinv, (h.grow [tok]).cacheLe, fun j a hj => ?_, fun i' a hi' => keep (h.wire i' a hi'), h.once⟩
    rcases holds_setToken hj with ⟨rfl, hta⟩ | ⟨_, hold⟩
    · obtain rfl := Option.some.inj hta
      refine ⟨List.mem_append_right _ (List.mem_singleton.mpr rfl), hc0, fun k hk => ?_⟩
      rcases holds_setToken hk with ⟨hki, _⟩ | ⟨_, hkold⟩
      · exact hki
      · exact absurd (h.held k _ hkold).issued hf
    · exact keep (h.held j a hold)
  case case6 i tok x _ hx =>
    obtain ⟨_, hc, _⟩ := TokenCache.store_spec s.cache h.cinv x.name tok
    exact nomatch hx.symm.trans hc
  case case7 i tok x _ c hx =>
    obtain ⟨hf, _⟩ := hfresh tok rfl
    obtain ⟨c', hc, hci, _, _, hcnt⟩ := TokenCache.store_spec s.cache h.cinv x.name tok
    obtain rfl := Option.some.inj (hc.symm.trans hx)
    refine ⟨_, rfl, ?_⟩
    have keep : ∀ {j a}, Owned s.cache s.attempts iss j a → Owned c' s.attempts (iss ++ [tok]) j a :=
      fun {j a} ho => ho.transfer (fun _ => List.mem_append_left _) (by
        have h1 := hcnt a
        have : [tok].count a = 0 := List.count_eq_zero.mpr fun hm => hf (List.mem_singleton.mp hm ▸ ho.issued)
        omega) fun _ hk => hk
    exact ⟨hci, fun a => by have := hcnt a; have := h.cacheLe a; show (allToks c'.lru).count a ≤ (iss ++ [tok]).count a; rw [List.count_append]; omega,
      fun j a hj => keep (h.held j a hj), fun i' a hi' => keep (h.wire i' a hi'), h.once⟩
  case case8 i tok _ => exact ⟨s, rfl, h.grow [tok]⟩
  case case9 i =>
    refine ⟨_, rfl, Inv.grow (iss := iss) ?_ _⟩
    have back : ∀ {k a}, holds (setToken s.attempts i none) k a → holds s.attempts k a := fun hk =>
      (holds_setToken hk).elim (fun ⟨_, hta⟩ => nomatch hta) (·.2)
    have keep : ∀ {j a}, Owned s.cache s.attempts iss j a → Owned s.cache (setToken s.attempts i none) iss j a :=
      fun ho => ho.transfer (fun _ hx => hx) (Nat.le_refl _) fun _ => back
    exact ⟨h.cinv, h.cacheLe, fun j a hj => keep (h.held j a (back hj)), fun i' a hi' => keep (h.wire i' a hi'),
      h.once⟩
  case case10 => exact ⟨s, rfl, h.grow _⟩

omit [DecidableEq α] in
theorem issued_cons (e : Ev α) (es : List (Ev α)) : issued (e :: es) = issued [e] ++ issued es := by
  cases e <;> simp [issued]

theorem run_inv (evs : List (Ev α)) : ∀ (s : St α) (iss : List α), Inv s iss → (iss ++ issued evs).Nodup →
    ∃ s', run s evs = some s' ∧ Inv s' (iss ++ issued evs) := by
  induction evs with
  | nil => intro s iss h _; exact ⟨s, rfl, by simpa [issued] using h⟩
  | cons e es ih =>
    intro s iss h hnd
    rw [issued_cons, ← List.append_assoc] at hnd
    have hnd1 : (iss ++ issued [e]).Nodup := (List.nodup_append.mp hnd).1
    obtain ⟨s1, hs1, hi1⟩ := step_inv s iss h e hnd1
    obtain ⟨s2, hs2, hi2⟩ := ih s1 (iss ++ issued [e]) hi1 hnd
    refine ⟨s2, by simp only [run, hs1, hs2], ?_⟩
    rw [issued_cons, ← List.append_assoc]; exact hi2

end QM.TokenFlow
