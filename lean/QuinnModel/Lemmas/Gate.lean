import QuinnModel.Recovery.Gate
namespace QM.Gate

theorem admitted_iff (inFlight bytesToSend window : Nat) :
    admitted inFlight bytesToSend window = true ↔ inFlight + bytesToSend < window := by
  simp only [admitted, Gen.congestionBlocked, Bool.not_eq_true', decide_eq_false_iff_not, Nat.not_le]

theorem gate_guarantee (inFlight bytesToSend window size : Nat) (hs : size ≤ bytesToSend) :
    (admitted inFlight bytesToSend window = true → inFlight + size < window) ∧
    (admitted inFlight bytesToSend window = false → window ≤ inFlight + bytesToSend) :=
  ⟨fun h => Nat.lt_of_le_of_lt (Nat.add_le_add_left hs _) ((admitted_iff ..).1 h),
   fun h => Nat.le_of_not_lt (mt (admitted_iff ..).2 (Bool.eq_false_iff.1 h))⟩

/-- the running total of a burst: `none` once a datagram is refused -/
def burst (window : Nat) (acc : Option Nat) (p : Nat × Nat) : Option Nat :=
  match acc with
  | some f => if admitted f p.2 window then some (f + p.1) else none
  | none => none

theorem foldl_burst_none (window : Nat) (l : List (Nat × Nat)) : l.foldl (burst window) none = none := by
  induction l with
  | nil => rfl
  | cons _ _ ih => exact ih

end QM.Gate
