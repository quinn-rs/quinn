import QuinnModel.Lemmas.StreamsProgress
import QuinnModel.Lemmas.StreamsC06
/-
C02 — no lost `Readable`: every STREAM frame / RESET_STREAM that is accepted on a receiving half the
application has not stopped tells the application: `Readable` is queued when the application already
holds the stream (locally initiated, or reported by `Opened` before: index < next_remote), otherwise the
`Opened` flag of its direction is raised and the stream lies below `next_remote` (so `accept` hands it out).
-/
namespace QM.Streams

/-- how the application learns that stream `id` has something to read -/
def Notified (s s' : State) (id : Nat) : Prop :=
  if sidInitiator id = s.side ∨ sidIndex id < s.nextRemote.get (sidDir id) then Event.readable id ∈ s'.events
  else s'.opened.get (sidDir id) = true ∧ sidIndex id < s'.nextRemote.get (sidDir id)

/-- what `Notified` gives an application that polls until nothing is reported -/
theorem Notified.delivered {s s' : State} {id : Nat} (hn : Notified s s' id) (fuel : Nat) :
    ((sidInitiator id = s.side ∨ sidIndex id < s.nextRemote.get (sidDir id)) →
      Event.readable id ∈ s'.events ∧
      (pollMeasure s' ≤ fuel → ∀ es s'', drain fuel s' = some (es, s'') → Event.readable id ∈ es)) ∧
    (¬ (sidInitiator id = s.side ∨ sidIndex id < s.nextRemote.get (sidDir id)) →
      s'.opened.get (sidDir id) = true ∧ sidIndex id < s'.nextRemote.get (sidDir id)) := by
  unfold Notified at hn
  constructor
  · intro hh
    rw [if_pos hh] at hn
    exact ⟨hn, fun hf es s'' hd => queued_event_delivered fuel _ _ hn hf es s'' hd⟩
  · intro hh
    rw [if_neg hh] at hn
    exact hn

theorem onStreamFrame_notifies (s0 s : State) (id : Nat) (h1 : s.side = s0.side) (h2 : s.nextRemote = s0.nextRemote) :
    Notified s0 (s.onStreamFrame true id) id := by
  unfold Notified State.onStreamFrame
  rw [h1, h2]
  by_cases hl : sidInitiator id = s0.side
  · simp [hl]
  · simp only [hl, false_or, ↓reduceIte]
    by_cases hi : sidIndex id < s0.nextRemote.get (sidDir id)
    · have : ¬ sidIndex id ≥ s0.nextRemote.get (sidDir id) := by omega
      simp [hi, this]
    · have : sidIndex id ≥ s0.nextRemote.get (sidDir id) := by omega
      simp only [hi, this, ↓reduceIte, Two.get_set]
      exact ⟨trivial, by omega⟩

theorem ingest_stopped {r r' : Recv} {off len rcv md nb : Nat} {fin cl : Bool}
    (h : r.ingest off len fin rcv md = some (.ok (nb, cl, r'))) : r'.stopped = r.stopped := by
  rcases ingest_cases h with ⟨_, he⟩ | ⟨_, _, he⟩ | ⟨_, _, _, he⟩ | ⟨_, _, _, _, _, he, _, _, e3, _⟩
  · cases he
  · cases he
  · cases he
  · cases he; exact e3

/-- STREAM frame accepted on a receiving half that is receiving and not stopped: the application is told -/
theorem received_notifies {s s' s1 : State} {id off len : Nat} {fin t : Bool} {rs : Recv}
    (h : s.received id off len fin = some (s', .ok t))
    (hg : s.getOrInsertRecv id = some (rs, s1)) (hrecv : rs.isReceiving = true) (hst : rs.stopped = false) :
    Notified s s' id := by
  obtain ⟨_, rfl⟩ := getOrInsertRecv_eq hg
  unfold State.received at h
  split at h
  · simp at h
  · rw [hg] at h
    simp only [hrecv, Bool.not_true, Bool.false_eq_true, ↓reduceIte] at h
    split at h
    · contradiction
    · simp at h
    · rename_i nb cl rs' hin
      have hs' : rs'.stopped = false := by rw [ingest_stopped hin, hst]
      simp only [hs', Bool.not_false, ↓reduceIte, Option.some.injEq, Prod.mk.injEq] at h
      rw [← h.1]
      exact onStreamFrame_notifies s _ id rfl rfl

theorem Recv.reset_stopped {r r' : Recv} {code fo rcv md : Nat}
    (h : r.reset code fo rcv md = some (.ok (true, r'))) : r'.stopped = r.stopped := by
  obtain ⟨_, _, ⟨hb, _⟩ | ⟨_, _, rfl⟩⟩ := reset_ok h
  · cases hb
  · rfl

/-- RESET_STREAM that takes effect on a receiving half the application has not stopped: the application is told -/
theorem receivedReset_notifies {s s' s1 : State} {id code fo : Nat} {t : Bool} {rs rs' : Recv}
    (h : s.receivedReset id code fo = some (s', .ok t))
    (hg : s.getOrInsertRecv id = some (rs, s1))
    (hr : rs.reset code fo s1.dataRecvd s1.localMaxData = some (.ok (true, rs'))) (hst : rs.stopped = false) :
    Notified s s' id := by
  obtain ⟨m, rfl⟩ := getOrInsertRecv_eq hg
  have hs' : rs'.stopped = false := by rw [Recv.reset_stopped hr, hst]
  unfold State.receivedReset at h
  split at h
  · simp at h
  rw [hg] at h
  simp only [hr] at h
  simp only [hs', State.freeRecvIf, Bool.false_eq_true, ↓reduceIte, Bool.not_false] at h
  have hn := onStreamFrame_notifies s (State.putRecv { s with recv := m } id rs') id rfl rfl
  split at h
  · split at h
    · contradiction
    split at h
    · contradiction
    split at h
    · contradiction
    next s6 t' hc =>
    obtain ⟨_, _, _, rfl⟩ := creditAndQueue_eq hc
    cases h
    unfold Notified at hn ⊢
    exact hn
  · cases h; exact hn

end QM.Streams
