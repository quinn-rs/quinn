import QuinnModel.Conn.Amplification
import QuinnModel.Lemmas.Runs
namespace QM.Amp

theorem gate_open (p : Path) (seg i : Nat) (hv : p.validated = false)
    (hb : ¬ Gen.antiAmpBlocked p.validated p.sent p.recvd (Gen.antiAmpGateArg seg i) = true) :
    p.sent + (seg * i + 1) ≤ p.recvd * 3 := by
  simp [Gen.antiAmpBlocked, Gen.antiAmpGateArg, hv] at hb
  exact Nat.not_lt.1 (of_decide_eq_false hb)

/-- `acc` = bytes of the `i` earlier datagrams of this call. The gate was open before the last datagram emitted, and that
    datagram is at most `M`. -/
theorem emit_bound (p : Path) (seg M : Nat) (hseg : seg ≤ M) (hv : p.validated = false) (sizes : List Nat) (i acc : Nat)
    (hacc : acc ≤ seg * i) (hs : ∀ s ∈ sizes, s ≤ seg) :
    emit p seg i sizes = [] ∨ p.sent + acc + (emit p seg i sizes).sum + 1 ≤ 3 * p.recvd + M := by
  fun_induction emit p seg i sizes generalizing acc
  case case1 => exact .inl rfl
  case case2 => exact .inl rfl
  case case3 i s rest hb ih =>
    right
    have hs0 : s ≤ seg := hs s (by simp)
    have hgate := gate_open p seg i hv hb
    rcases ih (acc + s) (by rw [Nat.mul_succ]; omega) (fun x hx => hs x (by simp [hx])) with h | h
    · rw [h]; simp; omega
    · simp only [List.sum_cons]; omega

/-- per-datagram form of the gate: what the simulator's oracle checks on the real code -/
theorem emit_gate (p : Path) (seg : Nat) (hv : p.validated = false) (sizes : List Nat) (i acc : Nat)
    (hacc : acc ≤ seg * i) (hs : ∀ s ∈ sizes, s ≤ seg) (k : Nat) (hk : k < (emit p seg i sizes).length) :
    p.sent + acc + ((emit p seg i sizes).take k).sum < 3 * p.recvd := by
  fun_induction emit p seg i sizes generalizing acc k
  case case1 => cases hk
  case case2 => cases hk
  case case3 i s rest hb ih =>
    have hgate := gate_open p seg i hv hb
    cases k with
    | zero => simp; omega
    | succ k =>
      simp only [List.take_succ_cons, List.sum_cons]
      have hs0 : s ≤ seg := hs s (by simp)
      have := ih (acc + s) (by rw [Nat.mul_succ]; omega) (fun x hx => hs x (by simp [hx])) k (by simpa using hk)
      omega

/-- the invariant: an unvalidated path has been sent at most 3× what it sent us, plus the documented
    allowance of completing one datagram (M = largest datagram) -/
def Inv (M : Nat) (p : Path) : Prop := p.validated = false → p.sent + 1 ≤ 3 * p.recvd + M

theorem step_inv (M : Nat) (hM : 0 < M) (p : Path) (e : Ev) (hw : e.wf M) (h : Inv M p) : Inv M (step p e) := by
  cases e with
  | recv n => intro hv; have := h hv; simp only [step] at *; omega
  | foreign n => exact h
  | handshakePacketProcessed => intro hv; simp [step] at hv
  | tokenValidated => intro hv; simp [step] at hv
  | pathResponseMatched => intro hv; simp [step] at hv
  | migrate n => intro _; simp only [step]; omega
  | poll seg sizes =>
    intro hv
    simp only [step] at hv ⊢
    obtain ⟨hseg, hs⟩ := hw
    rcases emit_bound p seg M hseg hv sizes 0 0 (by omega) hs with h0 | h0
    · rw [h0]; simpa using h hv
    · omega

theorem run_inv (M : Nat) (hM : 0 < M) (evs : List Ev) : ∀ (p : Path), (∀ e ∈ evs, e.wf M) → Inv M p → Inv M (run p evs) :=
  foldl_inv_of (step_inv M hM) evs

theorem step_validated_cause (p : Path) (e : Ev) (h : (step p e).validated = true) :
    p.validated = true ∨ e.isCause = true := by
  cases e <;> simp_all [step, Ev.isCause]

theorem step_migrate_unvalidated (p : Path) (n : Nat) : (step p (.migrate n)).validated = false := rfl

theorem run_validated_cause (evs : List Ev) : ∀ (p : Path), (run p evs).validated = true →
    (p.validated = true ∧ ∀ e ∈ evs, ∀ n, e ≠ .migrate n) ∨
    ∃ pre c post, evs = pre ++ c :: post ∧ c.isCause = true ∧ ∀ e ∈ post, ∀ n, e ≠ .migrate n := by
  induction evs with
  | nil => intro p hr; left; exact ⟨hr, by intro e he; cases he⟩
  | cons e rest ih =>
    intro p hr
    have hrun : run p (e :: rest) = run (step p e) rest := rfl
    rw [hrun] at hr
    rcases ih (step p e) hr with ⟨hv, hm⟩ | ⟨pre, c, post, he, hc, hp⟩
    · rcases step_validated_cause p e hv with h1 | h1
      · left
        refine ⟨h1, ?_⟩
        intro x hx n hxe
        rcases List.mem_cons.mp hx with hx | hx
        · subst hx; subst hxe; simp [step] at hv
        · exact hm x hx n hxe
      · right; exact ⟨[], e, rest, rfl, h1, hm⟩
    · right; exact ⟨e :: pre, c, post, by simp [he], hc, hp⟩

end QM.Amp

namespace QM.Amp.OffPath

theorem respSize_le (u p d : Nat) (hp : p ≤ d) (hu : u ≤ 3 * d) : respSize u p ≤ 3 * d := by
  unfold respSize
  have hf : Gen.offPathPadFactor = 3 := rfl
  have hm : Gen.libMinInitialSize = 1200 := rfl
  rw [if_neg (by rw [hf]; decide), hf, hm]
  omega

theorem step_inv (l : L) (e : Ev) (hw : e.wf) (h : l.sent ≤ 3 * l.recvd) : (step l e).sent ≤ 3 * (step l e).recvd := by
  have := respSize_le e.unpadded e.pkt e.dgram hw.1 hw.2
  simp only [step]
  omega

theorem run_inv (evs : List Ev) : ∀ (l : L), (∀ e ∈ evs, e.wf) → l.sent ≤ 3 * l.recvd →
    (run l evs).sent ≤ 3 * (run l evs).recvd :=
  foldl_inv_of (P := fun l : L => l.sent ≤ 3 * l.recvd) step_inv evs

end QM.Amp.OffPath
