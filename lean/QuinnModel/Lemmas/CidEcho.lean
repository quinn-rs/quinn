import QuinnModel.Endpoint.CidEcho
import QuinnModel.Lemmas.Runs
/- The guard of `handle_peer_params` as a conjunction of equations, and the client's CID bookkeeping over arbitrary
   packet histories: every packet makes one of four `Moves`, and what holds after every history is shown per move. -/
namespace QM.CidEcho
open QM

theorem accept_iff (side : Side) (c : Cids) (tp : EchoTP) :
    accept side c tp = true ↔
      tp.initialSrc = some c.origRem ∧
      (side = .client → tp.originalDst = some c.initialDst ∧ tp.retrySrc = c.retrySrc) := by
  have e1 : (some c.origRem = tp.initialSrc) ↔ (tp.initialSrc = some c.origRem) := eq_comm
  have e2 : (some c.initialDst = tp.originalDst) ↔ (tp.originalDst = some c.initialDst) := eq_comm
  have e3 : (c.retrySrc = tp.retrySrc) ↔ (tp.retrySrc = c.retrySrc) := eq_comm
  cases side <;> simp [accept, reject, Gen.cidEchoReject, Side.isClient, e1, e2, e3]

theorem accept_false_of (side : Side) (c : Cids) (tp : EchoTP)
    (h : ¬ (tp.initialSrc = some c.origRem ∧
      (side = .client → tp.originalDst = some c.initialDst ∧ tp.retrySrc = c.retrySrc))) :
    accept side c tp = false := by
  rw [Bool.eq_false_iff]
  exact fun h' => h ((accept_iff side c tp).mp h')

theorem server_accept_iff (c : Cids) (tp : EchoTP) :
    accept .server c tp = true ↔ tp.initialSrc = some c.origRem := by
  rw [accept_iff]; simp

theorem client_accept_iff (c : Cids) (tp : EchoTP) :
    accept .client c tp = true ↔
      tp.initialSrc = some c.origRem ∧ tp.originalDst = some c.initialDst ∧ tp.retrySrc = c.retrySrc := by
  rw [accept_iff]; simp

theorem retryDiscarded_iff (a n : Nat) (v : Bool) :
    Gen.retryDiscarded a (n + 16) v = false ↔ a = 0 ∧ v = true ∧ 0 < n := by
  cases v <;> simp [Gen.retryDiscarded] <;> omega

theorem followsRetry_iff (s : Client) (v : Bool) (n : Nat) :
    s.followsRetry v n = true ↔ s.authed = 0 ∧ v = true ∧ 0 < n := by
  unfold Client.followsRetry
  rw [← retryDiscarded_iff]
  cases Gen.retryDiscarded s.authed (n + 16) v <;> simp

theorem step_retry_discarded (s : Client) (scid : Cid) (v : Bool) (n : Nat) (h : s.followsRetry v n = false) :
    s.step (.retry scid v n) = s := by
  rw [Client.step, if_pos ((Bool.not_eq_false' _).mp h)]

theorem step_retry_followed (s : Client) (scid : Cid) (n : Nat) (h : s.authed = 0) :
    s.step (.retry scid true (n + 1)) =
      { s with authed := 1, retrySrc := some scid, active := scid, remHandshake := scid, remCidSet := false } := by
  have : Gen.retryDiscarded s.authed (n + 1 + 16) true = false :=
    (retryDiscarded_iff _ _ _).mpr ⟨h, rfl, by omega⟩
  rw [h] at this
  simp [Client.step, this, h]

/-- the four things a packet can do to the client's bookkeeping -/
inductive Moves (s : Client) : Client → Prop
  | stay : Moves s s
  | retry (scid : Cid) : s.authed = 0 → Moves s
      { s with authed := s.authed + 1, retrySrc := some scid, active := scid, remHandshake := scid, remCidSet := false }
  | first (scid : Cid) : s.remCidSet = false → Moves s
      { s with authed := s.authed + 1, active := scid, remHandshake := scid, origRem := scid, remCidSet := true,
               processed := s.processed + 1 }
  | count (k : Nat) : Moves s { s with authed := s.authed + 1, processed := s.processed + k }

theorem step_moves (s : Client) (e : Event) : Moves s (s.step e) := by
  fun_cases Client.step s e
  case case2 scid v n h => exact .retry scid ((retryDiscarded_iff _ _ _).mp (Bool.eq_false_iff.mpr h)).1
  case case3 scid s1 h => exact .first scid (by simpa using h)
  case case4 => exact .count 0
  case case5 => exact .count 1
  case case6 => exact .count 0
  case case7 => exact .count 1
  all_goals exact .stay

theorem run_induct {P : Client → Prop} (hstep : ∀ s e, P s → P (s.step e)) (s : Client) (evs : List Event)
    (h : P s) : P (s.run evs) :=
  foldl_inv hstep evs s h

theorem Moves.initialDst {s t : Client} (m : Moves s t) : t.initialDst = s.initialDst := by
  cases m <;> rfl

theorem run_initialDst (s : Client) (evs : List Event) : (s.run evs).initialDst = s.initialDst :=
  run_induct (P := fun t => t.initialDst = s.initialDst) (fun t e h => (step_moves t e).initialDst.trans h) s evs rfl

/-- `t` comes after `s`, which had authenticated a server packet: no Retry is followed any more; if `s` had also seen
    the server's first Initial, the recorded CIDs and the CID in use stay -/
structure Fixed (s t : Client) : Prop where
  authed : 0 < t.authed
  retrySrc : t.retrySrc = s.retrySrc
  set : s.remCidSet = true → t.remCidSet = true
  cids : s.remCidSet = true → t.cids = s.cids
  active : s.remCidSet = true → t.active = s.active

theorem Moves.fixed {s t u : Client} (m : Moves t u) (h : Fixed s t) : Fixed s u := by
  cases m with
  | stay => exact h
  | retry scid h0 => exact absurd h.authed (by omega)
  | first scid hu =>
    have hn : s.remCidSet ≠ true := fun hs => Bool.false_ne_true (hu.symm.trans (h.set hs))
    exact ⟨Nat.succ_pos _, h.retrySrc, fun hs => absurd hs hn, fun hs => absurd hs hn, fun hs => absurd hs hn⟩
  | count k => exact ⟨Nat.succ_pos _, h.retrySrc, h.set, h.cids, h.active⟩

theorem run_fixed (s : Client) (evs : List Event) (ha : 0 < s.authed) : Fixed s (s.run evs) :=
  run_induct (fun t e h => (step_moves t e).fixed h) s evs ⟨ha, rfl, id, fun _ => rfl, fun _ => rfl⟩

/-- relation between the recorded CIDs and the CIDs in use -/
structure Inv (s : Client) : Prop where
  hs : s.remHandshake = s.active
  set : s.remCidSet = true → s.origRem = s.active

theorem inv_connect (d0 : Cid) : Inv (Client.connect d0) :=
  ⟨rfl, fun h => absurd h Bool.false_ne_true⟩

theorem Moves.inv {s t : Client} (m : Moves s t) (h : Inv s) : Inv t := by
  cases m with
  | stay => exact h
  | retry scid h0 => exact ⟨rfl, fun hc => absurd hc Bool.false_ne_true⟩
  | first scid hu => exact ⟨rfl, fun _ => rfl⟩
  | count k => exact ⟨h.hs, h.set⟩

theorem inv_run (s : Client) (evs : List Event) (h : Inv s) : Inv (s.run evs) :=
  run_induct (fun t e h => (step_moves t e).inv h) s evs h

theorem run_append (s : Client) (a b : List Event) : s.run (a ++ b) = (s.run a).run b := by
  simp [Client.run, List.foldl_append]

theorem run_no_retry (s : Client) (evs : List Event) (h0 : s.retrySrc = none)
    (h : ∀ scid n, Event.retry scid true (n + 1) ∉ evs) : (s.run evs).retrySrc = none := by
  induction evs generalizing s with
  | nil => exact h0
  | cons e t ih =>
    refine ih (s.step e) ?_ fun scid n hm => h scid n (List.mem_cons_of_mem _ hm)
    fun_cases Client.step s e
    case case2 scid v n hd =>
      obtain ⟨_, rfl, hn⟩ := (retryDiscarded_iff _ _ _).mp (Bool.eq_false_iff.mpr hd)
      obtain ⟨m, rfl⟩ : ∃ m, n = m + 1 := ⟨n - 1, by omega⟩
      exact absurd List.mem_cons_self (h scid m)
    all_goals exact h0

theorem honest_client_accepts (x : Exchange) :
    accept .client ((Client.connect x.d0).run x.clientEvents).cids (honestEcho x.serverView) = true := by
  obtain ⟨d0, c, retry, s, post⟩ := x
  -- `post` changes none of the recorded CIDs (`run_fixed`); the one or two steps before it are evaluated
  cases retry with
  | none =>
    simp only [Exchange.clientEvents, List.nil_append, List.singleton_append, Client.run, List.foldl_cons]
    have hfro := (run_fixed ((Client.connect d0).step (.serverInitial s)) post
      (by simp [Client.step, Client.connect])).cids (by simp [Client.step, Client.connect])
    simp only [Client.run] at hfro
    rw [hfro, client_accept_iff]
    simp [Client.step, Client.connect, Client.cids, honestEcho, Exchange.serverView, Exchange.clientBeforeAccept]
  | some rn =>
    obtain ⟨r, n⟩ := rn
    simp only [Exchange.clientEvents, List.cons_append, List.nil_append, Client.run, List.foldl_cons]
    have e1 := step_retry_followed (Client.connect d0) r n rfl
    have hfro := (run_fixed (((Client.connect d0).step (.retry r true (n + 1))).step (.serverInitial s)) post
      (by rw [e1]; simp [Client.step, Client.connect])).cids (by rw [e1]; simp [Client.step, Client.connect])
    simp only [Client.run] at hfro
    rw [hfro, client_accept_iff]
    simp only [Exchange.serverView, Exchange.clientBeforeAccept]
    rw [e1]
    simp [Client.step, Client.connect, Client.cids, honestEcho]

end QM.CidEcho
