import QuinnModel.Lemmas.StreamsSenderView
import QuinnModel.Lemmas.StreamsRecvView
/-
The remote-stream bookkeeping (`side`, `max_remote`, `next_remote`, `next_reported_remote`, the keys of `send`).
An operation of the sending side is *quiet*: it leaves the receiver view unchanged and only extends the
bookkeeping (`Ext`).
-/
namespace QM.Streams

def skeys (s : State) : List Nat := s.send.map Prod.fst

/-- the peer's streams opened so far, and those handed to the application, stay within the advertised count; so
    does every peer-initiated key of `send` -/
def RLInv (s : State) : Prop :=
  (∀ d, s.nextRemote.get d ≤ s.maxRemote.get d) ∧
  (∀ k, k ∈ skeys s → sidInitiator k ≠ s.side → sidIndex k < s.maxRemote.get (sidDir k)) ∧
  (∀ d, s.nextReportedRemote.get d ≤ s.nextRemote.get d)

theorem RLInv.opened_le {s : State} (i : RLInv s) (d : Dir) : s.nextRemote.get d ≤ s.maxRemote.get d := i.1 d

theorem RLInv.keys_lt {s : State} (i : RLInv s) (k : Nat) (hk : k ∈ skeys s) (hr : sidInitiator k ≠ s.side) :
    sidIndex k < s.maxRemote.get (sidDir k) := i.2.1 k hk hr

theorem RLInv.reported_le {s : State} (i : RLInv s) (d : Dir) : s.nextReportedRemote.get d ≤ s.nextRemote.get d :=
  i.2.2 d

def State.rl (s : State) : Side × Two Nat × Two Nat × Two Nat :=
  (s.side, s.maxRemote, s.nextRemote, s.nextReportedRemote)

/-- a step that opens no peer stream beyond the advertised count.  Stated under `RLInv s`: a frame counts on it to
    see that the stream it names is within the limit -/
def Ext (s s' : State) : Prop :=
  RLInv s → RLInv s' ∧ s'.side = s.side ∧ ∀ d, s.maxRemote.get d ≤ s'.maxRemote.get d

theorem RLInv.ext {s s' : State} (i : RLInv s) (e : Ext s s') : RLInv s' := (e i).1

def State.idOk (s : State) (id : Nat) : Prop :=
  sidInitiator id ≠ s.side → sidIndex id < s.maxRemote.get (sidDir id)

/-- keys of `send` may be added if they are within the limit afterwards -/
theorem Ext.grow {s s' : State} (h1 : s'.side = s.side) (h2 : ∀ d, s.maxRemote.get d ≤ s'.maxRemote.get d)
    (h3 : s'.nextRemote = s.nextRemote) (h4 : s'.nextReportedRemote = s.nextReportedRemote)
    (hk : ∀ k, k ∈ skeys s' → k ∈ skeys s ∨ s'.idOk k) : Ext s s' := fun i =>
  ⟨⟨fun d => h3 ▸ Nat.le_trans (i.opened_le d) (h2 d),
    fun k hk' hr => (hk k hk').elim (fun h0 => Nat.lt_of_lt_of_le (i.keys_lt k h0 (h1 ▸ hr)) (h2 _)) fun ok => ok hr,
    fun d => by rw [h4, h3]; exact i.reported_le d⟩, h1, h2⟩

theorem Ext.sub {s s' : State} (h : s'.rl = s.rl) (hk : ∀ k, k ∈ skeys s' → k ∈ skeys s) : Ext s s' := by
  simp only [State.rl, Prod.mk.injEq] at h
  exact .grow h.1 (fun d => by rw [h.2.1]; exact Nat.le_refl _) h.2.2.1 h.2.2.2 fun k hk' => .inl (hk k hk')

theorem Ext.same {s s' : State} (h : s'.rl = s.rl) (hk : skeys s' = skeys s) : Ext s s' :=
  Ext.sub h (fun _ hk' => hk ▸ hk')

theorem Ext.refl (s : State) : Ext s s := Ext.same rfl rfl

theorem Ext.trans {a b c : State} (h1 : Ext a b) (h2 : Ext b c) : Ext a c := fun i =>
  have ⟨i1, s1, l1⟩ := h1 i
  have ⟨i2, s2, l2⟩ := h2 i1
  ⟨i2, s2.trans s1, fun d => Nat.le_trans (l1 d) (l2 d)⟩

/-- the one place where `next_remote` moves -/
theorem onStreamFrame_spec (s : State) (b : Bool) (id : Nat) :
    (s.onStreamFrame b id).rvw = s.rvw ∧ (s.idOk id → Ext s (s.onStreamFrame b id)) := by
  unfold State.onStreamFrame
  split
  · split <;> exact ⟨rfl, fun _ => Ext.same rfl rfl⟩
  · rename_i hr
    dsimp only
    split
    · refine ⟨rfl, fun hid i => ⟨⟨fun d => ?_, i.keys_lt, fun d => ?_⟩, rfl, fun _ => Nat.le_refl _⟩⟩
      all_goals
        have hlt := hid hr
        have := i.opened_le d
        have := i.reported_le d
        simp only [Two.get_set]
        split
        · rename_i hd; subst hd; omega
        · assumption
    · split <;> exact ⟨rfl, fun _ => Ext.same rfl rfl⟩

theorem rvw_onStreamFrame (s : State) (b : Bool) (id : Nat) : (s.onStreamFrame b id).rvw = s.rvw :=
  (onStreamFrame_spec s b id).1

/-- the frame was within the limit when it arrived (`s`) and is processed after other steps (`m`) -/
theorem Ext.frame {s m : State} {id : Nat} (e : Ext s m) (hid : RLInv s → s.idOk id) (b : Bool) :
    Ext s (m.onStreamFrame b id) := fun i =>
  have ⟨_, hs, hl⟩ := e i
  (e.trans ((onStreamFrame_spec m b id).2 fun hr => Nat.lt_of_lt_of_le (hid i (hs ▸ hr)) (hl _))) i

structure Quiet (s s' : State) : Prop where
  rvw : s'.rvw = s.rvw
  ext : Ext s s'

theorem Quiet.refl (s : State) : Quiet s s := ⟨rfl, Ext.refl s⟩

theorem Quiet.trans {a b c : State} (h1 : Quiet a b) (h2 : Quiet b c) : Quiet a c :=
  ⟨h2.rvw.trans h1.rvw, h1.ext.trans h2.ext⟩

/-- `trans` with the later step first: elaborated in this order, the known step fixes the state in the
    middle before the `rfl`s of a `same` step are checked against it -/
theorem Quiet.after {a b c : State} (h2 : Quiet b c) (h1 : Quiet a b) : Quiet a c := h1.trans h2

theorem Quiet.same {s s' : State} (hv : s'.rvw = s.rvw) (h : s'.rl = s.rl) (hk : skeys s' = skeys s) :
    Quiet s s' :=
  ⟨hv, Ext.same h hk⟩

theorem Quiet.frame {s m : State} {id : Nat} (q : Quiet s m) (hid : RLInv s → s.idOk id) (b : Bool) :
    Quiet s (m.onStreamFrame b id) :=
  ⟨(rvw_onStreamFrame m b id).trans q.rvw, q.ext.frame hid b⟩

theorem quiet_putSend (s : State) (id : Nat) (x : Send) : Quiet s (s.putSend id x) :=
  Quiet.same rfl rfl (Map.keys_set _ _ _)

theorem quiet_eraseSend (s : State) (id : Nat) : Quiet s { s with send := s.send.erase id } :=
  ⟨rfl, Ext.sub rfl (fun _ hk => Map.keys_erase _ _ _ hk)⟩

theorem Shuffle.quiet {s s' : State} (t : Shuffle s s') : Quiet s s' :=
  .same (by rw [t.rest]; rfl) (by rw [t.rest]; rfl) t.keys

/-- allocated ids have no receiving half yet; the new keys of `send` are among them -/
theorem Alloc.rvw {N : Nat → Prop} {b : Prop} {s s' : State} (a : Alloc N b s s') :
    s'.rvw = s.rvw ∧ s'.rl = s.rl ∧ ∀ k, k ∈ skeys s' → k ∈ skeys s ∨ N k := by
  have hc : s'.rcore = s.rcore := by rw [a.rest]; rfl
  have hv : s'.rv = s.rv := funext fun k => by
    rcases a.recv k with e | ⟨_, g, r⟩
    · simp only [State.rv, e]
    · simp only [State.rv, g, r]
  refine ⟨by show RView.mk _ _ = RView.mk _ _; rw [hc, hv], by rw [a.rest]; rfl, fun k hk => ?_⟩
  obtain ⟨v, hv⟩ := Map.mem_find _ _ hk
  rcases a.send k with e | ⟨n, _⟩
  · exact .inl (Map.find_mem _ _ v (e ▸ hv))
  · exact .inr n

theorem quiet_ensureRemoteStreams {s s' : State} {d : Dir} (h : s.ensureRemoteStreams d = some s') :
    Quiet s s' := by
  revert h
  fun_cases State.ensureRemoteStreams s d <;> intro h
  · contradiction
  next s1 h1 =>
  cases h
  obtain ⟨a0, e, hk⟩ := (alloc_insertRemoteRange _ h1).rvw
  simp only [State.rl, Prod.mk.injEq] at e
  obtain ⟨a1, a2, a3, a5⟩ := e
  refine ⟨a0, Ext.grow a1 (fun d' => ?_) a3 a5 fun k hk' => (hk k hk').imp_right ?_⟩
  · simp only [Two.get_set, a2]
    split
    · rename_i hd; subst hd; omega
    · exact Nat.le_refl _
  · rintro ⟨j, _, hj, rfl⟩ _
    simp only [sidDir_sidNew, sidIndex_sidNew, Two.get_set, a2, ↓reduceIte]
    omega

theorem quiet_freeRemote {s s' : State} {id : Nat} {hf : Half} (h : s.freeRemote id hf = some s') :
    Quiet s s' := by
  revert h
  fun_cases State.freeRemote s id hf <;> intro h
  case case2 => exact (quiet_ensureRemoteStreams h).after (Quiet.same rfl rfl rfl)
  case case1 => contradiction
  all_goals cases h; exact Quiet.refl _

theorem quiet_streamFreed {s s' : State} {id : Nat} {hf : Half} (h : s.streamFreed id hf = some s') :
    Quiet s s' := by
  revert h
  fun_cases State.streamFreed s id hf <;> intro h
  case case3 h1 _ _ _ => cases h; exact (quiet_freeRemote h1).trans (Quiet.same rfl rfl rfl)
  case case4 h1 _ => cases h; exact quiet_freeRemote h1
  all_goals contradiction

theorem rvw_streamRecvFreed {s s' : State} {id : Nat} (h : s.streamRecvFreed id = some s') :
    s'.rvw = s.rvw := (quiet_streamFreed h).rvw

theorem quiet_setMaxConcurrent {s s' : State} {d : Dir} {n : Nat} (h : s.setMaxConcurrent d n = some s') :
    Quiet s s' := by
  unfold State.setMaxConcurrent at h
  exact (quiet_ensureRemoteStreams h).after (Quiet.same rfl rfl rfl)

theorem quiet_getOrInsertSend {s s' : State} {id : Nat} {x : Send}
    (h : s.getOrInsertSend id = some (x, s')) : Quiet s s' ∧ id ∈ skeys s := by
  rcases getOrInsertSend_eq h with ⟨hf, rfl⟩ | ⟨hf, _, rfl⟩
  · exact ⟨Quiet.refl _, Map.find_mem _ _ _ hf⟩
  · exact ⟨quiet_putSend s id _, Map.find_mem _ _ _ hf⟩

theorem Touch.quiet {R : Send → Send → Prop} {s s' : State} {id : Nat} (t : Touch R s s' id) : Quiet s s' := by
  rcases t with rfl | ⟨x, s1, hg, rfl | ⟨x', _, e⟩⟩
  · exact .refl _
  · exact (quiet_getOrInsertSend hg).1
  · exact (quiet_getOrInsertSend hg).1.trans
      (.same (by rw [e]; rfl) (by rw [e]; rfl) (by rw [e]; exact Map.keys_set _ _ _))

theorem quiet_queueMaxStreamId {s s' : State} {b : Bool} (h : s.queueMaxStreamId = some (s', b)) :
    Quiet s s' := by
  have e := queueMaxStreamId_only h
  exact .same (by rw [e]; rfl) (by rw [e]; rfl) (by rw [e]; rfl)

theorem queueMaxStreamId_spec {s s' : State} {b : Bool} (h : s.queueMaxStreamId = some (s', b)) :
    s'.rvw = s.rvw := (quiet_queueMaxStreamId h).rvw

theorem quiet_queueMaxIf {s s' : State} {c : Bool} (h : s.queueMaxIf c = some s') : Quiet s s' := by
  rcases queueMaxIf_cases h with ⟨_, rfl⟩ | ⟨_, b, hq⟩
  · exact Quiet.refl _
  · exact quiet_queueMaxStreamId hq

theorem quiet_write {s s' : State} {id n : Nat} {r : Except WriteErr Nat} (h : s.write id n = some (s', r)) :
    Quiet s s' := by
  cases r with
  | error e => exact (touch_write_err h).quiet
  | ok k =>
    obtain ⟨x, s1, x', l, _, _, hg, _, e⟩ := write_ok_put h
    exact (quiet_getOrInsertSend hg).1.trans
      (.same (by rw [e]; rfl) (by rw [e]; rfl) (by rw [e]; exact Map.keys_set _ _ _))

theorem quiet_resetAcked {s s' : State} {id : Nat} (h : s.resetAcked id = some s') : Quiet s s' := by
  revert h
  fun_cases State.resetAcked s id <;> intro h
  case case1 => exact (quiet_streamFreed h).after (quiet_eraseSend _ _)
  all_goals cases h; exact Quiet.refl _

theorem quiet_receivedAckOf {s s' : State} {id a e : Nat} {fin : Bool}
    (h : s.receivedAckOf id a e fin = some s') : Quiet s s' := by
  revert h
  fun_cases State.receivedAckOf s id a e fin <;> intro h
  case case1 | case7 => cases h; exact Quiet.refl _
  case case4 => obtain rfl := Option.some.inj h; exact Quiet.same rfl rfl (Map.keys_set _ _ _)
  case case6 =>
    cases h
    have hf : State.streamFreed _ _ _ = _ := ‹_›
    exact ((quiet_streamFreed hf).after ((quiet_eraseSend _ id).after
      (Quiet.same (s := s) rfl rfl (Map.keys_set _ _ _)))).trans (Quiet.same rfl rfl rfl)
  all_goals contradiction

theorem quiet_poll {s s' : State} {e : Option Event} (h : s.poll = some (s', e)) : Quiet s s' := by
  obtain ⟨s1, t, e⟩ := poll_shuffle h
  exact t.quiet.trans (.same (by rw [e]; rfl) (by rw [e]; rfl) (by rw [e]; rfl))

theorem quiet_open {s s' : State} {d : Dir} {r : Option Nat} (h : s.open_ d = some (s', r)) : Quiet s s' := by
  rcases open_cases h with ⟨_, rfl, _⟩ | ⟨_, _, _, rfl⟩ | ⟨_, _, _, s2, hi, rfl⟩
  · exact Quiet.refl _
  · exact Quiet.same rfl rfl rfl
  obtain ⟨a0, e, hk⟩ := (alloc_insert hi).rvw
  simp only [State.rl, Prod.mk.injEq] at e
  -- the new key is a stream of our own
  exact ⟨a0, Ext.grow e.1 (fun _ => by rw [e.2.1]; exact Nat.le_refl _) e.2.2.1 e.2.2.2 fun k hk' =>
    (hk k hk').imp_right fun hid hr => absurd (hid ▸ sidInitiator_sidNew _ _ _) (e.1 ▸ hr)⟩

/-- `accept` hands out a stream only below `next_remote` -/
theorem quiet_accept (s : State) (d : Dir) : Quiet s (s.accept d).1 := by
  unfold State.accept
  split
  · exact Quiet.refl _
  · rename_i hne
    have key : RLInv s → ∀ d', (s.nextReportedRemote.set d (s.nextReportedRemote.get d + 1)).get d' ≤
        s.nextRemote.get d' := by
      intro i d'
      have := i.reported_le d'
      simp only [Two.get_set]
      split
      · rename_i hd; subst hd; omega
      · assumption
    dsimp only
    split <;> exact ⟨rfl, fun i => ⟨⟨i.opened_le, i.keys_lt, key i⟩, rfl, fun _ => Nat.le_refl _⟩⟩

theorem skeys_setParamsLoop (side : Side) (v : Nat) : ∀ (n i : Nat) (m : Map (Option Send)),
    (setParamsLoop side v m n i).map Prod.fst = m.map Prod.fst := by
  intro n
  induction n with
  | zero => intro i m; rfl
  | succ n ih =>
    intro i m
    unfold setParamsLoop
    simp only
    rw [ih]
    split
    · exact Map.keys_set _ _ _
    · rfl

theorem rvw_setParams (s : State) (p : Params) : (s.setParams p).rvw = s.rvw := rfl

theorem quiet_setParams (s : State) (p : Params) : Quiet s (s.setParams p) :=
  Quiet.same rfl rfl (skeys_setParamsLoop _ _ _ _ _)

theorem quiet_receivedMaxStreams (s : State) (d : Dir) (n : Nat) : Quiet s (s.receivedMaxStreams d n).1 := by
  unfold State.receivedMaxStreams
  split
  · exact Quiet.refl _
  · split
    · exact Quiet.same rfl rfl rfl
    · exact Quiet.refl _

theorem quiet_afterUnblock (s : State) (b : Bool) (id : Nat) (x' : Send) (wl : Nat) :
    Quiet s (s.afterUnblock b id x' wl) := by
  unfold State.afterUnblock
  split
  · split
    · exact Quiet.same rfl rfl rfl
    · split
      · exact Quiet.same rfl rfl (Map.keys_set _ _ _)
      · exact Quiet.refl _
  · exact Quiet.refl _

/-- a frame that finds a sending half cannot open streams beyond the limit: the key is within it -/
theorem quiet_receivedStopSending (s : State) (id code : Nat) : Quiet s (s.receivedStopSending id code) := by
  rcases receivedStopSending_cases s id code with ⟨_, e⟩ | ⟨x, s1, hg, ⟨_, e⟩ | ⟨_, e⟩⟩ <;> rw [e]
  · exact Quiet.refl _
  · exact (quiet_getOrInsertSend hg).1
  · obtain ⟨q, hk⟩ := quiet_getOrInsertSend hg
    refine Quiet.frame ?_ (fun i => i.keys_lt _ hk) _
    exact q.trans (Quiet.same rfl rfl (Map.keys_set _ _ _))

theorem quiet_receivedMaxStreamData {s s' : State} {id n : Nat} {e : Option TErr}
    (h : s.receivedMaxStreamData id n = some (s', e)) : Quiet s s' := by
  revert h
  fun_cases State.receivedMaxStreamData s id n <;> intro h
  case case1 | case2 | case5 => cases h; exact Quiet.refl _
  case case3 => contradiction
  case case4 hg _ _ =>
    cases h
    obtain ⟨q, hk⟩ := quiet_getOrInsertSend hg
    exact ((q.trans (quiet_putSend _ _ _)).trans (quiet_afterUnblock _ _ _ _ _)).frame (fun i => i.keys_lt _ hk) _
  case case6 =>
    cases h
    -- no send half: the stream-limit test is what keeps the frame from opening streams
    rename_i hlim _ _ _ _
    simp only [Gen.maxsdChecksRemoteLimit, Bool.true_and, Bool.and_eq_true, decide_eq_true_eq, not_and,
      Nat.not_le, ge_iff_le] at hlim
    exact (Quiet.refl s).frame (fun _ => hlim) _

def Op.isRecvOp : Op → Bool
  | .stream .. | .rst .. | .read .. | .stop .. | .recvReset _ | .recvWindow _ | .ctrl => true
  | _ => false

theorem quiet_step {s s' : State} {o : Op} {out : Out} (h : step s o = some (s', out))
    (hc : o.isRecvOp = false) (hr : o.isRestart = false) : Quiet s s' := by
  cases Steps.of_step h with
  | new | rejected => cases hr
  | stream | rst | read | stop | recvReset | recvWindow | ctrl => cases hc
  | conn | maxData | pendMaxData | pendMaxStreamData | pendMaxStreamId | sendWindow => exact Quiet.same rfl rfl rfl
  | stopped | canSend | canFlow | view => exact Quiet.refl _
  | params p => exact quiet_setParams s p
  | accept d => exact quiet_accept s d
  | finish id => exact (touch_finish (r := (s.finish id).2) rfl).quiet
  | prio id p => exact (touch_setPriority (b := (s.setPriority id p).2) rfl).quiet
  | stopSending id code => exact quiet_receivedStopSending s id code
  | maxStreams d n => exact quiet_receivedMaxStreams s d n
  | open_ h1 => exact quiet_open h1
  | write h1 => exact quiet_write h1
  | reset h1 => exact (touch_reset h1).quiet
  | maxStreamData h1 => exact quiet_receivedMaxStreamData h1
  | poll h1 => exact quiet_poll h1
  | transmit h1 => exact (shuffle_writeStreamFrames _ _ _ h1).quiet
  | queueMaxStreamId h1 => exact quiet_queueMaxStreamId h1
  | ack h1 => exact quiet_receivedAckOf h1
  | lost h1 => exact (shuffle_retransmit h1).quiet
  | rstAck h1 => exact quiet_resetAcked h1
  | maxConcurrent h1 => exact quiet_setMaxConcurrent h1
  | rtx0 h1 => exact (shuffle_retransmitAllFor0rtt h1).quiet

end QM.Streams
