import QuinnModel.Udp.Send
/-
Lemmas for C19 about the decision table of the Linux send path (`Udp/Send.lean`).  `sendPlain`, `sendChunks`
and `send` have one branch per kernel answer; facts about all their runs go by `fun_induction`, whose cases come
in the order of the branches of the definition.
-/
namespace QM.Udp

theorem chunkLens_zero (seg fuel : Nat) : chunkLens seg fuel 0 = [] := by
  cases fuel <;> simp [chunkLens]

theorem chunkLens_single (seg len fuel : Nat) (h0 : 0 < len) (hle : len ≤ seg) (hf : 0 < fuel) :
    chunkLens seg fuel len = [len] := by
  cases fuel with
  | zero => omega
  | succ f =>
    have hm : Nat.min seg len = len := Nat.min_eq_right hle
    have hne : ¬ len = 0 := by omega
    simp only [chunkLens, hne, if_false, hm, Nat.sub_self, chunkLens_zero]

theorem wire_eq_described (t : Tx) (e : Bool) (hv : t.valid) : wireOf (prepare t e) = described t := by
  obtain ⟨hl, hsg⟩ := hv
  cases hseg : t.seg with
  | none => simp [wireOf, prepare, described, hseg, effectiveSegmentSize]
  | some s =>
    by_cases h : s ≥ t.len
    · simp only [wireOf, prepare, described, hseg, effectiveSegmentSize, h, if_true]
      exact (chunkLens_single s t.len t.len hl h hl).symm
    · simp only [wireOf, prepare, described, hseg, effectiveSegmentSize, h, if_false]

theorem sendPlain_wire (k : Kernel) (v4 : Bool) (len fuel : Nat) (st : SockSt) (calls : Nat)
    (h : (sendPlain k v4 len fuel st calls).ret = none) : (sendPlain k v4 len fuel st calls).wire = [len] := by
  fun_induction sendPlain k v4 len fuel st calls with
  | case2 => rfl                            -- accepted
  | case3 _ _ _ _ _ ih => exact ih h        -- EINTR: retried
  | case5 _ _ _ _ _ _ _ ih => exact ih h    -- EIO|EINVAL: retried without IP_TOS
  | _ => cases h                            -- out of fuel, or an error is returned

theorem sendChunks_wire (k : Kernel) (v4 : Bool) (fuel : Nat) (cs : List Nat) (st : SockSt) (calls : Nat)
    (h : (sendChunks k v4 fuel st calls cs).ret = none) : (sendChunks k v4 fuel st calls cs).wire = cs := by
  fun_induction sendChunks k v4 fuel st calls cs with
  | case1 => rfl
  | case2 st calls c rest r e hr => rw [hr] at h; cases h
  | case3 st calls c rest r hr r2 ih =>
    show r.wire ++ r2.wire = c :: rest
    rw [sendPlain_wire k v4 c fuel st calls hr, ih h]; rfl

theorem haltGso_einval (st : SockSt) : (haltGso st).einval = st.einval := by
  unfold haltGso; split <;> rfl

theorem haltGso_maxGso (st : SockSt) : (haltGso st).maxGso ≤ 1 := by
  unfold haltGso; split
  · exact Nat.le_refl 1
  · omega

theorem sendPlain_refusesGso (k : Kernel) (hk : refusesGso k) (v4 : Bool) (len fuel : Nat) (st : SockSt) (calls : Nat) :
    sendPlain k v4 len (fuel + 1) st calls = ⟨st, calls + 1, [len], !(v4 && st.einval), none⟩ := by
  simp only [sendPlain, hk.2 ⟨none, !(v4 && st.einval), len⟩ calls rfl]

theorem sendChunks_refusesGso (k : Kernel) (hk : refusesGso k) (v4 : Bool) (fuel : Nat) :
    ∀ (cs : List Nat) (st : SockSt) (calls : Nat),
      (sendChunks k v4 (fuel + 1) st calls cs).st = st
      ∧ (sendChunks k v4 (fuel + 1) st calls cs).ret = none
      ∧ (st.einval = false → (sendChunks k v4 (fuel + 1) st calls cs).ecnOk = true) := by
  intro cs
  induction cs with
  | nil => intro st calls; exact ⟨rfl, rfl, fun _ => rfl⟩
  | cons c rest ih =>
    intro st calls
    simp only [sendChunks, sendPlain_refusesGso k hk]
    obtain ⟨h1, h2, h3⟩ := ih st (calls + 1)
    exact ⟨h1, h2, fun he => by rw [h3 he, he]; simp⟩

theorem sendPlain_einval (k : Kernel) (hk : ∀ m n, m.segs = none → k m n ≠ .refused) (v4 : Bool) (len fuel : Nat)
    (st : SockSt) (calls : Nat) : (sendPlain k v4 len fuel st calls).st.einval = st.einval := by
  fun_induction sendPlain k v4 len fuel st calls with
  | case3 _ _ _ _ _ ih => exact ih
  | case5 _ _ _ _ hx => exact absurd hx (hk _ _ rfl)
  | case6 _ _ _ _ hx => exact absurd hx (hk _ _ rfl)
  | _ => rfl

theorem sendChunks_einval (k : Kernel) (hk : ∀ m n, m.segs = none → k m n ≠ .refused) (v4 : Bool) (fuel : Nat)
    (cs : List Nat) (st : SockSt) (calls : Nat) : (sendChunks k v4 fuel st calls cs).st.einval = st.einval := by
  fun_induction sendChunks k v4 fuel st calls cs with
  | case1 => rfl
  | case2 st calls c => exact sendPlain_einval k hk v4 c fuel st calls
  | case3 st calls c rest r hr r2 ih => exact ih.trans (sendPlain_einval k hk v4 c fuel st calls)

/-- the property clause "when an offload is unsupported the layer degrades to plain sends without losing,
    merging or truncating datagrams" (and keeps conveying ECN), for a send function -/
def degrades_statement (sendF : Kernel → Tx → Nat → SockSt → Nat → Run) : Prop :=
  ∀ (k : Kernel) (t : Tx) (st : SockSt), refusesGso k → t.valid →
    (sendF k t 8 st 0).ret = none ∧ (sendF k t 8 st 0).wire = described t
    ∧ (sendF k t 8 st 0).st.einval = st.einval

/-- three 100-byte segments to an IPv4 peer -/
def oldSendWitness : Tx := ⟨true, some 100, 300⟩

theorem gsoRefusingKernel_refusesGso : refusesGso gsoRefusingKernel :=
  ⟨fun m n h => by simp [gsoRefusingKernel, h], fun m n h => by simp [gsoRefusingKernel, h]⟩

theorem oldSendWitness_run :
    sendOld gsoRefusingKernel oldSendWitness 8 ⟨64, false⟩ 0 = ⟨⟨1, true⟩, 2, [], true, some .refused⟩ := by
  decide

end QM.Udp
