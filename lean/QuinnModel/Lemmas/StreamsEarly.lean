import QuinnModel.Lemmas.StreamsC17
/-
The 0-RTT phase: before the handshake completes only the application acts (on streams it opened
itself) and data is (re)transmitted.  In such histories every key of the send map is a stream this
endpoint opened (index below `next`) or a still untouched peer stream; so `zero_rtt_rejected`
followed by `set_params p` leaves exactly the sender view of a fresh state with `set_params p`.
-/
namespace QM.Streams

/-- operations that can happen before the handshake is complete (`side` = this endpoint) -/
def EarlyOp (side : Side) : Op → Prop
  | .params _ | .open_ _ | .transmit _ _ | .poll | .canSend | .view | .sendWindow _ | .rtx0 | .conn _ => True
  | .write id _ | .finish id | .reset id _ | .prio id _ | .stopped id => sidInitiator id = side
  | _ => False

instance (side : Side) (o : Op) : Decidable (EarlyOp side o) := by
  cases o <;> unfold EarlyOp <;> infer_instance

/-- every key of the send map is a locally opened stream or an untouched peer stream -/
def EarlyInv (s : State) : Prop :=
  ∀ id, s.send.find? id ≠ none →
    (sidInitiator id = s.side ∧ sidIndex id < s.next.get (sidDir id)) ∨
    (sidInitiator id ≠ s.side ∧ s.send.find? id = some none)

/-- the send map has the same keys, and the same keys are uninstantiated -/
def SameShape (m m' : Map (Option Send)) : Prop :=
  ∀ k, (m'.find? k = none ↔ m.find? k = none) ∧ (m'.find? k = some none ↔ m.find? k = some none)

theorem EarlyInv.of_shape {s s' : State} (i : EarlyInv s) (hs : SameShape s.send s'.send)
    (hside : s'.side = s.side) (hnext : s'.next = s.next) : EarlyInv s' := by
  intro id hne
  have hk := hs id
  rw [hside, hnext]
  rcases i id (fun h => hne (hk.1.mpr h)) with h | ⟨h1, h2⟩
  · exact Or.inl h
  · exact Or.inr ⟨h1, hk.2.mpr h2⟩

theorem EarlyInv.of_touch {s s' : State} {id : Nat} (i : EarlyInv s) (hl : sidInitiator id = s.side)
    (hoth : ∀ k, k ≠ id → s'.send.find? k = s.send.find? k)
    (hid : s.send.find? id ≠ none ∨ sidIndex id < s'.next.get (sidDir id))
    (hside : s'.side = s.side) (hnext : ∀ d, s.next.get d ≤ s'.next.get d) : EarlyInv s' := by
  intro k hne
  rw [hside]
  by_cases hk : k = id
  · subst hk
    refine Or.inl ⟨hl, ?_⟩
    rcases hid with h | h
    · rcases i k h with h' | ⟨h1, _⟩
      · exact Nat.lt_of_lt_of_le h'.2 (hnext _)
      · exact absurd hl h1
    · exact h
  · rw [hoth k hk] at hne ⊢
    exact (i k hne).imp_left fun h => ⟨h.1, Nat.lt_of_lt_of_le h.2 (hnext _)⟩

theorem getOrInsertSend_touch {s s1 : State} {id : Nat} {x : Send} (h : s.getOrInsertSend id = some (x, s1)) :
    (∀ k, k ≠ id → s1.send.find? k = s.send.find? k) ∧ s.send.find? id ≠ none ∧
    s1.send.find? id = some (some x) ∧ s1.side = s.side ∧ s1.next = s.next := by
  rcases getOrInsertSend_eq h with ⟨hy, rfl⟩ | ⟨hy, _, rfl⟩
  · exact ⟨fun _ _ => rfl, by rw [hy]; simp, hy, rfl, rfl⟩
  · exact ⟨fun k hk => Map.find?_set_ne _ _ _ _ hk, by rw [hy]; simp, Map.find?_set_self _ _ _ _ hy, rfl, rfl⟩

theorem early_get {s s1 s' : State} {id : Nat} {x : Send} (i : EarlyInv s) (hl : sidInitiator id = s.side)
    (hg : s.getOrInsertSend id = some (x, s1))
    (hsend : s'.send = s1.send ∨ ∃ x', s'.send = s1.send.set id (some x'))
    (hside : s'.side = s1.side) (hnext : s'.next = s1.next) : EarlyInv s' ∧ s'.side = s.side := by
  obtain ⟨g1, g2, g3, g4, g5⟩ := getOrInsertSend_touch hg
  refine ⟨i.of_touch hl (fun k hk => ?_) (Or.inl g2) (hside.trans g4) fun _ => Nat.le_of_eq (by rw [hnext, g5]),
    hside.trans g4⟩
  rcases hsend with h | ⟨x', h⟩
  · rw [h, g1 k hk]
  · rw [h, Map.find?_set_ne _ _ _ _ hk, g1 k hk]

theorem Touch.early {R : Send → Send → Prop} {s s' : State} {id : Nat} (t : Touch R s s' id) (i : EarlyInv s)
    (hl : sidInitiator id = s.side) : EarlyInv s' ∧ s'.side = s.side := by
  rcases t with rfl | ⟨x, s1, hg, rfl | ⟨x', _, e⟩⟩
  · exact ⟨i, rfl⟩
  · exact early_get i hl hg (Or.inl rfl) rfl rfl
  · exact early_get i hl hg (Or.inr ⟨x', by rw [e]⟩) (by rw [e]) (by rw [e])

theorem early_write {s s' : State} {id n : Nat} {r : Except WriteErr Nat} (h : s.write id n = some (s', r))
    (i : EarlyInv s) (hl : sidInitiator id = s.side) : EarlyInv s' ∧ s'.side = s.side := by
  cases r with
  | error e => exact (touch_write_err h).early i hl
  | ok k =>
    obtain ⟨x, s1, x', _, _, _, hg, _, e⟩ := write_ok_put h
    exact early_get i hl hg (Or.inr ⟨x', by rw [e]⟩) (by rw [e]) (by rw [e])

theorem Shuffle.shape {s s' : State} (t : Shuffle s s') : SameShape s.send s'.send := by
  intro k
  rcases t.send k with h | ⟨x, x', h, h', _⟩
  · rw [h]; exact ⟨Iff.rfl, Iff.rfl⟩
  · rw [h, h']; simp

theorem Shuffle.early {s s' : State} (t : Shuffle s s') (i : EarlyInv s) : EarlyInv s' ∧ s'.side = s.side :=
  ⟨i.of_shape t.shape (by rw [t.rest]) (by rw [t.rest]), by rw [t.rest]⟩

theorem early_setParams (s : State) (p : Params) (i : EarlyInv s) : EarlyInv (s.setParams p) := by
  have hs : SameShape s.send (setParamsLoop s.side p.initialMaxStreamDataBidiLocal s.send (s.maxRemote.get .bi) 0) := by
    intro k
    rcases setParamsLoop_send s.side p.initialMaxStreamDataBidiLocal (s.maxRemote.get .bi) s.send 0 k with e | ⟨x, hx, e, _⟩
    · rw [e]; exact ⟨Iff.rfl, Iff.rfl⟩
    · rw [e, hx]; simp
  exact i.of_shape hs rfl rfl

theorem early_open {s s' : State} {d : Dir} {r : Option Nat} (h : s.open_ d = some (s', r)) (i : EarlyInv s) :
    EarlyInv s' ∧ s'.side = s.side := by
  rcases open_cases h with ⟨_, rfl, _⟩ | ⟨_, _, _, rfl⟩ | ⟨_, _, _, s2, hins, rfl⟩
  · exact ⟨i, rfl⟩
  · exact ⟨i, rfl⟩
  have a := alloc_insert hins
  have hside : s2.side = s.side := by rw [a.rest]
  have hnext : s2.next = s.next.set d (s.next.get d + 1) := by rw [a.rest]
  refine ⟨i.of_touch (id := sidNew s.side d (s.next.get d)) (sidInitiator_sidNew ..) (fun k hk => ?_) (Or.inr ?_) hside
    fun d' => ?_, hside⟩
  · exact (a.send k).elim id fun hh => absurd hh.1 hk
  · show _ < s2.next.get _
    rw [hnext, sidIndex_sidNew, sidDir_sidNew, Two.get_set, if_pos rfl]; exact Nat.lt_succ_self _
  · show _ ≤ s2.next.get d'
    rw [hnext, Two.get_set]
    split
    · next hd => subst hd; exact Nat.le_succ _
    · exact Nat.le_refl _

theorem early_step {s s' : State} {o : Op} {out : Out} (h : step s o = some (s', out)) (i : EarlyInv s)
    (he : EarlyOp s.side o) : EarlyInv s' ∧ s'.side = s.side := by
  cases Steps.of_step h with
  | stopped | canSend | view | conn | sendWindow => exact ⟨i, rfl⟩
  | params p => exact ⟨early_setParams s p i, rfl⟩
  | open_ h1 => exact early_open h1 i
  | write h1 => exact early_write h1 i he
  | finish id => exact (touch_finish rfl).early i he
  | reset h1 => exact (touch_reset h1).early i he
  | prio id p => exact (touch_setPriority rfl).early i he
  | poll h1 =>
    obtain ⟨s1, t, e⟩ := poll_shuffle h1
    rw [e]; exact t.early i
  | transmit h1 => exact (shuffle_writeStreamFrames _ _ _ h1).early i
  | rtx0 h1 => exact (shuffle_retransmitAllFor0rtt h1).early i
  | _ => exact he.elim

theorem rejected_vw {s s1 : State} (i : EarlyInv s) (h : s.zeroRttRejected = some s1) (p : Params) :
    (({ s1 with rtx := {} } : State).setParams p).vw =
      ⟨⟨s.side, p.initialMaxData, 0, ⟨p.initialMaxStreamsBidi, p.initialMaxStreamsUni⟩, ⟨0, 0⟩,
        p.initialMaxStreamDataUni, p.initialMaxStreamDataBidiLocal, p.initialMaxStreamDataBidiRemote⟩,
       fun _ => none⟩ := by
  obtain ⟨z1, _, z3, z4, _, _, _, z8⟩ := zeroRttRejected_scalars h
  simp only [State.vw, SView.mk.injEq]
  constructor
  · simp only [State.core, State.setParams, State.receivedMaxData, z1, z3, z4, z8, natMax_eq, Nat.zero_max]
  · funext k
    refine setParams_cv_empty p (fun k x hx => ?_) k
    replace hx : s1.send.find? k = some (some x) := hx
    obtain ⟨gone, kept⟩ := zeroRttRejected_send h
    by_cases hl : sidInitiator k = s.side ∧ sidIndex k < s.next.get (sidDir k)
    · have := gone _ _ hl.2
      rw [← hl.1, sidNew_components, hx] at this; contradiction
    · rw [kept k fun d j hj hk => hl (by
        rw [hk, sidInitiator_sidNew, sidDir_sidNew, sidIndex_sidNew]; exact ⟨rfl, hj⟩)] at hx
      rcases i k (by rw [hx]; simp) with hh | ⟨_, hh⟩
      · exact hl hh
      · rw [hx] at hh; simp at hh

end QM.Streams
