import QuinnModel.Lemmas.StreamsStepFx
/-
C11, whole histories — `Run` / `trace`, the events handed to the application (`delivered`), the ghost list `L` of
all Opened / Readable / Finished / Stopped events of a history (handed out, or waiting as a flag or in the queue),
which a step only extends up to order, and the invariant `HInv` that turns the per-step facts of
Lemmas/StreamsStepFx.lean into statements about all histories; slot accounting per step (`SlotStep`) and the
reader's one terminal outcome.
-/
namespace QM.Streams

def delivered (tr : List Step) : List Event := tr.flatMap Step.delivered

/-- the history ends where the implementation would panic (`step` gives `none`) -/
def trace : State → List Op → List Step
  | _, [] => []
  | s, o :: os =>
    match step s o with
    | none => []
    | some (s', out) => ⟨s, o, out, s'⟩ :: trace s' os

/-- `tr` (oldest first) is a history from `s0` to `s` without restart (`new`, `rejected`) -/
inductive Run (s0 : State) : List Step → State → Prop
  | nil : Run s0 [] s0
  | snoc {tr : List Step} {s s' : State} {o : Op} {out : Out} :
      Run s0 tr s → step s o = some (s', out) → o.isRestart = false → Run s0 (tr ++ [⟨s, o, out, s'⟩]) s'

theorem Run.cons {s0 s1 s : State} {o : Op} {out : Out} {tr : List Step} (h0 : step s0 o = some (s1, out))
    (hr : o.isRestart = false) (h : Run s1 tr s) : Run s0 (⟨s0, o, out, s1⟩ :: tr) s := by
  induction h with
  | nil => exact Run.snoc (tr := []) Run.nil h0 hr
  | snoc _ hs hr' ih => exact Run.snoc (tr := _ :: _) ih hs hr'

theorem Run.split {s0 s : State} {l1 l2 : List Step} {st : Step} (r : Run s0 (l1 ++ st :: l2) s) :
    Run s0 l1 st.pre ∧ step st.pre st.op = some (st.post, st.out) ∧ st.op.isRestart = false ∧ Run st.post l2 s := by
  generalize htr : l1 ++ st :: l2 = tr at r
  induction r generalizing l2 with
  | nil => cases l1 <;> cases htr
  | snoc r' hs hr ih =>
    rcases List.eq_nil_or_concat l2 with rfl | ⟨l2', st2, rfl⟩
    · obtain ⟨rfl, e⟩ := List.append_inj' htr rfl
      cases e
      exact ⟨r', hs, hr, .nil⟩
    · rw [List.concat_eq_append] at htr ⊢
      rw [← List.cons_append, ← List.append_assoc] at htr
      obtain ⟨e1, e⟩ := List.append_inj' htr rfl
      cases e
      obtain ⟨a, b, c, d⟩ := ih e1
      exact ⟨a, b, c, d.snoc hs hr⟩

theorem delivered_snoc (tr : List Step) (st : Step) : delivered (tr ++ [st]) = delivered tr ++ st.delivered := by
  simp [delivered, List.flatMap_append]

theorem out_event_poll {s s' : State} {o : Op} {e : Event} (h : step s o = some (s', .event e)) : o = .poll := by
  generalize ho : Out.event e = out at h
  cases Steps.of_step h with
  | poll => rfl
  | stream | rst => rename_i r _; cases r <;> cases ho
  | open_ | accept | write | finish | reset | stopped | prio | maxStreamData | maxStreams | read | stop | recvReset =>
    split at ho <;> cases ho
  | _ => cases ho

theorem delivered_nil {s s' : State} {o : Op} {out : Out} (h : step s o = some (s', out)) (hne : o ≠ .poll) :
    Step.delivered ⟨s, o, out, s'⟩ = [] := by
  unfold Step.delivered
  split
  · rename_i e he
    simp only at he; subst he
    exact absurd (out_event_poll h) hne
  · rfl

/-- the `opened` flags as events that `poll` will hand out -/
def flags (o : Two Bool) : List Event :=
  (if o.bi then [.opened .bi] else []) ++ (if o.uni then [.opened .uni] else [])

theorem flags_set (o : Two Bool) (d : Dir) :
    (flags (o.set d true)).Perm (flags o ++ if o.get d then [] else [.opened d]) := by
  cases d <;> rcases o with ⟨_ | _, _ | _⟩ <;> decide

theorem flags_get {o : Two Bool} {d : Dir} (h : o.get d = true) :
    (flags o).Perm (.opened d :: flags (o.set d false)) := by
  cases d <;> rcases o with ⟨_ | _, _ | _⟩ <;> first | decide | cases h

/-- every loud event of the history: handed out so far, then waiting as a flag or in the queue -/
def L (tr : List Step) (s : State) : List Event := (delivered tr).filter loud ++ (flags s.opened ++ s.view.ev)

/-- `l`: the events the step queued; `fl`: the flag it raised, if it was down -/
theorem step_L {tr : List Step} {s s' : State} {o : Op} {out : Out} (h : step s o = some (s', out))
    (f : EvFx s s' o out) :
    ∃ l fl, Emits s s' o out l ∧ (∀ ev ∈ fl, ∃ d, ev = .opened d ∧ ∃ id, (⟨s, o, out, s'⟩ : Step).names id ∧ sidDir id = d) ∧
      (L (tr ++ [⟨s, o, out, s'⟩]) s').Perm (L tr s ++ (l ++ fl)) := by
  have hL : ∀ l, ((Step.delivered ⟨s, o, out, s'⟩).filter loud ++ (flags s'.opened ++ s'.view.ev)).Perm
      (flags s.opened ++ s.view.ev ++ l) → (L (tr ++ [⟨s, o, out, s'⟩]) s').Perm (L tr s ++ l) := by
    intro l hl
    simp only [L, delivered_snoc, List.filter_append, List.append_assoc]
    exact (hl.trans (.of_eq (List.append_assoc ..))).append_left _
  cases f with
  | emit hne l em he hf =>
    rw [delivered_nil h hne, List.filter_nil, List.nil_append, he] at hL
    rcases hf with e | ⟨id, hn, e⟩
    · refine ⟨l, [], em, nofun, hL _ ?_⟩
      rw [e, List.append_nil, List.append_assoc]
    · refine ⟨l, if s.opened.get (sidDir id) then [] else [.opened (sidDir id)], em, fun ev hev => ?_, hL _ ?_⟩
      · split at hev
        · cases hev
        · exact ⟨_, List.mem_singleton.mp hev, id, hn, rfl⟩
      · rw [e]
        refine ((flags_set _ _).append_right _).trans ?_
        simp only [List.append_assoc]
        exact (List.perm_append_comm.trans (.of_eq (List.append_assoc ..))).append_left _
  | poll ho e hout hp =>
    subst ho
    have hd : Step.delivered ⟨s, .poll, out, s'⟩ = e.toList := by rw [hout]; cases e <;> rfl
    rw [hd] at hL
    refine ⟨[], [], .nothing, nofun, hL _ (.trans ?_ (.of_eq (List.append_nil _).symm))⟩
    rcases (fx_poll hp).2 with ⟨d, rfl, hg, ho, he⟩ | ⟨ho, he⟩
    · rw [ho, he]
      exact ((flags_get hg).append_right s.view.ev).symm
    · rw [ho, ← he]
      exact List.perm_append_comm_assoc ..

def KeysAlloc (s : State) : Prop :=
  ∀ id, (s.hv.sh id ≠ .gone ∨ s.hv.rp id = true) → s.hv.allocd id

/-- what `HvFx` allows for the sending half that is not covered by growth -/
def SendTr (h h' : SendHalf) : Prop :=
  h ≠ .gone ∧ (h' = .gone ∨ expectedStopped h = some none ∨ expectedStopped h' = expectedStopped h)

section persist
variable {s s' : State} {o : Op} {out : Out}

theorem HvFx.core (f : HvFx s s' o out) (ka : KeysAlloc s) :
    ∃ xs xr rel, Grow xs xr rel s.hv s'.hv ∧ (∀ id, xs = some id → SendTr (s.hv.sh id) (s'.hv.sh id)) ∧
      (∀ id, xr = some id → s.hv.rp id = true ∧ s'.hv.rp id = false) := by
  cases f with
  | grow g => exact ⟨none, none, rel0, g, nofun, nofun⟩
  | send id g hp hp' st ds => exact ⟨some id, none, rel0, g, fun k hk => by cases hk; exact ⟨hp, Or.inr st⟩, nofun⟩
  | sdrop id d =>
    obtain ⟨rel, g, _⟩ := d.rel
    exact ⟨some id, none, rel, g, fun k hk => by cases hk; exact ⟨d.had, Or.inl (d.gone (ka id (Or.inl d.had)))⟩, nofun⟩
  | rdrop id d =>
    obtain ⟨rel, g, _⟩ := d.rel
    exact ⟨none, some id, rel, g, nofun, fun k hk => by cases hk; exact ⟨d.had, d.gone (ka id (Or.inr d.had))⟩⟩

theorem HvFx.allocd (f : HvFx s s' o out) (ka : KeysAlloc s) {id : Nat} (h : s.hv.allocd id) : s'.hv.allocd id := by
  obtain ⟨_, _, _, g, _, _⟩ := f.core ka
  exact g.allocd h

theorem HvFx.gone_stays (f : HvFx s s' o out) (ka : KeysAlloc s) {id : Nat} (hg : s.hv.sh id = .gone) (ha : s.hv.allocd id) :
    s'.hv.sh id = .gone := by
  obtain ⟨xs, _, _, g, hs, _⟩ := f.core ka
  by_cases hx : xs = some id
  · exact absurd hg (hs id hx).1
  · exact ((g.same_of_allocd ha).1 hx).trans hg

theorem HvFx.stopped_stays (f : HvFx s s' o out) (ka : KeysAlloc s) {id : Nat} (hs0 : expectedStopped (s.hv.sh id) ≠ some none)
    (ha : s.hv.allocd id) : expectedStopped (s'.hv.sh id) ≠ some none := by
  obtain ⟨xs, _, _, g, hs, _⟩ := f.core ka
  by_cases hx : xs = some id
  · obtain ⟨_, h2⟩ := hs id hx
    rcases h2 with h2 | h2 | h2
    · rw [h2]; simp [expectedStopped]
    · exact absurd h2 hs0
    · rw [h2]; exact hs0
  · rw [(g.same_of_allocd ha).1 hx]; exact hs0

theorem HvFx.rgone_stays (f : HvFx s s' o out) (ka : KeysAlloc s) {id : Nat} (hg : s.hv.rp id = false) (ha : s.hv.allocd id) :
    s'.hv.rp id = false := by
  obtain ⟨_, xr, _, g, _, hr⟩ := f.core ka
  by_cases hx : xr = some id
  · rw [(hr id hx).1] at hg; cases hg
  · exact ((g.same_of_allocd ha).2 hx).trans hg

theorem HvFx.keysAlloc (f : HvFx s s' o out) (ka : KeysAlloc s) : KeysAlloc s' := by
  obtain ⟨xs, xr, _, g, hs, hr⟩ := f.core ka
  intro id hid
  rcases hid with hid | hid
  · by_cases hx : xs = some id
    · exact g.allocd (ka id (Or.inl (hs id hx).1))
    · rcases g.sh id hx with e | ⟨_, _, a, _⟩
      · exact g.allocd (ka id (Or.inl (e ▸ hid)))
      · exact a
  · by_cases hx : xr = some id
    · rw [(hr id hx).2] at hid; cases hid
    · rcases g.rp id hx with e | ⟨_, _, a, _⟩
      · exact g.allocd (ka id (Or.inr (e ▸ hid)))
      · exact a

def UniInv (s : State) : Prop := ∀ id, sidDir id = .uni → sidInitiator id ≠ s.side → s.hv.sh id = .gone

theorem HvFx.uni (f : HvFx s s' o out) (ka : KeysAlloc s) (hu : UniInv s) : UniInv s' := by
  obtain ⟨xs, _, _, g, hs, _⟩ := f.core ka
  intro id hd hr
  have hside : s'.side = s.side := g.side
  rw [hside] at hr
  by_cases hx : xs = some id
  · exact absurd (hu id hd hr) (hs id hx).1
  · rcases g.sh id hx with e | ⟨_, _, _, _, u⟩
    · rw [e]; exact hu id hd hr
    · rcases u with u | u
      · rw [hd] at u; cases u
      · exact absurd u hr

theorem HvFx.dataSent_origin (f : HvFx s s' o out) (ka : KeysAlloc s) {id : Nat} (h : (s'.hv.sh id).isDataSent = true) :
    (s.hv.sh id).isDataSent = true ∨ (o = .finish id ∧ out = .ok) := by
  have other : ∀ {xs xr rel}, Grow xs xr rel s.hv s'.hv → xs ≠ some id → (s.hv.sh id).isDataSent = true := by
    intro xs xr rel g hx
    rcases g.sh id hx with e | ⟨_, _, _, r, _⟩
    · rw [← e]; exact h
    · rw [r] at h; cases h
  cases f with
  | grow g => exact Or.inl (other g nofun)
  | rdrop i d => obtain ⟨rel, g, _⟩ := d.rel; exact Or.inl (other g nofun)
  | send i g hp hp' st ds =>
    by_cases hi : i = id
    · subst hi; exact ds h
    · exact Or.inl (other g (by simpa using hi))
  | sdrop i d =>
    obtain ⟨rel, g, _⟩ := d.rel
    by_cases hi : i = id
    · subst hi; rw [d.gone (ka i (Or.inl d.had))] at h; cases h
    · exact Or.inl (other g (by simpa using hi))

end persist

def isStoppedOf (id : Nat) : Event → Bool
  | .stopped i _ => i == id
  | _ => false

def FinishOk (st : Step) (id : Nat) : Prop := st.op = .finish id ∧ st.out = .ok

/-- the step is the acknowledgement that completes stream `id`: `Send::ack` reports `true`, see `Send.ack_done` -/
def Completes (st : Step) (id : Nat) : Prop :=
  ∃ a e fin x x', st.op = .ack id a e fin ∧ st.pre.send.find? id = some (some x) ∧
    x.ack a e fin = some (x', true)

structure GoodFinished (tr : List Step) (s : State) (id : Nat) : Prop where
  gone : s.hv.sh id = .gone
  allocd : s.hv.allocd id
  ackAfterFinish : ∃ l1 st l2, tr = l1 ++ st :: l2 ∧ Completes st id ∧ ∃ st0 ∈ l1, FinishOk st0 id

structure GoodStopped (tr : List Step) (s : State) (id c : Nat) : Prop where
  allocd : s.hv.allocd id
  reason : expectedStopped (s.hv.sh id) ≠ some none
  frame : ∃ st ∈ tr, st.op = .stopSending id c

def Good (tr : List Step) (s : State) : Event → Prop
  | .finished id => GoodFinished tr s id
  | .stopped id c => GoodStopped tr s id c
  | .readable id => ∃ st ∈ tr, st.data id
  | .opened d => ∃ st ∈ tr, ∃ id, st.names id ∧ sidDir id = d
  | _ => True

structure HInv (tr : List Step) (s : State) : Prop where
  ka : KeysAlloc s
  uni : UniInv s
  good : ∀ ev ∈ L tr s, Good tr s ev
  finishedOnce : ∀ id, ((L tr s).filter (· == .finished id)).length ≤ 1
  stoppedOnce : ∀ id, ((L tr s).filter (isStoppedOf id)).length ≤ 1
  dataSentWitness : ∀ id, (s.hv.sh id).isDataSent = true → ∃ st0 ∈ tr, FinishOk st0 id

theorem mem_snoc_of_mem {tr : List Step} {P : Step → Prop} (st' : Step) (h : ∃ st ∈ tr, P st) :
    ∃ st ∈ tr ++ [st'], P st :=
  let ⟨st, hm, hp⟩ := h; ⟨st, List.mem_append_left _ hm, hp⟩

theorem mem_snoc_last {tr : List Step} {P : Step → Prop} {st' : Step} (h : P st') : ∃ st ∈ tr ++ [st'], P st :=
  ⟨_, List.mem_append_right _ (List.mem_singleton.mpr rfl), h⟩

theorem Good.step {tr : List Step} {s s' : State} {o : Op} {out : Out} {ev : Event} (g : Good tr s ev)
    (f : HvFx s s' o out) (ka : KeysAlloc s) : Good (tr ++ [⟨s, o, out, s'⟩]) s' ev := by
  cases ev with
  | finished id =>
    obtain ⟨a, b, l1, st, l2, e, c, w⟩ := g
    exact ⟨f.gone_stays ka a b, f.allocd ka b, l1, st, l2 ++ [⟨s, o, out, s'⟩], by rw [e]; simp, c, w⟩
  | stopped id c =>
    exact ⟨f.allocd ka g.allocd, f.stopped_stays ka g.reason g.allocd, mem_snoc_of_mem _ g.frame⟩
  | readable id => exact mem_snoc_of_mem _ g
  | opened d => exact mem_snoc_of_mem _ g
  | _ => trivial

/-- right after `new`: no events, no flags, halves only for the ids permitted to the peer, fresh sending halves only for
    its bidirectional ones -/
theorem new_fresh {c : Config} {s0 : State} (h : State.new c = some s0) :
    s0.events = [] ∧ s0.opened = ⟨false, false⟩ ∧ KeysAlloc s0 ∧ UniInv s0 ∧
      ∀ id, (s0.hv.sh id).isDataSent = false := by
  obtain ⟨s1, a1, a2⟩ := alloc_new h
  have e0 : s0 = { State.bare c with send := s0.send, recv := s0.recv } := a2.rest.trans (by rw [a1.rest])
  have al : ∀ k d, (∃ j, j < (State.bare c).maxRemote.get d ∧ k = sidNew c.side.not d j) → s0.hv.allocd k := by
    rintro k d ⟨j, hj, rfl⟩
    rw [e0]
    simp only [HV.allocd, State.hv, State.bare, sidNew_remote, ↓reduceIte, sidDir_sidNew, sidIndex_sidNew]
    exact hj
  have hs : ∀ k, absSend s0 k = .gone ∨ (absSend s0 k = .ready none ∧
      ∃ j, j < (State.bare c).maxRemote.get .bi ∧ k = sidNew c.side.not .bi j) := fun k => by
    rw [((a2.halves k).1.resolve_right fun hh => hh.2.1)]
    exact (a1.halves k).1.imp (fun e => e) fun ⟨n, _, _, r⟩ => ⟨r, n⟩
  refine ⟨by rw [e0]; rfl, by rw [e0]; rfl, fun k hk => ?_, fun k hd _ => ?_, fun k => ?_⟩
  · rcases hk with hk | hk
    · exact (hs k).elim (fun e => absurd e hk) fun e => al k _ e.2
    · rcases (a2.halves k).2 with e2 | ⟨n, _⟩
      · rcases (a1.halves k).2 with e1 | ⟨n, _⟩
        · rw [show s0.hv.rp k = false from e2.trans e1] at hk; cases hk
        · exact al k .bi n
      · exact al k .uni n
  · refine (hs k).elim (fun e => e) fun ⟨_, j, _, e⟩ => ?_
    rw [e, sidDir_sidNew] at hd; cases hd
  · rcases hs k with e | ⟨e, _⟩ <;> (show (absSend s0 k).isDataSent = false; rw [e]; rfl)

theorem hinv_init {c : Config} {s0 : State} (h : State.new c = some s0) : HInv [] s0 := by
  obtain ⟨he, ho, ka, hu, hds⟩ := new_fresh h
  have hq : L [] s0 = [] := by simp [L, delivered, State.view, he, ho, flags]
  refine ⟨ka, hu, by rw [hq]; nofun, by rw [hq]; intro; exact Nat.zero_le _, by rw [hq]; intro; exact Nat.zero_le _,
    fun id hid => ?_⟩
  rw [hds id] at hid; cases hid

theorem once_snoc {p : Event → Bool} {l : List Event} {e : Event} (h : (l.filter p).length ≤ 1)
    (hnew : p e = true → ∀ x ∈ l, p x = false) : ((l ++ [e]).filter p).length ≤ 1 := by
  rw [List.filter_append, List.length_append]
  cases hp : p e with
  | false => simpa [List.filter, hp] using h
  | true =>
    have : l.filter p = [] := List.filter_eq_nil_iff.mpr fun x hx => by rw [hnew hp x hx]; nofun
    rw [this]; simp [List.filter, hp]

/-- `p` selects no Opened event: the raised flag does not count -/
theorem once_perm {p : Event → Bool} {L' L0 l fl : List Event} (hp : L'.Perm (L0 ++ (l ++ fl)))
    (hfl : ∀ ev ∈ fl, p ev = false) (h : ((L0 ++ l).filter p).length ≤ 1) : (L'.filter p).length ≤ 1 := by
  rw [(hp.filter p).length_eq, ← List.append_assoc, List.filter_append,
    (List.filter_eq_nil_iff (l := fl)).mpr (by simpa using hfl), List.append_nil]
  exact h

theorem hinv_step {tr : List Step} {s s' : State} {o : Op} {out : Out} (i : HInv tr s)
    (h : step s o = some (s', out)) (hr : o.isRestart = false) : HInv (tr ++ [⟨s, o, out, s'⟩]) s' := by
  have f := (fx_step h hr).hv
  have hds : ∀ id, (s'.hv.sh id).isDataSent = true → ∃ st0 ∈ tr ++ [⟨s, o, out, s'⟩], FinishOk st0 id := by
    intro id hid
    rcases f.dataSent_origin i.ka hid with h0 | ⟨ho, hout⟩
    · exact mem_snoc_of_mem _ (i.dataSentWitness id h0)
    · exact mem_snoc_last ⟨ho, hout⟩
  obtain ⟨l, fl, em, hfl, hq⟩ := step_L (tr := tr) h (fx_step h hr).ev
  have once : ∀ {p : Event → Bool}, (∀ d, p (.opened d) = false) → ((L tr s ++ l).filter p).length ≤ 1 →
      ((L (tr ++ [⟨s, o, out, s'⟩]) s').filter p).length ≤ 1 := fun hp =>
    once_perm hq fun ev hev => by obtain ⟨d, rfl, _⟩ := hfl ev hev; exact hp d
  -- the events of before stay good, a raised flag is justified by this step; `hl`: so are the events queued now
  have build : (∀ ev ∈ l, Good (tr ++ [⟨s, o, out, s'⟩]) s' ev) →
      (∀ id, ((L tr s ++ l).filter (· == .finished id)).length ≤ 1) →
      (∀ id, ((L tr s ++ l).filter (isStoppedOf id)).length ≤ 1) → HInv (tr ++ [⟨s, o, out, s'⟩]) s' := fun hl h1 h2 =>
    ⟨f.keysAlloc i.ka, f.uni i.ka i.uni, fun ev hev => by
      rcases List.mem_append.mp (hq.mem_iff.mp hev) with h0 | h0
      · exact (i.good ev h0).step f i.ka
      · rcases List.mem_append.mp h0 with h0 | h0
        · exact hl ev h0
        · obtain ⟨d, rfl, hn⟩ := hfl ev h0; exact mem_snoc_last hn,
      fun id => once (fun _ => rfl) (h1 id), fun id => once (fun _ => rfl) (h2 id), hds⟩
  cases em with
  | nothing =>
    exact build nofun (fun id => by rw [List.append_nil]; exact i.finishedOnce id)
      (fun id => by rw [List.append_nil]; exact i.stoppedOnce id)
  | readable id hd =>
    exact build (fun ev hev => by cases List.mem_singleton.mp hev; exact mem_snoc_last hd)
      (fun id => once_snoc (i.finishedOnce id) nofun) (fun id => once_snoc (i.stoppedOnce id) nofun)
  | finished id0 a e fin ho d hx hc =>
    -- the half was present, so `Finished id0` had not been reported before
    obtain ⟨x, x', hfx, hack⟩ := hx
    have hpres : s.hv.sh id0 ≠ .gone := absSend_ne_gone hfx
    have hnew : Event.finished id0 ∉ L tr s := fun hm => hpres (i.good _ hm).gone
    have hwas : (s.hv.sh id0).isDataSent = true := by
      obtain ⟨⟨fa, hst, _⟩, _⟩ := Send.ack_done hack
      simp only [State.hv, absSend, hfx, SendHalf.ofSend, hst]; rfl
    refine build (fun ev hev => ?_) (fun id => once_snoc (i.finishedOnce id) fun hp x hx => ?_)
      (fun id => once_snoc (i.stoppedOnce id) nofun)
    · cases List.mem_singleton.mp hev
      obtain ⟨st0, hm, hf0⟩ := i.dataSentWitness id0 hwas
      have ha := i.ka id0 (Or.inl hpres)
      exact ⟨d.gone ha, f.allocd i.ka ha, tr, _, [], rfl, ⟨a, e, fin, x, x', ho, hfx, hack⟩, st0, hm, hf0⟩
    · cases eq_of_beq hp
      exact beq_false_of_ne fun hh => hnew (hh ▸ hx)
  | stopped id0 c0 ho h1 h2 =>
    -- the half had no stop reason, so no `Stopped` had been reported for it
    have hnew : ∀ c, Event.stopped id0 c ∉ L tr s := fun c hm => (i.good _ hm).reason h1
    refine build (fun ev hev => ?_) (fun id => once_snoc (i.finishedOnce id) fun hp => by simp at hp)
      (fun id => once_snoc (i.stoppedOnce id) fun hp x hx => ?_)
    · cases List.mem_singleton.mp hev
      exact ⟨f.allocd i.ka (i.ka id0 (Or.inl (ne_gone_of_stopped h1))), by rw [h2]; simp, mem_snoc_last ho⟩
    · cases eq_of_beq hp
      cases x <;> try rfl
      rename_i j c
      exact beq_false_of_ne fun hh => hnew c (hh ▸ hx)

theorem run_hinv {c : Config} {s0 s : State} {tr : List Step} (h0 : State.new c = some s0) (r : Run s0 tr s) :
    HInv tr s := by
  induction r with
  | nil => exact hinv_init h0
  | snoc _ hs hr ih => exact hinv_step ih hs hr

theorem mem_L {tr : List Step} {s : State} {ev : Event} (hd : ev ∈ delivered tr) (h : loud ev = true) :
    ev ∈ L tr s :=
  List.mem_append_left _ (List.mem_filter.mpr ⟨hd, h⟩)

theorem filter_delivered_le (tr : List Step) (s : State) {p : Event → Bool}
    (hp : ∀ e, p e = true → loud e = true) :
    ((delivered tr).filter p).length ≤ ((L tr s).filter p).length := by
  have : (fun e => p e && loud e) = p := by
    funext e
    cases h : p e
    · rfl
    · exact hp e h
  unfold L
  rw [List.filter_append, List.length_append, List.filter_filter, this]
  omega

def dead (v : HV) (id : Nat) : Prop := v.sh id = .gone ∧ v.rp id = false

/-- slot accounting of one step: `max_remote - allocated_remote_count`, the number of slots released so far,
    stays, or it grows by one in the direction of the one remotely initiated stream `id0` that loses its last half -/
def SlotStep (s s' : State) : Prop :=
  ((∀ d, s'.maxRemote.get d + s.allocatedRemoteCount.get d = s.maxRemote.get d + s'.allocatedRemoteCount.get d) ∧
    ∀ id, sidInitiator id ≠ s.side → s.hv.allocd id → (dead s'.hv id ↔ dead s.hv id)) ∨
  (∃ id0, sidInitiator id0 ≠ s.side ∧ s.hv.allocd id0 ∧ ¬ dead s.hv id0 ∧ dead s'.hv id0 ∧
    (∀ d, s'.maxRemote.get d + s.allocatedRemoteCount.get d =
      s.maxRemote.get d + s'.allocatedRemoteCount.get d + (if d = sidDir id0 then 1 else 0)) ∧
    ∀ id, id ≠ id0 → sidInitiator id ≠ s.side → s.hv.allocd id → (dead s'.hv id ↔ dead s.hv id))

theorem slot_step {s s' : State} {o : Op} {out : Out} (ka : KeysAlloc s) (hu : UniInv s)
    (f : HvFx s s' o out) : SlotStep s s' := by
  have others : ∀ {xs xr rel}, Grow xs xr rel s.hv s'.hv → ∀ id, xs ≠ some id → xr ≠ some id → s.hv.allocd id →
      (dead s'.hv id ↔ dead s.hv id) := by
    intro xs xr rel g id h1 h2 ha
    obtain ⟨a, b⟩ := g.same_of_allocd ha
    unfold dead; rw [a h1, b h2]
  have keep : ∀ {xs xr : Option Nat} (i : Nat), Grow xs xr rel0 s.hv s'.hv → (∀ id, xs = some id → id = i) →
      (∀ id, xr = some id → id = i) →
      (sidInitiator i ≠ s.side → s.hv.allocd i → (dead s'.hv i ↔ dead s.hv i)) → SlotStep s s' := by
    intro xs xr i g hxs hxr hi
    refine Or.inl ⟨fun d => ?_, fun id hr ha => ?_⟩
    · have := g.cnt d; simp only [State.hv, rel0, Nat.add_zero] at this; exact this
    · by_cases h : id = i
      · subst h; exact hi hr ha
      · exact others g id (fun e => h (hxs id e)) (fun e => h (hxr id e)) ha
  -- one half of `i` is dropped; `og`: the other half is gone too
  have drop : ∀ {xs xr : Option Nat} {rel : Dir → Nat} {og : Bool} (i : Nat), Grow xs xr rel s.hv s'.hv →
      (∀ id, xs = some id → id = i) → (∀ id, xr = some id → id = i) → s.hv.allocd i → ¬ dead s.hv i →
      (dead s'.hv i ↔ og = true) → (sidInitiator i ≠ s.side → sidDir i = .uni → og = true) →
      RelSpec s.hv i og rel → SlotStep s s' := by
    intro xs xr rel og i g hxs hxr hai hnd hdead huni hrel
    rcases hrel with ⟨hr, hff, rfl⟩ | ⟨hn, rfl⟩
    · have hog : og = true := by
        cases hdi : sidDir i with
        | uni => exact huni hr hdi
        | bi => rw [hdi] at hff; simpa using hff
      refine Or.inr ⟨i, hr, hai, hnd, hdead.mpr hog, fun d => ?_,
        fun id hne _ ha => others g id (fun e => hne (hxs id e)) (fun e => hne (hxr id e)) ha⟩
      have := g.cnt d
      simp only [State.hv, rel1] at this
      exact this
    · refine keep i g hxs hxr fun hr _ => ⟨fun hd => ?_, fun hd => absurd hd hnd⟩
      exact absurd ⟨hr, by rw [hdead.mp hd]; simp⟩ hn
  cases f with
  | grow g => exact keep 0 g nofun nofun fun _ => others g 0 nofun nofun
  | send id g hp hp' _ _ =>
    exact keep id g (fun _ e => (Option.some.inj e).symm) nofun
      fun _ _ => ⟨fun hd => absurd hd.1 hp', fun hd => absurd hd.1 hp⟩
  | sdrop id d =>
    obtain ⟨rel, g, hrel⟩ := d.rel
    have hai := ka id (Or.inl d.had)
    refine drop id g (fun _ e => (Option.some.inj e).symm) nofun hai (fun hd => d.had hd.1) ?_
      (fun hr hd => absurd (hu id hd hr) d.had) hrel
    unfold dead
    rw [d.gone hai, (g.same_of_allocd hai).2 nofun]
    simp [HV.otherGone]
  | rdrop id d =>
    obtain ⟨rel, g, hrel⟩ := d.rel
    have h1 := d.had
    have hai := ka id (Or.inr h1)
    refine drop id g nofun (fun _ e => (Option.some.inj e).symm) hai (fun hd => by rw [hd.2] at h1; cases h1) ?_
      (fun hr hd => by simpa [HV.otherGone] using hu id hd hr) hrel
    unfold dead
    rw [d.gone hai, (g.same_of_allocd hai).1 nofun]
    simp [HV.otherGone]

theorem run_slot {c : Config} {s0 s : State} {tr : List Step} (h0 : State.new c = some s0) (r : Run s0 tr s) :
    ∀ st ∈ tr, SlotStep st.pre st.post := fun st hst => by
  obtain ⟨l1, l2, rfl⟩ := List.append_of_mem hst
  obtain ⟨r1, hs, hr, _⟩ := r.split
  have i := run_hinv h0 r1
  exact slot_step i.ka i.uni (fx_step hs hr).hv

/-- what a history keeps of a stream whose id is allocated: the id stays allocated, a half that is gone stays gone -/
theorem forever {s1 s2 : State} {tr : List Step} (r : Run s1 tr s2) (ka : KeysAlloc s1) {id : Nat}
    (ha : s1.hv.allocd id) : KeysAlloc s2 ∧ s2.hv.allocd id ∧ (s1.hv.sh id = .gone → s2.hv.sh id = .gone) ∧
      (s1.hv.rp id = false → s2.hv.rp id = false) := by
  induction r with
  | nil => exact ⟨ka, ha, fun h => h, fun h => h⟩
  | snoc _ hs hr ih =>
    have f := (fx_step hs hr).hv
    obtain ⟨k, a, b, c⟩ := ih
    exact ⟨f.keysAlloc k, f.allocd k a, fun h => f.gone_stays k (b h) a, fun h => f.rgone_stays k (c h) a⟩

theorem reader_closed {s s' : State} {o : Op} {out : Out} {id : Nat} (h : step s o = some (s', out))
    (hg : s.hv.rp id = false)
    (ho : (∃ b, o = .read id b) ∨ (∃ c, o = .stop id c) ∨ o = .recvReset id) : out = .errClosed := by
  have hgone : absRecv s id = .gone := by
    unfold absRecv
    cases hf : s.recv.find? id with
    | none => rfl
    | some v => simp only [State.hv, Map.contains, hf] at hg; cases hg
  -- the lookup of the half fails
  have hn := absRecv_gone_iff.mpr hgone
  rcases ho with ⟨b, rfl⟩ | ⟨c, rfl⟩ | rfl
  · cases Steps.of_step h with | read h1 => ?_
    rcases read_inv h1 with ⟨_, _, rfl⟩ | ⟨_, _, hg', _⟩
    · rfl
    · rw [hn] at hg'; cases hg'
  · cases Steps.of_step h with | stop h1 => ?_
    rcases stop_inv h1 with ⟨_, _, rfl⟩ | ⟨_, _, hg', _⟩
    · rfl
    · rw [hn] at hg'; cases hg'
  · cases Steps.of_step h with | recvReset h1 => ?_
    rcases recvReceivedReset_inv h1 with ⟨_, _, hr⟩ | ⟨_, _, _, _, ha, _⟩
    · rw [hgone] at hr; rw [hr]
    · rw [hgone] at ha; cases ha

/-- the step shows the reader its terminal outcome: end of stream, or the sender's reset code -/
def TerminalOutcome (st : Step) (id : Nat) : Prop :=
  (∃ b k t, st.op = .read id b ∧ (st.out = .read k .fin t ∨ ∃ c, st.out = .read k (.reset c) t)) ∨
  (st.op = .recvReset id ∧ ∃ c, st.out = .okOpt (some c))

def ReaderOp (st : Step) (id : Nat) : Prop :=
  (∃ b, st.op = .read id b) ∨ (∃ c, st.op = .stop id c) ∨ st.op = .recvReset id

theorem terminal_gone {s s' : State} {o : Op} {out : Out} {id : Nat}
    (h : step s o = some (s', out)) (ht : TerminalOutcome ⟨s, o, out, s'⟩ id) : RDrop id s.hv s'.hv := by
  rcases ht with ⟨b, k, t, ho, hout⟩ | ⟨ho, c, hout⟩ <;> (simp only at ho hout; subst ho)
  · cases Steps.of_step h with | @read _ _ _ r h1 => ?_
    cases r with
    | closedStream => rcases hout with hh | ⟨c, hh⟩ <;> cases hh
    | ok k' e' t' =>
      refine (fx_read h1).2 k' e' t' rfl ?_
      rcases hout with hh | ⟨c, hh⟩ <;> cases hh
      · exact Or.inl rfl
      · exact Or.inr ⟨c, rfl⟩
  · cases Steps.of_step h with | @recvReset _ _ r h1 => ?_
    cases r with
    | none => cases hout
    | some o' => cases hout; exact (fx_recvReceivedReset h1).2 _ rfl

/-- after the step that showed the reader its terminal outcome the receiving half is gone for the rest of the history -/
theorem run_terminal {c : Config} {s0 s : State} {l1 l2 : List Step} {st : Step} {id : Nat}
    (h0 : State.new c = some s0) (r : Run s0 (l1 ++ st :: l2) s) (ht : TerminalOutcome st id) :
    ∀ st' ∈ l2, ReaderOp st' id → st'.out = .errClosed := fun st' hst' hro => by
  obtain ⟨r1, hs, hr, r2⟩ := r.split
  have i := run_hinv h0 r1
  have d := terminal_gone hs ht
  have ha := i.ka id (Or.inr d.had)
  have f := (fx_step hs hr).hv
  obtain ⟨m1, m2, rfl⟩ := List.append_of_mem hst'
  obtain ⟨r3, hs', _, _⟩ := r2.split
  obtain ⟨_, _, _, recvGone⟩ := forever r3 (f.keysAlloc i.ka) (f.allocd i.ka ha)
  exact reader_closed hs' (recvGone (d.gone ha)) hro

end QM.Streams
