import QuinnModel.Conn.CidState
/-
Proofs about the CidState model: retirement of any peer-chosen sequence number is total, its error class is
decided exactly, and under the issuing discipline of Endpoint/Connection the number of issued-and-active
CIDs stays within the peer's limit (+1 while a lifetime rotation is pending), with no panic.
-/
namespace QM.CidState
open QM

theorem setRemove_not_mem (l : List Nat) (x : Nat) (h : x ∉ l) : setRemove l x = l := by
  unfold setRemove
  rw [List.filter_eq_self]
  intro a ha
  simp only [ne_eq, decide_not, Bool.not_eq_eq_eq_not, Bool.not_true, decide_eq_false_iff_not]
  intro hax; subst hax; exact h ha

theorem setRemove_length_mem (l : List Nat) (x : Nat) (hn : l.Nodup) (h : x ∈ l) :
    (setRemove l x).length + 1 = l.length := by
  have : setRemove l x = l.erase x := by
    rw [hn.erase_eq_filter]
    exact congrArg (fun p => l.filter p) (funext fun y => by simp [bne, Bool.beq_eq_decide_eq])
  rw [this, List.length_erase_of_mem h]
  exact Nat.sub_add_cancel (List.length_pos_of_mem h)

theorem setRemove_sublist (l : List Nat) (x : Nat) : (setRemove l x).Sublist l := List.filter_sublist

structure Inv (s : State) : Prop where
  nodup : s.activeSeq.Nodup
  lt : ∀ x ∈ s.activeSeq, x < s.issued
  ts : ∀ t ∈ s.retireTimestamp, t.sequence < s.issued
  /-- without a CID lifetime nothing is ever scheduled for rotation -/
  nolt : s.cidLifetime = none → s.retireTimestamp = [] ∧ s.prevRetireSeq = s.retireSeq

/-- the bound: within the limit, or one over while the peer still owes a retirement we asked for -/
def WithinLimit (limit : Nat) (s : State) : Prop :=
  s.activeSeq.length ≤ limit ∨
  (s.activeSeq.length = limit + 1 ∧ anyActive s s.prevRetireSeq s.retireSeq = true)

theorem anyActive_empty_range (s : State) (a : Nat) : anyActive s a a = false := by
  unfold anyActive
  rw [List.any_eq_false]
  intro x _
  simp only [Bool.and_eq_true, decide_eq_true_eq, not_and]
  omega

theorem WithinLimit.congr {limit : Nat} {s s' : State} (ha : s'.activeSeq = s.activeSeq) (hp : s'.prevRetireSeq = s.prevRetireSeq)
    (hr : s'.retireSeq = s.retireSeq) (hK : WithinLimit limit s) : WithinLimit limit s' := by
  unfold WithinLimit anyActive at *
  rwa [ha, hp, hr]

theorem WithinLimit.bound (limit : Nat) (s : State) (hI : Inv s) (hK : WithinLimit limit s) :
    s.activeSeq.length ≤ limit + 1 ∧ (s.cidLifetime = none → s.activeSeq.length ≤ limit) := by
  rcases hK with hk | ⟨hk, hw⟩
  · exact ⟨Nat.le_succ_of_le hk, fun _ => hk⟩
  · refine ⟨Nat.le_of_eq hk, fun hl => ?_⟩
    rw [(hI.nolt hl).2, anyActive_empty_range] at hw
    cases hw

/-- the `debug_assert!` of `track_lifetime` holds when the new sequence number is above all scheduled ones -/
theorem trackLifetime_spec (s : State) (seq now : Nat) (h : ∀ t ∈ s.retireTimestamp, t.sequence < seq) :
    ∃ ts, trackLifetime s seq now = some { s with retireTimestamp := ts } ∧ (∀ t ∈ ts, t.sequence < seq + 1) ∧
      (s.cidLifetime = none → ts = s.retireTimestamp) := by
  have key : ∀ (l : List CidTimestamp) (ts : Nat), (∀ t ∈ l, t.sequence < seq) →
      ∀ t ∈ l ++ [⟨seq, ts⟩], t.sequence < seq + 1 := fun l ts hl =>
    List.forall_mem_append.mpr ⟨fun t ht => Nat.lt_succ_of_lt (hl t ht),
      List.forall_mem_singleton.mpr (Nat.lt_succ_self _)⟩
  -- no lifetime; same expiry as the last entry (merged into it, or the `debug_assert!`); another expiry; empty schedule
  fun_cases trackLifetime s seq now
  next => exact ⟨_, rfl, fun t ht => Nat.lt_succ_of_lt (h t ht), fun _ => rfl⟩
  next hl _ _ _ _ _ =>
    exact ⟨_, rfl, key _ _ (fun t ht => h t ((List.dropLast_sublist _).subset ht)), fun hn => nomatch hl.symm.trans hn⟩
  next last hg _ hlt => exact absurd (h last (List.mem_of_getLast? hg)) hlt
  next hl _ _ _ _ => exact ⟨_, rfl, key _ _ h, fun hn => nomatch hl.symm.trans hn⟩
  next hl _ _ => exact ⟨_, rfl, key _ _ h, fun hn => nomatch hl.symm.trans hn⟩

theorem trackAll_spec (now : Nat) : ∀ (n a : Nat) (s : State), (∀ t ∈ s.retireTimestamp, t.sequence < a) →
    ∃ ts, trackAll s now (List.range' a n) = some { s with retireTimestamp := ts } ∧ (∀ t ∈ ts, t.sequence < a + n) ∧
      (s.cidLifetime = none → ts = s.retireTimestamp) := by
  intro n
  induction n with
  | zero => exact fun a s h => ⟨s.retireTimestamp, rfl, h, fun _ => rfl⟩
  | succ n ih =>
    intro a s h
    obtain ⟨ts1, h1, e1, n1⟩ := trackLifetime_spec s a now h
    obtain ⟨ts2, h2, e2, n2⟩ := ih (a + 1) { s with retireTimestamp := ts1 } e1
    refine ⟨ts2, by simp only [List.range'_succ, trackAll, h1]; exact h2, fun t ht => ?_, fun hl => (n2 hl).trans (n1 hl)⟩
    have := e2 t ht
    omega

theorem foldl_setInsert_range' : ∀ (n a : Nat) (acc : List Nat), (∀ x ∈ acc, x < a) →
    (List.range' a n).foldl setInsert acc = acc ++ List.range' a n := by
  intro n
  induction n with
  | zero => intro a acc _; simp
  | succ n ih =>
    intro a acc h
    simp only [List.range'_succ, List.foldl_cons]
    have hna : a ∉ acc := fun hm => Nat.lt_irrefl a (h a hm)
    have : setInsert acc a = acc ++ [a] := by unfold setInsert; simp [hna]
    rw [this, ih (a + 1) (acc ++ [a]), List.append_assoc]
    · rfl
    · exact List.forall_mem_append.mpr ⟨fun x hx => Nat.lt_succ_of_lt (h x hx),
        List.forall_mem_singleton.mpr (Nat.lt_succ_self _)⟩

/-- `new_cids` with the next `n` sequence numbers: what `Endpoint::send_new_identifiers(now, ch, n)` delivers -/
theorem newCids_range (s : State) (hI : Inv s) (now n : Nat) (hn : 0 < n) (hov : s.issued + n < U64) :
    ∃ s', newCids s (List.range' s.issued n) now = some s' ∧ Inv s' ∧ ∃ ts, s' =
      { s with issued := s.issued + n, activeSeq := s.activeSeq ++ List.range' s.issued n, retireTimestamp := ts } := by
  unfold newCids
  have hlast : (List.range' s.issued n).getLast? = some (s.issued + n - 1) := by
    cases n with
    | zero => omega
    | succ m => rw [List.range'_concat, List.getLast?_append]; simp
  rw [hlast]
  simp only [List.length_range', if_neg (Nat.not_le.mpr hov)]
  rw [foldl_setInsert_range' n s.issued s.activeSeq hI.lt]
  obtain ⟨ts, h, hts, hnone⟩ :=
    trackLifetime_spec { s with issued := s.issued + n, activeSeq := s.activeSeq ++ List.range' s.issued n }
      (s.issued + n - 1) now (fun t ht => by have := hI.ts t ht; omega)
  refine ⟨_, h, ⟨?_, ?_, ?_, ?_⟩, ts, rfl⟩
  · refine List.nodup_append.mpr ⟨hI.nodup, List.nodup_range', fun a ha b hb hab => ?_⟩
    have := hI.lt a ha
    have := (List.mem_range'_1.mp hb).1
    omega
  · intro x hx
    rcases List.mem_append.mp hx with hx | hx
    · exact Nat.lt_of_lt_of_le (hI.lt x hx) (Nat.le_add_right _ _)
    · exact (List.mem_range'_1.mp hx).2
  · intro t ht
    have := hts t ht
    show t.sequence < s.issued + n
    omega
  · intro hl
    exact ⟨(hnone hl).trans (hI.nolt hl).1, (hI.nolt hl).2⟩

inductive Retired (s : State) (seq limit : Nat) : State × RetireOut → Prop
  | err (k : Nat) : s.cidLen = 0 ∨ seq > s.issued → Retired s seq limit (s, .err Gen.codeProtocolViolation k)
  | ok : ¬ (s.cidLen = 0 ∨ seq > s.issued) → Retired s seq limit
      ({ s with activeSeq := setRemove s.activeSeq seq }, .ok (decide (limit > (setRemove s.activeSeq seq).length)))

theorem onCidRetirement_cases (s : State) (seq limit : Nat) : Retired s seq limit (onCidRetirement s seq limit) := by
  fun_cases onCidRetirement s seq limit
  next h0 => exact .err 0 (.inl h0)
  next h0 h1 => exact .err 1 (.inr (of_decide_eq_true h1))
  next h0 h1 _ => exact .ok fun h => h.elim h0 fun h => h1 (decide_eq_true h)

theorem onCidRetirement_err (s : State) (seq limit : Nat) (s' : State) (c k : Nat)
    (h : onCidRetirement s seq limit = (s', .err c k)) : s' = s ∧ c = Gen.codeProtocolViolation := by
  have hc := onCidRetirement_cases s seq limit
  rw [h] at hc
  cases hc
  exact ⟨rfl, rfl⟩

/-- `on_cid_timeout` took `s` to `s'` and answered `b`: while the peer still owes a retirement nothing is rotated;
    otherwise the window of retired sequence numbers moves on and `b` says whether it holds an active CID -/
structure TimedOut (s s' : State) (b : Bool) : Prop where
  inv : Inv s'
  issued : s'.issued = s.issued
  activeSeq : s'.activeSeq = s.activeSeq
  cidLifetime : s'.cidLifetime = s.cidLifetime
  owed : anyActive s s.prevRetireSeq s.retireSeq = true →
    s'.prevRetireSeq = s.prevRetireSeq ∧ s'.retireSeq = s.retireSeq ∧ b = false
  moved : anyActive s s.prevRetireSeq s.retireSeq = false →
    s'.prevRetireSeq = s.retireSeq ∧ b = anyActive s' s'.prevRetireSeq s'.retireSeq

theorem onCidTimeout_spec (s : State) (hI : Inv s) (hov : s.issued < U64) :
    ∃ s' b, onCidTimeout s = some (s', b) ∧ TimedOut s s' b := by
  unfold onCidTimeout
  cases hts : s.retireTimestamp with
  | nil =>
    simp only
    cases hu : anyActive s s.prevRetireSeq s.retireSeq with
    | true =>
      simp only [Bool.not_true, Bool.false_eq_true, if_false]
      exact ⟨_, _, rfl, hI, rfl, rfl, rfl, fun _ => ⟨rfl, rfl, anyActive_empty_range s _⟩, fun h => nomatch hu.symm.trans h⟩
    | false =>
      simp only [Bool.not_false, if_true]
      exact ⟨_, _, rfl, ⟨hI.nodup, hI.lt, fun t ht => (nomatch ht), fun _ => ⟨rfl, rfl⟩⟩, rfl, rfl, rfl,
        fun h => (nomatch hu.symm.trans h), fun _ => ⟨rfl, rfl⟩⟩
  | cons front rest =>
    simp only
    have hf : front.sequence < s.issued := hI.ts front (by rw [hts]; exact List.mem_cons_self)
    rw [if_neg (Nat.not_le.mpr (Nat.lt_of_le_of_lt hf hov))]
    have hrest : ∀ t ∈ rest, t.sequence < s.issued := fun t ht => hI.ts t (by rw [hts]; exact List.mem_cons_of_mem _ ht)
    have hnl : s.cidLifetime ≠ none := fun hl => by have := (hI.nolt hl).1; rw [hts] at this; cases this
    cases hu : anyActive s s.prevRetireSeq s.retireSeq with
    | true =>
      simp only [Bool.not_true, Bool.false_eq_true, if_false]
      exact ⟨_, _, rfl, ⟨hI.nodup, hI.lt, hrest, fun hl => absurd hl hnl⟩, rfl, rfl, rfl,
        fun _ => ⟨rfl, rfl, anyActive_empty_range _ _⟩, fun h => nomatch hu.symm.trans h⟩
    | false =>
      simp only [Bool.not_false, if_true]
      exact ⟨_, _, rfl, ⟨hI.nodup, hI.lt, hrest, fun hl => absurd hl hnl⟩, rfl, rfl, rfl, fun h => (nomatch hu.symm.trans h), fun _ => ⟨rfl, rfl⟩⟩

inductive Op where
  /-- RETIRE_CONNECTION_ID with a peer-chosen sequence number (any value), received at `now` -/
  | retire (seq now : Nat)
  /-- `Timer::PushNewCid` expiry at `now` -/
  | timeout (now : Nat)
deriving Repr

/-- one event: the `CidState` call, then `new_cids` with exactly the next sequence number when
    `Endpoint::handle_event` issues one (`RetireConnectionId`: the CID existed and `allow_more_cids`;
    `NeedIdentifiers(now, on_cid_timeout() as u64)`). `none` = panic. A rejected frame leaves the state as is
    (the connection closes). -/
def step (limit : Nat) (s : State) : Op → Option State
  | .retire seq now =>
    match onCidRetirement s seq limit with
    | (s', .err _ _) => some s'
    | (s', .ok allow) => if allow && s.activeSeq.contains seq then newCids s' [s'.issued] now else some s'
  | .timeout now =>
    match onCidTimeout s with
    | none => none
    | some (s', b) => if b then newCids s' [s'.issued] now else some s'

def run (limit : Nat) : State → List Op → Option State
  | s, [] => some s
  | s, op :: ops => match step limit s op with
    | none => none
    | some s' => run limit s' ops

theorem anyActive_append (s : State) (l : List Nat) (a b : Nat) (ht : anyActive s a b = true) :
    anyActive { s with activeSeq := s.activeSeq ++ l } a b = true := by
  unfold anyActive at *
  rw [List.any_append, ht]; rfl

theorem step_spec (limit : Nat) (s : State) (hI : Inv s) (hK : WithinLimit limit s) (op : Op) (hov : s.issued + 1 < U64) :
    ∃ s', step limit s op = some s' ∧ Inv s' ∧ WithinLimit limit s' ∧ s'.issued ≤ s.issued + 1 ∧
      s'.cidLifetime = s.cidLifetime := by
  cases op with
  | retire seq now =>
    simp only [step]
    have hc := onCidRetirement_cases s seq limit
    generalize onCidRetirement s seq limit = r at hc ⊢
    cases hc with
    | err => exact ⟨s, rfl, hI, hK, Nat.le_succ _, rfl⟩
    | ok =>
      have hI1 : Inv { s with activeSeq := setRemove s.activeSeq seq } :=
        ⟨hI.nodup.sublist (setRemove_sublist _ _), fun x hx => hI.lt x ((setRemove_sublist _ _).subset hx), hI.ts,
          hI.nolt⟩
      simp only
      by_cases hmem : seq ∈ s.activeSeq
      · have hlen := setRemove_length_mem s.activeSeq seq hI.nodup hmem
        rw [List.contains_iff_mem.mpr hmem, Bool.and_true]
        by_cases hroom : limit > (setRemove s.activeSeq seq).length
        · -- a CID went and the limit leaves room: exactly one is issued in its place
          rw [if_pos (decide_eq_true hroom)]
          obtain ⟨_, h2, hI2, ts, rfl⟩ := newCids_range _ hI1 now 1 Nat.one_pos hov
          refine ⟨_, h2, hI2, .inl ?_, Nat.le_refl _, rfl⟩
          simp only [List.length_append, List.length_range']
          omega
        · rw [if_neg (fun h => hroom (of_decide_eq_true h))]
          refine ⟨_, rfl, hI1, .inl ?_, Nat.le_succ _, rfl⟩
          show (setRemove s.activeSeq seq).length ≤ limit
          rcases hK with hk | ⟨hk, _⟩ <;> omega
      · rw [show s.activeSeq.contains seq = false by simpa using hmem, Bool.and_false]
        exact ⟨_, rfl, hI1, WithinLimit.congr (setRemove_not_mem _ _ hmem) rfl rfl hK, Nat.le_succ _, rfl⟩
  | timeout now =>
    simp only [step]
    obtain ⟨s1, b, h1, r⟩ := onCidTimeout_spec s hI (Nat.lt_of_succ_lt hov)
    rw [h1]
    simp only
    cases hu : anyActive s s.prevRetireSeq s.retireSeq with
    | true =>
      obtain ⟨hp, hr, rfl⟩ := r.owed hu
      exact ⟨s1, rfl, r.inv, WithinLimit.congr r.activeSeq hp hr hK, r.issued ▸ Nat.le_succ _, r.cidLifetime⟩
    | false =>
      obtain ⟨hp, hb⟩ := r.moved hu
      have hk : s.activeSeq.length ≤ limit := by
        rcases hK with hk | ⟨_, hw⟩
        · exact hk
        · rw [hu] at hw; cases hw
      cases b with
      | true =>
        -- the rotated window holds an active CID: one more is issued, the peer owes that retirement
        obtain ⟨_, h2, hI2, ts, rfl⟩ := newCids_range s1 r.inv now 1 Nat.one_pos (r.issued ▸ hov)
        refine ⟨_, h2, hI2, ?_, r.issued ▸ Nat.le_refl _, r.cidLifetime⟩
        by_cases hlt : s.activeSeq.length < limit
        · exact .inl (by simp only [List.length_append, List.length_range', r.activeSeq]; omega)
        · exact .inr ⟨by simp only [List.length_append, List.length_range', r.activeSeq]; omega,
            anyActive_append s1 _ _ _ hb.symm⟩
      | false => exact ⟨s1, rfl, r.inv, .inl (by rw [r.activeSeq]; exact hk), r.issued ▸ Nat.le_succ _, r.cidLifetime⟩

theorem run_spec (limit : Nat) (ops : List Op) : ∀ (s : State), Inv s → WithinLimit limit s →
    s.issued + ops.length < U64 →
    ∃ s', run limit s ops = some s' ∧ Inv s' ∧ WithinLimit limit s' ∧ s'.cidLifetime = s.cidLifetime := by
  induction ops with
  | nil => intro s hI hK _; exact ⟨s, rfl, hI, hK, rfl⟩
  | cons op ops ih =>
    intro s hI hK hov
    simp only [List.length_cons] at hov
    obtain ⟨s1, h1, hI1, hK1, hi1, hl1⟩ := step_spec limit s hI hK op (by omega)
    obtain ⟨s2, h2, hI2, hK2, hl2⟩ := ih s1 hI1 hK1 (by omega)
    exact ⟨s2, by simp only [run, h1, h2], hI2, hK2, by rw [hl2, hl1]⟩

end QM.CidState
