import QuinnModel.Wire.Parser
import QuinnModel.Lemmas.VarInt
/-
Proof kit for the reader/writer primitives of `Wire/Parser.lean`: `encB` (the varint bytes as a total function),
`LenLe` (size bounds of a chain of writes), the equations of the reader monad, and `Reads` (round trips, closed under
`>>=` by concatenation).  What a reader does on arbitrary input is the subject of `Lemmas/Reader.lean`.
-/
namespace QM.Wire
open QM QM.Wire.P

/-- proof-side total version of `VarInt.encode` -/
def encB (x : Nat) : Bytes :=
  match VarInt.encode x with
  | some e => e
  | none => []

theorem encode_eq_encB {x : Nat} (h : x < 2^62) : VarInt.encode x = some (encB x) := by
  obtain ⟨e, he, _⟩ := VarInt.encode_decodes h
  simp only [encB, he]

theorem decode_encB {x : Nat} (h : x < 2^62) (r : Bytes) : VarInt.decode (encB x ++ r) = some (x, r) := by
  obtain ⟨e, he, hd⟩ := VarInt.encode_decodes h
  simp only [encB, he, hd]

theorem size_eq_length {x : Nat} (h : x < 2^62) : VarInt.size x = some (encB x).length := by
  obtain ⟨e, s, he, hs, hl⟩ := VarInt.size_eq_encode_length x h
  rw [encode_eq_encB h, Option.some.injEq] at he
  rw [he, hl, hs]

theorem encB_length_eq {x : Nat} (h : x < 2^62) :
    (encB x).length = if x < 2^6 then 1 else if x < 2^14 then 2 else if x < 2^30 then 4 else 8 := by
  apply Option.some.inj
  rw [← size_eq_length h, VarInt.size]
  simp only [apply_ite some, Gen.varintSizeT1, Gen.varintSizeT2, Gen.varintSizeT4, Gen.varintSizeT8, h, if_true]

theorem encB_length {x : Nat} (h : x < 2^62) : 1 ≤ (encB x).length ∧ (encB x).length ≤ 8 := by
  rw [encB_length_eq h]
  repeat' split
  all_goals omega

theorem encB_length_one {x : Nat} (h : x < 64) : (encB x).length = 1 := by
  rw [encB_length_eq (by omega), if_pos h]

theorem encB_ne_nil {x : Nat} (h : x < 2^62) : encB x ≠ [] :=
  List.ne_nil_of_length_pos (encB_length h).1

theorem encB_length_mono {x y : Nat} (hy : y < 2^62) (hxy : x ≤ y) : (encB x).length ≤ (encB y).length := by
  rw [encB_length_eq (Nat.lt_of_le_of_lt hxy hy), encB_length_eq hy]
  -- `y` is above every threshold `x` is above; under the first threshold that `x` is below, the right side
  -- can only be larger
  by_cases a1 : x < 2^6
  · rw [if_pos a1]; repeat' split
    all_goals decide
  · rw [if_neg a1, if_neg (show ¬ y < 2^6 by omega)]
    by_cases a2 : x < 2^14
    · rw [if_pos a2]; repeat' split
      all_goals decide
    · rw [if_neg a2, if_neg (show ¬ y < 2^14 by omega)]
      by_cases a3 : x < 2^30
      · rw [if_pos a3]; split <;> decide
      · rw [if_neg a3, if_neg (show ¬ y < 2^30 by omega)]; exact Nat.le_refl _

theorem wVar_some {x : Nat} (h : x < 2^62) (b : Bytes) : wVar x (some b) = some (b ++ encB x) := by
  simp only [wVar, encode_eq_encB h]

theorem wVar_nil {x : Nat} (h : x < 2^62) : wVar x (some []) = some (encB x) := by
  rw [wVar_some h, List.nil_append]

/-- a type code alone, or with one or two varint fields, is the whole encoding of many frames; stated as type code
    `++` body, the shape `Frame.RTW.of` takes -/
theorem wVar0 {ty : Nat} (hty : ty < 2^62) : wVar ty (some []) = some (encB ty ++ []) := by
  rw [wVar_nil hty, List.append_nil]

theorem wVar1 {ty a : Nat} (hty : ty < 2^62) (ha : a < 2^62) : wVar a (wVar ty (some [])) = some (encB ty ++ encB a) := by
  rw [wVar_nil hty, wVar_some ha]

theorem wVar2 {ty a b : Nat} (hty : ty < 2^62) (ha : a < 2^62) (hb : b < 2^62) :
    wVar b (wVar a (wVar ty (some []))) = some (encB ty ++ (encB a ++ encB b)) := by
  rw [wVar1 hty ha, wVar_some hb, List.append_assoc]

@[simp] theorem wBytes_some (d b : Bytes) : wBytes d (some b) = some (b ++ d) := rfl
@[simp] theorem wU8_some (x : Nat) (b : Bytes) : wU8 x (some b) = some (b ++ [x % 256]) := rfl
@[simp] theorem wU16_some (x : Nat) (b : Bytes) : wU16 x (some b) = some (b ++ beBytes 2 x) := rfl
@[simp] theorem wU32_some (x : Nat) (b : Bytes) : wU32 x (some b) = some (b ++ beBytes 4 x) := rfl
@[simp] theorem wU64_some (x : Nat) (b : Bytes) : wU64 x (some b) = some (b ++ beBytes 8 x) := rfl

/-- a size bound is read off the encoder write by write, as the `SIZE_BOUND` constants are in the Rust: a varint
    adds at most 8 -/
def LenLe (o : Option Bytes) (n : Nat) : Prop := ∀ e, o = some e → e.length ≤ n

theorem LenLe.mono {o : Option Bytes} {n n' : Nat} (h : LenLe o n) (hn : n ≤ n') : LenLe o n' :=
  fun e he => Nat.le_trans (h e he) hn

theorem LenLe.ty {x : Nat} (h : x < 64) : LenLe (wVar x (some [])) 1 := fun e he => by
  cases (wVar_nil (show x < 2^62 by omega)).symm.trans he
  exact Nat.le_of_eq (encB_length_one h)

theorem LenLe.var {o : Option Bytes} {n : Nat} (h : LenLe o n) (x : Nat) : LenLe (wVar x o) (n + 8) := by
  intro e he
  unfold wVar at he
  split at he
  · cases he
    rw [List.length_append]
    exact Nat.add_le_add (h _ rfl) (VarInt.encode_length_le ‹_›)
  · cases he

theorem LenLe.optVar {o : Option Bytes} {n : Nat} (h : LenLe o n) (c : Prop) [Decidable c] (x : Nat) :
    LenLe (if c then wVar x o else o) (n + 8) := by
  split
  · exact h.var x
  · exact h.mono (Nat.le_add_right _ _)

theorem LenLe.bytes {o : Option Bytes} {n : Nat} (h : LenLe o n) (d : Bytes) : LenLe (wBytes d o) (n + d.length) := by
  intro e he
  cases o with
  | none => cases he
  | some b => cases he; rw [List.length_append]; exact Nat.add_le_add_right (h b rfl) _

@[simp] theorem bind_apply {ε α β} (p : P ε α) (f : α → P ε β) (bs : Bytes) :
    (p >>= f) bs = match p bs with
      | .ok (a, r) => f a r
      | .error e => .error e := rfl

theorem bind_ok {ε α β} {p : P ε α} {f : α → P ε β} {bs r : Bytes} {a : α} (h : p bs = .ok (a, r)) :
    (p >>= f) bs = f a r := by rw [bind_apply, h]

@[simp] theorem pure_apply {ε α} (a : α) (bs : Bytes) : (pure a : P ε α) bs = .ok (a, bs) := rfl

@[simp] theorem fail_apply {ε α} (e : ε) (bs : Bytes) : (fail e : P ε α) bs = .error e := rfl

@[simp] theorem remaining_apply {ε} (bs : Bytes) : (remaining : P ε Nat) bs = .ok (bs.length, bs) := rfl

@[simp] theorem takeAll_apply {ε} (bs : Bytes) : (takeAll : P ε Bytes) bs = .ok (bs, []) := rfl

theorem ite_apply' {ε α} (c : Prop) [Decidable c] (p q : P ε α) (bs : Bytes) :
    (if c then p else q) bs = if c then p bs else q bs := by
  split <;> rfl

theorem getU16_eq {ε} (e : ε) : getU16 e = takeN e 2 >>= fun d => pure (beVal d) := by
  funext bs; simp only [getU16, bind_apply, takeN]; split <;> rfl

theorem getU32_eq {ε} (e : ε) : getU32 e = takeN e 4 >>= fun d => pure (beVal d) := by
  funext bs; simp only [getU32, bind_apply, takeN]; split <;> rfl

theorem getU64_eq {ε} (e : ε) : getU64 e = takeN e 8 >>= fun d => pure (beVal d) := by
  funext bs; simp only [getU64, bind_apply, takeN]; split <;> rfl

/-- `p` reads `a` back from `c` when `r` follows, and leaves `r`.  It is stated for one tail, so that `takeAll`
    (which reads back only in front of nothing) and readers that ask for `remaining` compose like the others. -/
def Reads {ε α} (p : P ε α) (c : Bytes) (a : α) (r : Bytes) : Prop := p (c ++ r) = .ok (a, r)

namespace Reads
variable {ε α β : Type} {p q : P ε α} {c d r : Bytes} {a : α}

theorem pure (a : α) : Reads (pure a : P ε α) [] a r := rfl

theorem bind {f : α → P ε β} {b : β} (hp : Reads p c a (d ++ r)) (hf : Reads (f a) d b r) :
    Reads (p >>= f) (c ++ d) b r := by
  unfold Reads; rw [List.append_assoc, bind_ok hp, hf]

theorem map (hp : Reads p c a r) (g : α → β) : Reads (p >>= fun x => Pure.pure (g x)) c (g a) r := by
  unfold Reads; rw [bind_ok hp, pure_apply]

/-- what follows `remaining` is handed the length of all that is left -/
theorem remaining {f : Nat → P ε β} {b : β} (h : Reads (f (c ++ r).length) c b r) : Reads (remaining >>= f) c b r := h

theorem if_pos {cnd : Prop} [Decidable cnd] (hc : cnd) (hp : Reads p c a r) : Reads (if cnd then p else q) c a r := by
  rw [_root_.if_pos hc]; exact hp

theorem if_neg {cnd : Prop} [Decidable cnd] (hc : ¬ cnd) (hq : Reads q c a r) : Reads (if cnd then p else q) c a r := by
  rw [_root_.if_neg hc]; exact hq

end Reads

theorem getVar_enc {ε} (e : ε) {x : Nat} (h : x < 2^62) (r : Bytes) :
    getVar e (encB x ++ r) = .ok (x, r) := by
  simp only [getVar, decode_encB h]

@[simp] theorem getU8_cons {ε} (e : ε) (b : Nat) (r : Bytes) : getU8 e (b :: r) = .ok (b, r) := rfl

theorem takeN_append' {ε} (e : ε) (n : Nat) (d r : Bytes) (h : d.length = n) : takeN e n (d ++ r) = .ok (d, r) := by
  rw [takeN, if_neg (by rw [List.length_append]; omega), List.take_left' h, List.drop_left' h]

theorem takeN_append {ε} (e : ε) (d r : Bytes) : takeN e d.length (d ++ r) = .ok (d, r) :=
  takeN_append' e _ d r rfl

namespace Reads
variable {ε α : Type} {r : Bytes}

theorem getVar (e : ε) {x : Nat} (h : x < 2^62) : Reads (getVar e) (encB x) x r := getVar_enc e h r

theorem var1 (e : ε) {a : Nat} (ha : a < 2^62) (k : Nat → α) :
    Reads (P.getVar e >>= fun x => Pure.pure (k x)) (encB a) (k a) r := .map (.getVar e ha) k

theorem var2 (e : ε) {a b : Nat} (ha : a < 2^62) (hb : b < 2^62) (k : Nat → Nat → α) :
    Reads (P.getVar e >>= fun x => P.getVar e >>= fun y => Pure.pure (k x y)) (encB a ++ encB b) (k a b) r :=
  .bind (.getVar e ha) (.var1 e hb _)

theorem getU8 (e : ε) (b : Nat) : Reads (getU8 e) [b] b r := getU8_cons e b r

theorem takeN (e : ε) (d : Bytes) : Reads (takeN e d.length) d d r := takeN_append e d r

theorem takeAll {d : Bytes} : Reads (takeAll : P ε Bytes) d d [] := by unfold Reads; rw [List.append_nil]; rfl

theorem takeBE (e : ε) {n x : Nat} (h : x < 256 ^ n) :
    Reads (P.takeN e n >>= fun d => Pure.pure (beVal d)) (beBytes n x) x r := by
  unfold Reads
  rw [bind_ok (takeN_append' e n _ r (beBytes_length n x)), pure_apply, beVal_beBytes_of_lt h]

theorem getU64 (e : ε) {x : Nat} (h : x < 2^64) : Reads (getU64 e) (beBytes 8 x) x r :=
  getU64_eq e ▸ takeBE e (n := 8) h

end Reads

theorem getU16_be {ε} (e : ε) {x : Nat} (h : x < 2^16) (r : Bytes) : getU16 e (beBytes 2 x ++ r) = .ok (x, r) :=
  getU16_eq e ▸ Reads.takeBE e (n := 2) h

theorem getU32_be {ε} (e : ε) {x : Nat} (h : x < 2^32) (r : Bytes) : getU32 e (beBytes 4 x ++ r) = .ok (x, r) :=
  getU32_eq e ▸ Reads.takeBE e (n := 4) h

end QM.Wire
