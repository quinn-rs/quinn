import QuinnModel.Async.Life
import QuinnModel.Lemmas.Wake
/-
One invariant for each of the two machines of Async/Life.lean: a closed endpoint has told every connection in its set
(`EpInv`); every entry of the waker table was made in the current generation (`TabInv`).  What the source does at each
place enters through the `*Flag` lemmas.
-/
namespace QM.Life

def EpInv (s : Ep) : Prop := s.closed = true → ∀ h, h ∈ s.senders → s.told h = true

theorem insertFlag : (Gen.c18InsertAfterCloseSendsClose == 1) = true := by decide
theorem closeFlag : (Gen.c18EndpointCloseTellsAll == 1) = true := by decide

theorem epInv_init : EpInv Ep.init := by
  intro h; simp [Ep.init] at h

theorem epInv_step (s : Ep) (e : EpEv) (hi : EpInv s) : EpInv (s.step e) := by
  cases e with
  | insert h =>
    intro hc x hx
    simp only [Ep.step] at hc hx ⊢
    by_cases hxh : x = h
    · simp [hxh, hc, insertFlag]
    · simp only [if_neg hxh]
      rcases List.mem_cons.mp hx with h1 | h1
      · exact absurd h1 hxh
      · exact hi hc x (List.mem_filter.mp h1).1
  | close =>
    intro _ x hx
    simp only [Ep.step] at hx ⊢
    simp only [closeFlag, Bool.true_and, Bool.or_eq_true, List.contains_eq_mem, decide_eq_true_eq]
    exact Or.inr hx
  | drained h =>
    intro hc x hx
    simp only [Ep.step] at hc hx ⊢
    exact hi hc x (List.mem_filter.mp hx).1

theorem epInv_run (evs : List EpEv) : ∀ s : Ep, EpInv s → EpInv (s.run evs) := by
  induction evs with
  | nil => intro s h; exact h
  | cons e es ih => intro s h; exact ih _ (epInv_step s e h)

theorem closed_step (s : Ep) (e : EpEv) (h : s.closed = true) : (s.step e).closed = true := by
  cases e <;> simp [Ep.step, h]

theorem closed_run (evs : List EpEv) : ∀ s : Ep, s.closed = true → (s.run evs).closed = true := by
  induction evs with
  | nil => intro s h; exact h
  | cons e es ih => intro s h; exact ih _ (closed_step s e h)

theorem connPoll_told (slot : Wake.Cond → Bool) (s : Wake.St) :
    connPoll slot true s = Wake.step slot s .terminate := by
  have : (Gen.c18ConnCloseEventCloses == 1) = true := by decide
  simp [connPoll, this]

def TabInv (s : Tab) : Prop := ∀ id g t, s.tab id = some (g, t) → g = s.cur

theorem drainFlag : Gen.c18RejectionDrainsWakerTables = 1 := by decide
theorem dropFlag : Gen.c18StaleDropKeepsTable = 1 := by decide
theorem stopFlag : Gen.c18StaleStopKeepsTable = 1 := by decide

theorem tabInv_init : TabInv Tab.init := by
  intro id g t h; simp [Tab.init] at h

theorem tabInv_remove (s : Tab) (id : Id) (hi : TabInv s) : TabInv (s.remove id) := by
  intro x g t h
  simp only [Tab.remove] at h ⊢
  by_cases hx : x = id
  · simp [hx] at h
  · simp only [if_neg hx] at h; exact hi x g t h

theorem tabInv_step (s : Tab) (e : TabEv) (hi : TabInv s) : TabInv (s.step e) := by
  cases e with
  | poll id g t =>
    simp only [Tab.step]
    by_cases hg : g = s.cur
    · simp only [if_pos hg]
      intro x g' t' h
      by_cases hx : x = id
      · simp only [if_pos hx, Option.some.injEq, Prod.mk.injEq] at h
        rw [← h.1]; exact hg
      · simp only [if_neg hx] at h; exact hi x g' t' h
    · simp only [if_neg hg]; exact hi
  | wake id => exact tabInv_remove s id hi
  | reject =>
    simp only [Tab.step, if_pos drainFlag]
    intro x g t h; simp at h
  | drop id g | stop id g =>
    simp only [Tab.step]
    split
    · exact hi
    · exact tabInv_remove s id hi

theorem tabInv_run (evs : List TabEv) : ∀ s : Tab, TabInv s → TabInv (s.run evs) := by
  induction evs with
  | nil => intro s h; exact h
  | cons e es ih => intro s h; exact ih _ (tabInv_step s e h)

theorem tab_reach (evs : List TabEv) : TabInv (Tab.init.run evs) := tabInv_run evs Tab.init tabInv_init

/-- a handle of an older generation is stale: its drop / stop returns before the `remove` -/
theorem drop_other_gen (s : Tab) (hi : TabInv s) (id : Id) (g g' : Gn) (t : Tk) (hg : g ≤ s.cur)
    (hr : s.tab id = some (g', t)) (hne : g ≠ g') :
    (s.step (.drop id g)).tab id = some (g', t) ∧ (s.step (.stop id g)).tab id = some (g', t) := by
  have hlt : g < s.cur := Nat.lt_of_le_of_ne hg (hi id g' t hr ▸ hne)
  simp only [Tab.step, if_pos (And.intro hlt dropFlag), if_pos (And.intro hlt stopFlag)]
  exact ⟨hr, hr⟩

theorem reject_clears_lem (s : Tab) (id : Id) : (s.step .reject).tab id = none ∧ (s.step .reject).cur = s.cur + 1 := by
  simp [Tab.step, drainFlag]

end QM.Life
