import QuinnModel.Lemmas.StreamsFrameOps
import QuinnModel.Lemmas.StreamsSteps
/-
The sender view `vw` (the scalars and the credit of every instantiated sending half: what C05 speaks of) with the two
relations between views under which the C05 invariant survives a step that conveys no credit: `Sub` (instantiated
halves may only disappear) and `FrameV` (or appear fresh); then what the view sees of every helper, shape and
operation: receive-side helpers and operations leave it alone (`vw_*`), so do `Alloc` and `Shuffle`, a `Touch` that
keeps the credit is a `FrameV`, an acknowledgement may drop a half (`sub_*`); last, what the view sees of an accepted
`write` (`write_ok`) and the decision of `write` read off it (`write_decision`).

Only the sender side uses most of this.  It stands here, at the end of the modules all three sides start from, because
`fun_cases` and `fun_induction` generate, for a `match` with a catch-all alternative, auxiliary declarations named after
its matcher (the functions of Streams/State.lean that match alike share one matcher), and two modules that do not
import one another and both generate them build alone but clash where the root module imports both.  So every such
match shape that two sides walk is walked in these modules first; `unfold` with `split` generates nothing that clashes.

A record update of fields outside the sender view is named as such (`vw_rest ..`): left to the unifier, it makes Lean
compare whole `State` records.
-/
namespace QM.Streams

/-- the scalar part of the state that C05 speaks about -/
structure Core where
  side : Side
  maxData : Nat
  dataSent : Nat
  max : Two Nat
  next : Two Nat
  iu : Nat
  ibl : Nat
  ibr : Nat
deriving DecidableEq

def State.core (s : State) : Core :=
  ⟨s.side, s.maxData, s.dataSent, s.max, s.next, s.initialMaxStreamDataUni,
   s.initialMaxStreamDataBidiLocal, s.initialMaxStreamDataBidiRemote⟩

/-- (bytes written so far, peer-granted stream limit) -/
def Send.credit (x : Send) : Nat × Nat := (x.pending.offset, x.maxData)

theorem maxSendData_core (s s' : State) (h : s'.core = s.core) (id : Nat) :
    s'.maxSendData id = s.maxSendData id := by
  simp only [State.core, Core.mk.injEq] at h
  simp [State.maxSendData, h]

/-- credit of the instantiated sending half stored under `id`, if any -/
def State.cv (s : State) (id : Nat) : Option (Nat × Nat) :=
  match s.send.find? id with
  | some (some x) => some x.credit
  | _ => none

/-- the sender view: core scalars and the credit of every instantiated sending half -/
structure SView where
  core : Core
  cv : Nat → Option (Nat × Nat)

def State.vw (s : State) : SView := ⟨s.core, s.cv⟩

theorem vw_ext {s s' : State} (hc : s'.core = s.core) (hv : ∀ k, s'.cv k = s.cv k) : s'.vw = s.vw :=
  show SView.mk _ _ = SView.mk _ _ from congr (congrArg SView.mk hc) (funext hv)

/-- `maxSendData` as a function of the core -/
def Core.maxSendData (c : Core) (id : Nat) : Nat :=
  match sidDir id with
  | .uni => c.iu
  | .bi => if c.side != sidInitiator id then c.ibl else c.ibr

theorem maxSendData_eq (s : State) (id : Nat) : s.maxSendData id = s.core.maxSendData id := rfl

/-- every instantiated sending half of `v'` either existed in `v` with the same offset and limit,
    or is fresh: nothing written, limit = the transport parameter for that kind of stream -/
structure FrameV (v v' : SView) : Prop where
  core : v'.core = v.core
  rel : ∀ id c, v'.cv id = some c → v.cv id = some c ∨ c = (0, v.core.maxSendData id)

theorem FrameV.refl (v : SView) : FrameV v v := ⟨rfl, fun _ _ h => Or.inl h⟩

theorem FrameV.trans {v v' v'' : SView} (h1 : FrameV v v') (h2 : FrameV v' v'') : FrameV v v'' := by
  refine ⟨h2.core.trans h1.core, ?_⟩
  intro id c hc
  rcases h2.rel id c hc with h | h
  · exact h1.rel id c h
  · right; rw [h, h1.core]

/-- nothing was instantiated: every instantiated sending half of `v'` is one of `v`, with its credit -/
structure Sub (v v' : SView) : Prop where
  core : v'.core = v.core
  old : ∀ id c, v'.cv id = some c → v.cv id = some c

theorem Sub.of_eq {v v' : SView} (h : v' = v) : Sub v v' := h ▸ ⟨rfl, fun _ _ h => h⟩

theorem Sub.frame {v v' : SView} (h : Sub v v') : FrameV v v' := ⟨h.core, fun id c hc => Or.inl (h.old id c hc)⟩

theorem FrameV.of_eq {v v' : SView} (h : v' = v) : FrameV v v' := (Sub.of_eq h).frame

/-- only fields outside the sender view were set -/
theorem vw_rest (s : State) (recv : Map (Option Recv)) (maxRemote sentMaxRemote allocatedRemoteCount
    maxConcurrentRemoteCount : Two Nat) (flowControlAdjusted : Bool) (nextRemote : Two Nat) (opened : Two Bool)
    (nextReportedRemote : Two Nat) (sendStreams : Nat) (pending : PQueue) (events : List Event)
    (connectionBlocked : List Nat) (receiveWindow localMaxData sentMaxData dataRecvd unackedData sendWindow
    streamReceiveWindow receiveWindowShrinkDebt : Nat) (streamsBlocked : Two Bool) (rtx : Rtx) (connClosed : Bool) :
    ({ s with recv, maxRemote, sentMaxRemote, allocatedRemoteCount, maxConcurrentRemoteCount, flowControlAdjusted,
              nextRemote, opened, nextReportedRemote, sendStreams, pending, events, connectionBlocked, receiveWindow,
              localMaxData, sentMaxData, dataRecvd, unackedData, sendWindow, streamReceiveWindow,
              receiveWindowShrinkDebt, streamsBlocked, rtx, connClosed } : State).vw = s.vw := rfl

theorem vw_putRecv (s : State) (id : Nat) (r : Recv) : (s.putRecv id r).vw = s.vw := rfl

/-- an uninstantiated half has no credit -/
theorem Alloc.vw {N : Nat → Prop} {b : Prop} {s s' : State} (a : Alloc N b s s') : s'.vw = s.vw := by
  refine vw_ext (by rw [a.rest]; rfl) fun k => ?_
  rcases a.send k with e | ⟨_, _, g, r⟩
  · simp only [State.cv, e]
  · simp only [State.cv, g, r]

theorem vw_ensureRemoteStreams {s s' : State} {d : Dir} (h : s.ensureRemoteStreams d = some s') :
    s'.vw = s.vw := by
  revert h
  fun_cases State.ensureRemoteStreams s d <;> intro h
  · contradiction
  · cases h; exact (vw_rest ..).trans (alloc_insertRemoteRange _ ‹_›).vw

theorem vw_onStreamFrame (s : State) (b : Bool) (id : Nat) : (s.onStreamFrame b id).vw = s.vw :=
  ite_keeps State.vw (ite_keeps State.vw rfl rfl) (ite_keeps State.vw rfl (ite_keeps State.vw rfl rfl))

theorem vw_creditAndQueue {s s' : State} {c : Nat} {t : Bool}
    (h : s.creditAndQueue c = some (s', t)) : s'.vw = s.vw := by
  obtain ⟨_, _, _, rfl⟩ := creditAndQueue_eq h; rfl

theorem vw_freeRemote {s s' : State} {id : Nat} {hf : Half} (h : s.freeRemote id hf = some s') :
    s'.vw = s.vw := by
  revert h
  fun_cases State.freeRemote s id hf <;> intro h
  case case1 => contradiction
  case case2 => exact (vw_ensureRemoteStreams h).trans (vw_rest ..)
  all_goals cases h; rfl

theorem vw_streamFreed {s s' : State} {id : Nat} {hf : Half} (h : s.streamFreed id hf = some s') :
    s'.vw = s.vw := by
  revert h
  fun_cases State.streamFreed s id hf <;> intro h
  case case3 => cases h; exact (vw_rest ..).trans (vw_freeRemote ‹_›)
  case case4 => cases h; exact vw_freeRemote ‹_›
  all_goals contradiction

theorem vw_freeRecvIf {s s' : State} {c : Bool} {id : Nat} (h : s.freeRecvIf c id = some s') :
    s'.vw = s.vw := by
  revert h
  fun_cases State.freeRecvIf s c id <;> intro h
  · exact (vw_streamFreed h).trans (vw_rest ..)
  · cases h; rfl

theorem vw_freeIf {s s' : State} {c : Bool} {id : Nat} (h : s.freeIf c id = some s') :
    s'.vw = s.vw := by
  revert h
  fun_cases State.freeIf s c id <;> intro h
  · exact vw_streamFreed h
  · cases h; rfl

theorem vw_getOrInsertRecv {s s' : State} {id : Nat} {r : Recv}
    (h : s.getOrInsertRecv id = some (r, s')) : s'.vw = s.vw := by
  obtain ⟨_, rfl⟩ := getOrInsertRecv_eq h; rfl

theorem vw_queueMaxStreamId {s s' : State} {b : Bool} (h : s.queueMaxStreamId = some (s', b)) :
    s'.vw = s.vw := by
  rw [queueMaxStreamId_only h]; rfl

theorem vw_queueMaxIf {s s' : State} {c : Bool} (h : s.queueMaxIf c = some s') : s'.vw = s.vw := by
  rcases queueMaxIf_cases h with ⟨_, rfl⟩ | ⟨_, b, hq⟩
  · rfl
  · exact vw_queueMaxStreamId hq

/-- an instantiated half is replaced by one of equal credit -/
theorem vw_set {s s' : State} {id : Nat} {x x' : Send} (hx : s.send.find? id = some (some x))
    (hc : s'.core = s.core) (hs : s'.send = s.send.set id (some x')) (hcr : x'.credit = x.credit) : s'.vw = s.vw := by
  refine vw_ext hc fun k => ?_
  simp only [State.cv, hs]
  by_cases hk : k = id
  · subst hk; rw [Map.find?_set_self _ _ _ _ hx, hx]; exact congrArg some hcr
  · rw [Map.find?_set_ne _ _ _ _ hk]

/-- what `get_or_insert_send` did: for the sender's accounting at most the half of `id` is instantiated, the entry of `id`
    holds `x`, which was there before or is fresh -/
structure LookedSend (s s1 : State) (id : Nat) (x : Send) : Prop where
  frame : FrameV s.vw s1.vw
  slot : s1.send.find? id = some (some x)
  origin : s.send.find? id = some (some x) ∨ (s.send.find? id = some none ∧ x = Send.new (s.maxSendData id))

theorem getOrInsertSend_spec {s s' : State} {id : Nat} {x : Send}
    (h : s.getOrInsertSend id = some (x, s')) : LookedSend s s' id x := by
  rcases getOrInsertSend_eq h with ⟨hy, rfl⟩ | ⟨hy, hx, rfl⟩
  · exact ⟨FrameV.refl _, hy, Or.inl hy⟩
  · refine ⟨⟨rfl, fun k c hk => ?_⟩, Map.find?_set_self _ _ _ _ hy, Or.inr ⟨hy, hx⟩⟩
    simp only [State.vw, State.cv] at hk ⊢
    by_cases hkk : k = id
    · subst hkk; rw [Map.find?_set_self _ _ _ _ hy] at hk; cases hk; exact Or.inr (hx ▸ rfl)
    · rw [Map.find?_set_ne _ _ _ _ hkk] at hk; exact Or.inl hk

theorem Send.Same.credit {x x' : Send} (h : x.Same x') : x'.credit = x.credit := Prod.ext h.offset h.maxData

theorem Shuffle.vw {s s' : State} (t : Shuffle s s') : s'.vw = s.vw := by
  refine vw_ext (by rw [t.rest]; rfl) fun k => ?_
  simp only [State.cv]
  rcases t.send k with h | ⟨x, x', h, h', c⟩
  · rw [h]
  · rw [h, h']; exact congrArg some c.credit

/-- for the sender's accounting a touch instantiates at most the half of `id`, if the new half keeps the credit -/
theorem Touch.frame {R : Send → Send → Prop} {s s' : State} {id : Nat} (t : Touch R s s' id)
    (h : ∀ x x', R x x' → x'.credit = x.credit) : FrameV s.vw s'.vw := by
  rcases t with rfl | ⟨x, s1, hg, rfl | ⟨x', r, e⟩⟩
  · exact FrameV.refl _
  · exact (getOrInsertSend_spec hg).frame
  · have g := getOrInsertSend_spec hg
    exact g.frame.trans (.of_eq (vw_set g.slot (by rw [e]; rfl) (by rw [e]) (h x x' r)))

theorem vw_received {s s' : State} {id off len : Nat} {fin : Bool} {r : Except TErr Bool}
    (h : s.received id off len fin = some (s', r)) : s'.vw = s.vw := by
  revert h
  fun_cases State.received s id off len fin <;> intro h
  case case1 | case2 => cases h; rfl
  case case3 | case5 => cases h; exact vw_getOrInsertRecv ‹_›
  case case6 =>
    cases h
    exact (vw_onStreamFrame _ true id).trans ((vw_rest ..).trans ((vw_putRecv ..).trans (vw_getOrInsertRecv ‹_›)))
  case case9 =>
    cases h
    exact (vw_creditAndQueue ‹_›).trans ((vw_freeRecvIf ‹_›).trans ((vw_rest ..).trans ((vw_putRecv ..).trans
      (vw_getOrInsertRecv ‹_›))))
  all_goals contradiction

theorem vw_receivedReset {s s' : State} {id code fo : Nat} {r : Except TErr Bool}
    (h : s.receivedReset id code fo = some (s', r)) : s'.vw = s.vw := by
  revert h
  fun_cases State.receivedReset s id code fo <;> intro h
  case case1 | case2 => cases h; rfl
  case case4 | case5 => cases h; exact vw_getOrInsertRecv ‹_›
  case case10 =>
    cases h
    exact (vw_creditAndQueue ‹_›).trans ((vw_rest ..).trans ((vw_onStreamFrame _ _ id).trans ((vw_freeRecvIf ‹_›).trans
      ((vw_putRecv ..).trans (vw_getOrInsertRecv ‹_›)))))
  case case11 =>
    obtain ⟨rfl, _⟩ := Prod.mk.inj (Option.some.inj h)
    exact (vw_onStreamFrame _ _ id).trans ((vw_freeRecvIf ‹_›).trans ((vw_putRecv ..).trans (vw_getOrInsertRecv ‹_›)))
  all_goals contradiction

theorem vw_queueStopSending (s : State) (c : Bool) (id code : Nat) :
    (s.queueStopSending c id code).vw = s.vw :=
  ite_keeps State.vw rfl rfl

theorem vw_accept (s : State) (d : Dir) : (s.accept d).1.vw = s.vw :=
  ite_keeps (fun p : State × Option Nat => p.1.vw) rfl (ite_keeps State.vw rfl rfl)

theorem vw_setReceiveWindow (s : State) (n : Nat) : (s.setReceiveWindow n).1.vw = s.vw :=
  ite_keeps (fun p : State × Bool => p.1.vw) rfl rfl

theorem vw_setMaxConcurrent {s s' : State} {d : Dir} {n : Nat} (h : s.setMaxConcurrent d n = some s') :
    s'.vw = s.vw :=
  (vw_ensureRemoteStreams h).trans (vw_rest ..)

theorem vw_ctrlMsd : ∀ (l : List Nat) {s s' : State} {acc fs : List CtrlFrame},
    s.ctrlMsd l acc = some (s', fs) → s'.vw = s.vw := by
  intro l s s' acc fs
  fun_induction State.ctrlMsd s l acc <;> intro h
  case case1 => cases h; rfl
  case case2 ih | case6 ih => exact ih h
  case case4 ih => exact (ih h).trans (vw_putRecv ..)
  all_goals contradiction

theorem vw_ctrlMaxData (s : State) : s.ctrlMaxData.1.vw = s.vw :=
  ite_keeps (fun p : State × List CtrlFrame => p.1.vw) rfl rfl

theorem vw_ctrlMaxStreams (s : State) (d : Dir) : (s.ctrlMaxStreams d).1.vw = s.vw :=
  ite_keeps (fun p : State × List CtrlFrame => p.1.vw) rfl rfl

theorem vw_ctrlMoveBlocked (s : State) (d : Dir) : (s.ctrlMoveBlocked d).vw = s.vw :=
  ite_keeps State.vw rfl rfl

theorem vw_ctrlStreamsBlocked (s : State) (d : Dir) : (s.ctrlStreamsBlocked d).1.vw = s.vw :=
  ite_keeps (fun p : State × List CtrlFrame => p.1.vw) (vw_ctrlMoveBlocked s d) (vw_ctrlMoveBlocked s d)

theorem vw_writeControlFrames {s s' : State} {fs : List CtrlFrame}
    (h : s.writeControlFrames = some (s', fs)) : s'.vw = s.vw := by
  unfold State.writeControlFrames at h
  extract_lets stops r2 at h
  split at h
  · contradiction
  next s3 msd hm =>
  extract_lets r4 r5 r6 r7 at h
  obtain ⟨h, _⟩ := Prod.mk.inj (Option.some.inj h)
  rw [← h]
  exact (vw_ctrlStreamsBlocked _ _).trans ((vw_ctrlStreamsBlocked _ _).trans
    ((vw_ctrlMaxStreams _ _).trans ((vw_ctrlMaxStreams _ _).trans ((vw_ctrlMsd _ hm).trans
      ((vw_rest ..).trans ((vw_ctrlMaxData _).trans (vw_rest ..)))))))

theorem vw_read {s s' : State} {id budget : Nat} {r : ReadRes}
    (h : s.read id budget = some (s', r)) : s'.vw = s.vw := by
  rcases read_inv h with ⟨_, rfl, _⟩ | ⟨rs, s1, hg, ⟨_, rfl, _⟩ |
    ⟨_, _, _, _, _, _, _, _, _, _, _, _, _, _, _, hf, hq, hz, hc, rfl, _⟩⟩
  · rfl
  · exact vw_getOrInsertRecv hg
  · obtain ⟨_, _, rfl⟩ := addReadCredits_fields hc
    obtain ⟨_, _, rfl⟩ := finalizeReadable_eq hz
    exact (vw_rest ..).trans ((vw_queueMaxStreamId hq).trans ((vw_freeIf hf).trans ((vw_rest ..).trans
      (vw_getOrInsertRecv hg))))

theorem vw_stop {s s' : State} {id code : Nat} {b : Bool}
    (h : s.stop id code = some (s', b)) : s'.vw = s.vw := by
  rcases stop_inv h with ⟨_, rfl, _⟩ | ⟨rs, s1, hg, ⟨_, rfl, _⟩ | ⟨_, _, _, _, _, _, _, hf, hq, hc, _⟩⟩
  · rfl
  · exact vw_getOrInsertRecv hg
  · exact (vw_creditAndQueue hc).trans ((vw_queueMaxIf hq).trans ((vw_freeRecvIf hf).trans
      ((vw_queueStopSending _ _ _ _).trans ((vw_putRecv ..).trans (vw_getOrInsertRecv hg)))))

theorem vw_recvReceivedReset {s s' : State} {id : Nat} {r : Option (Option Nat)}
    (h : s.recvReceivedReset id = some (s', r)) : s'.vw = s.vw := by
  rcases recvReceivedReset_inv h with ⟨rfl, _⟩ | ⟨_, _, _, _, _, _, hf, hq, _⟩
  · rfl
  · exact (vw_queueMaxStreamId hq).trans ((vw_streamFreed hf).trans (vw_rest ..))

theorem vw_poll {s s' : State} {e : Option Event} (h : s.poll = some (s', e)) : s'.vw = s.vw := by
  obtain ⟨s1, t, e⟩ := poll_shuffle h
  rw [e]; exact t.vw

theorem Send.ack_credit {x x' : Send} {a e : Nat} {fin done : Bool} (h : x.ack a e fin = some (x', done)) :
    x'.credit = x.credit := by
  revert h
  fun_cases Send.ack x a e fin <;> intro h
  case case1 => contradiction
  all_goals cases h; exact Prod.ext (SendBuf.ack_offset ‹_›) rfl

theorem sub_drop {s s' : State} {id : Nat} (hc : s'.core = s.core) (hid : s'.send.find? id = none)
    (hne : ∀ k, k ≠ id → s'.send.find? k = s.send.find? k) : Sub s.vw s'.vw := by
  refine ⟨hc, fun k c hk => ?_⟩
  simp only [State.vw, State.cv] at hk ⊢
  by_cases hkk : k = id
  · subst hkk; rw [hid] at hk; cases hk
  · rwa [hne k hkk] at hk

theorem frame_receivedStopSending (s : State) (id code : Nat) : FrameV s.vw (s.receivedStopSending id code).vw := by
  rcases receivedStopSending_cases s id code with ⟨_, e⟩ | ⟨x, s1, h1, ⟨_, e⟩ | ⟨_, e⟩⟩ <;> rw [e]
  · exact FrameV.refl _
  · exact (getOrInsertSend_spec h1).frame
  · have g := getOrInsertSend_spec h1
    exact g.frame.trans (.of_eq ((vw_onStreamFrame _ _ _).trans ((vw_rest ..).trans (vw_set g.slot rfl rfl rfl))))

theorem sub_resetAcked {s s' : State} {id : Nat} (h : s.resetAcked id = some s') : Sub s.vw s'.vw := by
  revert h
  fun_cases State.resetAcked s id <;> intro h
  case case1 =>
    rw [vw_streamFreed h]
    exact sub_drop (s := s) rfl (Map.find?_erase_self _ _) fun k hk => Map.find?_erase_ne _ _ _ hk
  all_goals cases h; exact .of_eq rfl

theorem sub_receivedAckOf {s s' : State} {id a e : Nat} {fin : Bool}
    (h : s.receivedAckOf id a e fin = some s') : Sub s.vw s'.vw := by
  revert h
  fun_cases State.receivedAckOf s id a e fin <;> intro h
  case case1 | case7 => cases h; exact .of_eq rfl
  case case4 hx _ _ _ _ _ ha _ _ =>
    obtain rfl := Option.some.inj h
    exact .of_eq (vw_set hx rfl rfl (Send.ack_credit ha))
  case case6 =>
    cases h
    have hf : State.streamFreed _ _ _ = _ := ‹_›
    rw [(vw_rest ..).trans (vw_streamFreed hf)]
    exact sub_drop (s := s) rfl (Map.find?_erase_self _ _)
      fun k hk => (Map.find?_erase_ne _ _ _ hk).trans (Map.find?_set_ne _ _ _ _ hk)
  all_goals contradiction

theorem Send.finish_credit {x x' : Send} (h : x.finish = .ok x') : x'.credit = x.credit := by
  revert h
  fun_cases Send.finish x <;> intro h
  case case2 => cases h; rfl
  all_goals contradiction

theorem Send.reset_credit (x : Send) : x.reset.credit = x.credit := by
  unfold Send.reset; split <;> rfl

theorem cv_putSend {s : State} {id : Nat} {x x' : Send} (hx : s.send.find? id = some (some x)) (k : Nat) :
    (s.putSend id x').cv k = if k = id then some x'.credit else s.cv k := by
  simp only [State.cv, State.putSend]
  by_cases hk : k = id
  · subst hk; rw [Map.find?_set_self _ _ _ _ hx]; simp
  · rw [Map.find?_set_ne _ _ _ _ hk]; simp [hk]

/-- an accepted `write` of `k` of `n` bytes on stream `id`, whose half `x` `get_or_insert_send` left in `s1`: there was
    room on both levels, `k` is the minimum the code computes, and the view moves by `k` -/
structure Wrote (s s1 s' : State) (id n k : Nat) (x : Send) : Prop where
  conn_room : 0 < Gen.writeLimit s.maxData s.dataSent s.sendWindow s.unackedData
  stream_room : 0 < x.maxData - x.pending.offset
  amount : k = Nat.min n (Nat.min (Gen.writeLimit s.maxData s.dataSent s.sendWindow s.unackedData)
    (x.maxData - x.pending.offset))
  core : s'.core = { s1.core with dataSent := s1.dataSent + k }
  cv : ∀ j, s'.cv j = if j = id then some (x.pending.offset + k, x.maxData) else s1.cv j
  unacked : s'.unackedData = s1.unackedData + k

theorem write_ok {s s' : State} {id n k : Nat} (h : s.write id n = some (s', .ok k)) :
    ∃ x s1, s.getOrInsertSend id = some (x, s1) ∧ Wrote s s1 s' id n k x := by
  obtain ⟨x, s1, x', l, hl, h0, hg, hw, e⟩ := write_ok_put h
  obtain ⟨_, rfl⟩ := writeLimit_some hl
  obtain ⟨hroom, hk, rfl⟩ := Send.write_ok hw
  exact ⟨x, s1, hg, Nat.pos_of_ne_zero h0, hroom, hk, by rw [e]; rfl,
    fun j => by rw [e]; exact cv_putSend (getOrInsertSend_spec hg).slot j, by rw [e]⟩

/-- the credit `write` works with, as the code computes it: min(connection credit and send-window
    room (`write_limit`), stream credit) -/
def State.writeCredit (s : State) (x : Send) : Nat :=
  Nat.min (Gen.writeLimit s.maxData s.dataSent s.sendWindow s.unackedData) (x.maxData - x.pending.offset)

theorem write_decision {s s' s1 : State} {id n : Nat} {x : Send} {r : Except WriteErr Nat}
    (h : s.write id n = some (s', r)) (hg : s.getOrInsertSend id = some (x, s1))
    (hc : s.connClosed = false) (hw : x.isWritable = true) (hs : x.stopReason = none) :
    r = if s.writeCredit x = 0 then .error .blocked else .ok (Nat.min n (s.writeCredit x)) := by
  unfold State.writeCredit
  cases r with
  | ok k =>
    obtain ⟨x', s0, hg', w⟩ := write_ok h
    rw [hg] at hg'
    simp only [Option.some.injEq, Prod.mk.injEq] at hg'
    obtain ⟨rfl, rfl⟩ := hg'
    have hl := w.conn_room
    have hb := w.stream_room
    have : ¬ Nat.min (Gen.writeLimit s.maxData s.dataSent s.sendWindow s.unackedData)
        (x.maxData - x.pending.offset) = 0 := by simp only [natMin_eq]; omega
    simp only [this, ↓reduceIte, w.amount]
  | error e =>
    rcases write_cases h with ⟨hc', _⟩ | ⟨limit, _, hl, ⟨hg', _⟩ | ⟨x0, s0, hg', hb⟩⟩
    · rw [hc] at hc'; contradiction
    · rw [hg] at hg'; contradiction
    rw [hg] at hg'
    cases hg'
    obtain ⟨_, rfl⟩ := writeLimit_some hl
    rcases hb with ⟨hcf, _⟩ | ⟨_, c, hsf, _⟩ | ⟨_, _, h0, hr, _⟩ | ⟨_, _, _, ⟨e', hx, _, hr⟩ | ⟨_, _, _, _, hr, _⟩⟩
    · rw [closedFirst_iff.mp hcf] at hw; contradiction
    · rw [(stoppedFirst_some.mp hsf).2] at hs; contradiction
    · cases hr; simp [h0]
    · cases hr
      rcases Send.write_err hx with ⟨hnw, _⟩ | ⟨_, c, hsr, _⟩ | ⟨_, _, hb, rfl⟩
      · rw [hw] at hnw; contradiction
      · rw [hs] at hsr; contradiction
      · simp [hb]
    · cases hr

theorem vw_afterUnblock {s : State} {id : Nat} {x' : Send} (b : Bool) (wl : Nat)
    (hx : s.send.find? id = some (some x')) : (s.afterUnblock b id x' wl).vw = s.vw := by
  unfold State.afterUnblock
  by_cases hb : b = true
  · rw [if_pos hb]
    by_cases hw : wl > 0
    · rw [if_pos hw]; rfl
    rw [if_neg hw]
    by_cases hcb : (!x'.connectionBlocked) = true
    · rw [if_pos hcb]; exact (vw_rest ..).trans (vw_set hx rfl rfl rfl)
    · rw [if_neg hcb]
  · rw [if_neg hb]

theorem receivedMaxStreamData_cases {s s' : State} {id n : Nat} {e : Option TErr}
    (h : s.receivedMaxStreamData id n = some (s', e)) :
    (e.isSome ∧ s' = s) ∨ (e = none ∧ s'.vw = s.vw) ∨
    (e = none ∧ ∃ x s1, s.getOrInsertSend id = some (x, s1) ∧ s'.vw = (s1.putSend id (x.increaseMaxData n).1).vw) := by
  revert h
  fun_cases State.receivedMaxStreamData s id n <;> intro h
  case case1 | case2 | case5 => cases h; exact Or.inl ⟨rfl, rfl⟩
  case case3 => contradiction
  case case4 hg _ _ =>
    cases h
    exact Or.inr (Or.inr ⟨rfl, _, _, hg, (vw_onStreamFrame _ _ _).trans
      (vw_afterUnblock _ _ (find_putSend_self (getOrInsertSend_spec hg).slot))⟩)
  case case6 => cases h; exact Or.inr (Or.inl ⟨rfl, vw_onStreamFrame s false id⟩)

end QM.Streams
