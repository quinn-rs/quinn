import QuinnModel.Endpoint.Index
/-
The endpoint routing model (C09): map laws, slab laws, and the `Sound` invariant.  `Sound` is split by table
(`SoundByTable`), each part taking just the lookups (five tables, two slabs) it mentions: a call leaves a part
alone when it leaves those lookups alone.  A call changes one slot of one slab (`Upd`) and the tables at the keys
that slot holds (`gain`, `lose`).
-/
namespace QM.Index

section maps
variable {κ ν : Type} [DecidableEq κ]

@[simp] theorem alookup_nil (k : κ) : alookup k ([] : List (κ × ν)) = none := rfl

theorem alookup_cons (k k' : κ) (v : ν) (l : List (κ × ν)) :
    alookup k ((k', v) :: l) = if k' = k then some v else alookup k l := rfl

theorem alookup_aerase (k k' : κ) (l : List (κ × ν)) :
    alookup k' (aerase k l) = if k = k' then none else alookup k' l := by
  induction l with
  | nil => simp [aerase]
  | cons e l ih =>
    obtain ⟨a, b⟩ := e
    unfold aerase at ih ⊢
    by_cases h : a = k <;> by_cases h2 : k = k' <;> simp_all [alookup_cons]

theorem alookup_aerase_some {k k' : κ} {v : ν} {l : List (κ × ν)} (h : alookup k' (aerase k l) = some v) :
    k ≠ k' ∧ alookup k' l = some v := by
  rw [alookup_aerase] at h
  split at h
  · cases h
  · exact ⟨‹_›, h⟩

theorem alookup_ainsert (k k' : κ) (v : ν) (l : List (κ × ν)) :
    alookup k' (ainsert k v l) = if k = k' then some v else alookup k' l := by
  unfold ainsert
  rw [alookup_cons, alookup_aerase]
  by_cases h : k = k' <;> simp [h]

def keys (l : List (κ × ν)) : List κ := l.map (fun e => e.1)

theorem nodup_keys_aerase {k : κ} {l : List (κ × ν)} (h : (keys l).Nodup) : (keys (aerase k l)).Nodup :=
  h.sublist (List.Sublist.map _ List.filter_sublist)

theorem nodup_keys_ainsert {k : κ} {v : ν} {l : List (κ × ν)} (h : (keys l).Nodup) :
    (keys (ainsert k v l)).Nodup :=
  List.nodup_cons.mpr ⟨by simp [aerase], nodup_keys_aerase h⟩

theorem alookup_of_mem {k : κ} {v : ν} {l : List (κ × ν)} (hn : (keys l).Nodup) (h : (k, v) ∈ l) :
    alookup k l = some v := by
  induction l with
  | nil => simp at h
  | cons e l ih =>
    obtain ⟨hn1, hn2⟩ := List.nodup_cons.mp hn
    rcases List.mem_cons.mp h with rfl | h1
    · simp [alookup_cons]
    · rw [alookup_cons, if_neg, ih hn2 h1]
      exact fun e' => hn1 (List.mem_map.mpr ⟨(k, v), h1, e'.symm⟩)

theorem exists_alookup_of_mem_vals {v : ν} {l : List (κ × ν)} (hn : (keys l).Nodup)
    (h : v ∈ l.map (fun e => e.2)) : ∃ k, alookup k l = some v := by
  obtain ⟨⟨k, v'⟩, hmem, rfl⟩ := List.mem_map.mp h
  exact ⟨k, alookup_of_mem hn hmem⟩

theorem mem_vals_of_alookup {k : κ} {v : ν} {l : List (κ × ν)} (h : alookup k l = some v) :
    v ∈ l.map (fun e => e.2) := by
  revert h
  fun_induction alookup k l
  case case1 => intro h; cases h
  case case2 => intro h; cases h; exact List.mem_cons_self
  case case3 ih => intro h; exact List.mem_cons_of_mem _ (ih h)

/-- `ConnectionIndex::remove` erases a tuple key only while it still maps to the handle being removed -/
theorem alookup_eraseIf (k : κ) (ch : Nat) (l : List (κ × Nat)) (k' : κ) :
    alookup k' (if alookup k l = some ch then aerase k l else l) =
      if k = k' ∧ alookup k' l = some ch then none else alookup k' l := by
  split <;> by_cases hk : k = k' <;> simp_all [alookup_aerase]

end maps

theorem alookup_eraseAll (cs : List Cid) (l : List (Cid × Nat)) (c : Cid) :
    alookup c (eraseAll cs l) = if c ∈ cs then none else alookup c l := by
  unfold eraseAll
  induction cs generalizing l with
  | nil => simp
  | cons a cs ih => simp only [List.foldl_cons, ih, alookup_aerase, List.mem_cons]; grind

theorem alookup_ainsert_nonempty {ν : Type} {id : Cid} (hid : id ≠ []) (ch : ν) (ids : List (Cid × ν)) (c : Cid) :
    alookup c (ainsert id ch ids) = if c ≠ [] ∧ id = c then some ch else alookup c ids := by
  rw [alookup_ainsert]
  by_cases e : id = c
  · rw [if_pos e, if_pos ⟨e ▸ hid, e⟩]
  · rw [if_neg e, if_neg fun h => e h.2]

/-- `g'` is `g` except in slot `k`, whose content went from `o` to `o'` -/
structure Upd {ι α : Type} (g g' : ι → Option α) (k : ι) (o o' : Option α) : Prop where
  old : g k = o
  new : g' k = o'
  off : ∀ j, j ≠ k → g' j = g j

namespace Slab
variable {α : Type}

theorem get_set_self {s : Slab α} {k : Nat} {v0 : α} (h : s.get k = some v0) (v : α) :
    (s.set k v).get k = some v := by
  have hk : k < s.entries.length := by
    unfold get at h
    split at h
    · rename_i hv; exact (List.getElem?_eq_some_iff.mp hv).1
    · cases h
  simp [get, set, hk]

theorem get_set_ne {s : Slab α} {k k' : Nat} (v : α) (h : k' ≠ k) :
    (s.set k v).get k' = s.get k' := by
  simp [get, set, List.getElem?_set_ne (Ne.symm h)]

theorem upd_set {s : Slab α} {k : Nat} {v : α} (h : s.get k = some v) (v' : α) :
    Upd s.get (s.set k v').get k (some v) (some v') :=
  ⟨h, get_set_self h v', fun _ hj => get_set_ne v' hj⟩

/-- `insert_at` into a vacant entry and `try_remove` overwrite one entry -/
theorem upd_entry (s : Slab α) {k : Nat} (hk : k < s.entries.length) (e : Entry α) (nx : Nat) :
    Upd s.get (Slab.mk (s.entries.set k e) nx).get k (s.get k)
      (match e with | .occupied v => some v | .vacant _ => none) := by
  refine ⟨rfl, ?_, fun j hj => ?_⟩
  · cases e <;> simp [get, hk]
  · simp [get, List.getElem?_set_ne (Ne.symm hj)]

theorem insertAt_spec {s s' : Slab α} {v : α} {k : Nat} (h : s.insertAt k v = some s') :
    Upd s.get s'.get k none (some v) := by
  unfold insertAt at h
  split at h
  · rename_i hl
    cases h; subst hl
    refine ⟨by simp [get], by simp [get], fun j hj => ?_⟩
    simp only [get, List.getElem?_append]
    by_cases hlt : j < s.entries.length
    · rw [if_pos hlt]
    · rw [if_neg hlt, List.getElem?_eq_none (by simp; omega), List.getElem?_eq_none (by omega)]
  · split at h
    · rename_i nx hv
      cases h
      have := upd_entry s (List.getElem?_eq_some_iff.mp hv).1 (.occupied v) nx
      rwa [show s.get k = none by simp [get, hv]] at this
    · cases h

theorem insert_spec {s s' : Slab α} {v : α} {k : Nat} (h : s.insert v = some (k, s')) :
    k = s.next ∧ Upd s.get s'.get k none (some v) := by
  unfold insert at h
  split at h
  · rename_i s0 heq; cases h; exact ⟨rfl, insertAt_spec heq⟩
  · cases h

theorem tryRemove_some {s s' : Slab α} {k : Nat} {v : α} (h : s.tryRemove k = (some v, s')) :
    Upd s.get s'.get k (some v) none ∧ s'.next = k := by
  unfold tryRemove at h
  split at h
  · rename_i v0 hv
    cases h
    have := upd_entry s (List.getElem?_eq_some_iff.mp hv).1 (.vacant s.next) k
    exact ⟨by rwa [show s.get k = some v by simp [get, hv]] at this, rfl⟩
  · cases h

theorem tryRemove_none {s s' : Slab α} {k : Nat} (h : s.tryRemove k = (none, s')) :
    s' = s ∧ s.get k = none := by
  unfold tryRemove at h
  split at h
  · cases h
  · rename_i hne
    cases h
    refine ⟨rfl, ?_⟩
    unfold get
    split
    · rename_i v hv; exact absurd hv (hne v)
    · rfl

theorem remove_spec {s s' : Slab α} {k : Nat} {v : α} (h : s.remove k = some (v, s')) :
    Upd s.get s'.get k (some v) none := by
  unfold remove at h
  split at h
  · rename_i v0 s0 heq; cases h; exact (tryRemove_some heq).1
  · cases h

end Slab

/-- every entry of every table points at a live owner; every non-empty issued, unretired CID and initial
    DCID is registered; sequence numbers and non-empty CIDs of one connection are in bijection -/
structure Sound (s : State) : Prop where
  ids_sound : ∀ c h, alookup c s.index.ids = some h →
    ∃ m q, s.conns.get h = some m ∧ alookup q m.locCids = some c
  ids_complete : ∀ h m q c, s.conns.get h = some m → alookup q m.locCids = some c → c ≠ [] →
    alookup c s.index.ids = some h
  loc_inj : ∀ h m q q' c, s.conns.get h = some m → alookup q m.locCids = some c →
    alookup q' m.locCids = some c → c ≠ [] → q = q'
  seq_lt : ∀ h m q c, s.conns.get h = some m → alookup q m.locCids = some c → q < m.cidsIssued
  init_conn : ∀ d h, alookup d s.index.idsInitial = some (.connection h) →
    ∃ m, s.conns.get h = some m ∧ m.side = .server ∧ m.initCid = d
  init_inc : ∀ d i, alookup d s.index.idsInitial = some (.incoming i) →
    ∃ p, s.incoming.get i = some p ∧ p.dcid = d
  conn_init : ∀ h m, s.conns.get h = some m → m.side = .server → m.initCid ≠ [] →
    alookup m.initCid s.index.idsInitial = some (.connection h)
  inc_init : ∀ i p, s.incoming.get i = some p → p.dcid ≠ [] →
    alookup p.dcid s.index.idsInitial = some (.incoming i)
  init_nonempty : alookup [] s.index.idsInitial = none
  in_sound : ∀ a h, alookup a s.index.inRemotes = some h →
    ∃ m, s.conns.get h = some m ∧ m.side = .server ∧ m.addresses = a
  out_sound : ∀ r h, alookup r s.index.outRemotes = some h →
    ∃ m, s.conns.get h = some m ∧ m.side = .client ∧ m.addresses.remote = r
  tok_sound : ∀ k h, alookup k s.index.tokens = some h →
    ∃ m, s.conns.get h = some m ∧ m.resetToken = some k
  loc_nodup : ∀ h m, s.conns.get h = some m → (keys m.locCids).Nodup

section refs
variable {κ ι α : Type} {L L' : κ → Option ι} {g g' : ι → Option α} {P : κ → α → Prop} {i0 : ι}
  {x x' : α} {o o' : Option α} {C : κ → Prop} [DecidablePred C]

/-- every entry of table `L` points at an occupied slot whose occupant `P` relates to the key -/
def Refs (L : κ → Option ι) (g : ι → Option α) (P : κ → α → Prop) : Prop :=
  ∀ k i, L k = some i → ∃ x, g i = some x ∧ P k x

theorem Refs.update (hr : Refs L g P) (u : Upd g g' i0 o o')
    (hoff : ∀ k i, L' k = some i → i ≠ i0 → L k = some i)
    (hat : ∀ k, L' k = some i0 → ∃ x, o' = some x ∧ P k x) : Refs L' g' P := by
  intro k i hk
  by_cases e : i = i0
  · subst e; rw [u.new]; exact hat k hk
  · rw [u.off i e]; exact hr k i (hoff k i hk e)

theorem Refs.set (hr : Refs L g P) (u : Upd g g' i0 (some x) (some x'))
    (hP : ∀ k, P k x → P k x') : Refs L g' P :=
  hr.update u (fun _ _ h _ => h) fun k hk => by
    obtain ⟨x0, e, p⟩ := hr k i0 hk
    rw [u.old] at e; cases e
    exact ⟨x', rfl, hP k p⟩

theorem Refs.gain (hr : Refs L g P) (u : Upd g g' i0 o (some x'))
    (hL : ∀ k, L' k = if C k then some i0 else L k) (hC : ∀ k, C k → P k x')
    (hkeep : ∀ k x, o = some x → L k = some i0 → P k x → P k x') : Refs L' g' P := by
  refine hr.update u (fun k i hk hne => ?_) (fun k hk => ⟨x', rfl, ?_⟩)
  · rw [hL] at hk; split at hk
    · exact absurd (Option.some.inj hk).symm hne
    · exact hk
  · rw [hL] at hk; split at hk
    · exact hC k ‹_›
    · obtain ⟨x, e, p⟩ := hr k i0 hk
      exact hkeep k x (u.old.symm.trans e) hk p

theorem Refs.lose (hr : Refs L g P) (u : Upd g g' i0 (some x) o') (hL : ∀ k, L' k = if C k then none else L k)
    (hstay : ∀ k, P k x → L k = some i0 → ¬ C k → ∃ x', o' = some x' ∧ P k x') : Refs L' g' P := by
  have hsub : ∀ k i, L' k = some i → ¬ C k ∧ L k = some i := by
    intro k i hk; rw [hL] at hk; split at hk
    · cases hk
    · exact ⟨‹_›, hk⟩
  refine hr.update u (fun k i hk _ => (hsub k i hk).2) fun k hk => ?_
  obtain ⟨x0, e, p⟩ := hr k i0 (hsub k i0 hk).2
  rw [u.old] at e; cases e
  exact hstay k p (hsub k i0 hk).2 (hsub k i0 hk).1

end refs

section registers
variable {ι α : Type} {H : α → Cid → Prop} {T T' : Cid → Option ι} {g g' : ι → Option α} {i0 : ι}
  {x x' : α} {o o' : Option α} {K : Cid → Prop} [DecidablePred K]

/-- `T` sends exactly the non-empty keys that the occupant of a slot holds (`H`) to that slot -/
structure Registers (H : α → Cid → Prop) (T : Cid → Option ι) (g : ι → Option α) : Prop where
  sound : Refs T g fun k x => H x k
  complete : ∀ i x k, g i = some x → H x k → k ≠ [] → T k = some i

/-- slot `i0` comes to hold `x'`, which holds the keys `K` (free until then) on top of what was there before -/
theorem Registers.gain (hk : Registers H T g) (u : Upd g g' i0 o (some x'))
    (hH : ∀ k, H x' k ↔ K k ∨ ∃ x, o = some x ∧ H x k) (hfree : ∀ k, K k → k ≠ [] → T k = none)
    (hT : ∀ k, T' k = if k ≠ [] ∧ K k then some i0 else T k) : Registers H T' g' := by
  refine ⟨hk.sound.gain u hT (fun k c => (hH k).mpr (Or.inl c.2)) fun k x e _ h => (hH k).mpr (Or.inr ⟨x, e, h⟩),
    fun i x k hx hh hne => ?_⟩
  rw [hT]
  by_cases hi : i = i0
  · subst hi
    rw [u.new] at hx; cases hx
    split
    · rfl
    · rename_i hc
      rcases (hH k).mp hh with hK | ⟨x, hx, hh⟩
      · exact absurd ⟨hne, hK⟩ hc
      · exact hk.complete i x k (u.old.trans hx) hh hne
  · rw [u.off i hi] at hx
    have := hk.complete i x k hx hh hne
    rw [if_neg]; exact this
    intro hc; rw [hfree k hc.2 hne] at this; cases this

/-- the keys `K`, which the occupant `x` of slot `i0` held, leave the table; what is in the slot afterwards
    holds the rest of `x`'s keys and no others -/
theorem Registers.lose (hk : Registers H T g) (u : Upd g g' i0 (some x) o') (hK : ∀ k, K k → k ≠ [] → H x k)
    (hstay : ∀ k, H x k → T k = some i0 → ¬ K k → ∃ x', o' = some x' ∧ H x' k)
    (hleft : ∀ x' k, o' = some x' → H x' k → k ≠ [] → ¬ K k ∧ H x k)
    (hT : ∀ k, T' k = if K k then none else T k) : Registers H T' g' := by
  refine ⟨hk.sound.lose u hT hstay, fun i x1 k hx hh hne => ?_⟩
  rw [hT]
  by_cases hi : i = i0
  · subst hi
    rw [u.new] at hx
    obtain ⟨hnK, hh'⟩ := hleft x1 k hx hh hne
    rw [if_neg hnK]; exact hk.complete i x k u.old hh' hne
  · rw [u.off i hi] at hx
    have := hk.complete i x1 k hx hh hne
    rw [if_neg]; exact this
    intro hc
    rw [hk.complete i0 x k u.old (hK k hc hne) hne] at this
    exact hi (Option.some.inj this).symm

end registers

structure Meta.WF (m : Meta) : Prop where
  inj : ∀ q q' c, alookup q m.locCids = some c → alookup q' m.locCids = some c → c ≠ [] → q = q'
  lt : ∀ q c, alookup q m.locCids = some c → q < m.cidsIssued
  nodup : (keys m.locCids).Nodup

def Meta.Holds (m : Meta) (c : Cid) : Prop := ∃ q, alookup q m.locCids = some c

structure CidsOK (ids : Cid → Option Nat) (g : Nat → Option Meta) : Prop where
  wf : ∀ h m, g h = some m → m.WF
  reg : Registers Meta.Holds ids g

section cids
variable {ids ids' : Cid → Option Nat} {g g' : Nat → Option Meta} {ch : Nat} {m m' : Meta}

theorem CidsOK.wf_upd {o o' : Option Meta} (hk : CidsOK ids g) (u : Upd g g' ch o o')
    (hwf : ∀ m, o' = some m → m.WF) : ∀ h m, g' h = some m → m.WF := by
  intro h m hm
  by_cases e : h = ch
  · subst e; rw [u.new] at hm; exact hwf m hm
  · rw [u.off h e] at hm; exact hk.wf h m hm

theorem CidsOK.gain {o : Option Meta} {K : Cid → Prop} [DecidablePred K] (hk : CidsOK ids g)
    (u : Upd g g' ch o (some m')) (wf : m'.WF) (hH : ∀ c, m'.Holds c ↔ K c ∨ ∃ m, o = some m ∧ m.Holds c)
    (hfree : ∀ c, K c → c ≠ [] → ids c = none)
    (hids : ∀ c, ids' c = if c ≠ [] ∧ K c then some ch else ids c) : CidsOK ids' g' :=
  ⟨hk.wf_upd u fun m0 e => (by cases e; exact wf), hk.reg.gain u hH hfree hids⟩

/-- one round of `send_new_identifiers`; `id` is empty, and then not registered, with a zero-length generator -/
theorem CidsOK.issue {id : Cid} (hk : CidsOK ids g) (u : Upd g g' ch (some m) (some m'))
    (hl : m'.locCids = ainsert m.cidsIssued id m.locCids) (hc : m'.cidsIssued = m.cidsIssued + 1)
    (hfresh : id ≠ [] → ids id = none)
    (hids : ∀ c, ids' c = if c ≠ [] ∧ id = c then some ch else ids c) : CidsOK ids' g' := by
  have wf := hk.wf ch m u.old
  have hnew : ∀ q c, alookup q m.locCids = some c → ¬ m.cidsIssued = q := by
    intro q c hq e; have := wf.lt q c hq; omega
  have hold : ∀ q c, alookup q m.locCids = some c → c ≠ [] → ¬ id = c := by
    intro q c hq hne e; subst e
    rw [hk.reg.complete ch m id u.old ⟨q, hq⟩ hne] at hfresh; exact absurd (hfresh hne) (by simp)
  refine hk.gain (K := fun c => id = c) u ⟨?_, ?_, by rw [hl]; exact nodup_keys_ainsert wf.nodup⟩ (fun c => ?_)
    (fun c e hne => e ▸ hfresh (e ▸ hne)) hids
  · intro q q' c hq hq' hne
    rw [hl, alookup_ainsert] at hq hq'
    split at hq <;> split at hq'
    · omega
    · exact absurd (Option.some.inj hq) (hold q' c hq' hne)
    · exact absurd (Option.some.inj hq') (hold q c hq hne)
    · exact wf.inj q q' c hq hq' hne
  · intro q c hq
    rw [hl, alookup_ainsert] at hq
    split at hq
    · omega
    · have := wf.lt q c hq; omega
  · constructor
    · intro ⟨q, hq⟩
      rw [hl, alookup_ainsert] at hq
      split at hq
      · exact Or.inl (Option.some.inj hq)
      · exact Or.inr ⟨m, rfl, q, hq⟩
    · rintro (e | ⟨m0, e, q, hq⟩)
      · exact ⟨m.cidsIssued, by rw [hl, alookup_ainsert, if_pos rfl, e]⟩
      · cases e; exact ⟨q, by rw [hl, alookup_ainsert, if_neg (hnew q c hq)]; exact hq⟩

/-- the `RetireConnectionId` event -/
theorem CidsOK.retire {seq : Nat} {cid : Cid} (hk : CidsOK ids g)
    (u : Upd g g' ch (some m) (some m')) (hl : m'.locCids = aerase seq m.locCids)
    (hc : m'.cidsIssued = m.cidsIssued) (hseq : alookup seq m.locCids = some cid)
    (hids : ∀ c, ids' c = if cid = c then none else ids c) : CidsOK ids' g' := by
  have wf := hk.wf ch m u.old
  refine ⟨hk.wf_upd u fun m0 e => ?_,
    hk.reg.lose (K := fun c => cid = c) u (fun c e _ => e ▸ ⟨seq, hseq⟩) (fun c hh _ hc' => ?_)
    (fun m0 c e hh hne => ?_) hids⟩
  · cases e
    refine ⟨fun q q' c hq hq' => ?_, fun q c hq => ?_, by rw [hl]; exact nodup_keys_aerase wf.nodup⟩
    · rw [hl] at hq hq'
      exact wf.inj q q' c (alookup_aerase_some hq).2 (alookup_aerase_some hq').2
    · rw [hl] at hq; rw [hc]
      exact wf.lt q c (alookup_aerase_some hq).2
  · obtain ⟨q, hq⟩ := hh
    refine ⟨m', rfl, q, ?_⟩
    rw [hl, alookup_aerase, if_neg]; exact hq
    intro e; subst e; rw [hseq] at hq; exact hc' (Option.some.inj hq)
  · cases e
    obtain ⟨q, hq⟩ := hh
    rw [hl] at hq
    obtain ⟨hsq, hq⟩ := alookup_aerase_some hq
    exact ⟨fun e => hsq (wf.inj seq q c (e ▸ hseq) hq hne), q, hq⟩

theorem CidsOK.remove (hk : CidsOK ids g) (u : Upd g g' ch (some m) none)
    (hids : ∀ c, ids' c = if c ∈ m.locCids.map (fun e => e.2) then none else ids c) : CidsOK ids' g' :=
  ⟨hk.wf_upd u fun m0 e => (by cases e),
    hk.reg.lose u (fun c hc _ => exists_alookup_of_mem_vals (hk.wf ch m u.old).nodup hc)
      (fun c ⟨q, hq⟩ _ hn => absurd (mem_vals_of_alookup hq) hn) (fun m0 c e => by cases e) hids⟩

end cids

/-- the initial DCID a route is registered under: of a live incoming connection, of a pending attempt -/
def dcidOf (g : Nat → Option Meta) (p : Nat → Option Pending) : RouteTo → Option Cid
  | .connection h => (g h).bind fun m => if m.side = .server then some m.initCid else none
  | .incoming i => (p i).map fun q => q.dcid

structure InitOK (ini : Cid → Option RouteTo) (g : Nat → Option Meta) (p : Nat → Option Pending) : Prop where
  reg : Registers (fun d k : Cid => d = k) ini (dcidOf g p)
  nonempty : ini [] = none

section init
variable {ini ini' : Cid → Option RouteTo} {g g' : Nat → Option Meta} {p p' : Nat → Option Pending}
  {ch i : Nat} {r : RouteTo} {d : Cid}

theorem dcidOf_connection :
    dcidOf g p (.connection ch) = some d ↔ ∃ m, g ch = some m ∧ m.side = .server ∧ m.initCid = d := by
  simp [dcidOf, Option.bind_eq_some_iff]

theorem dcidOf_incoming : dcidOf g p (.incoming i) = some d ↔ ∃ q, p i = some q ∧ q.dcid = d := by
  simp [dcidOf]

theorem Upd.dcidOf_conn {o o' : Option Meta} (u : Upd g g' ch o o') :
    Upd (dcidOf g p) (dcidOf g' p) (.connection ch)
      (o.bind fun m => if m.side = .server then some m.initCid else none)
      (o'.bind fun m => if m.side = .server then some m.initCid else none) := by
  refine ⟨by rw [← u.old]; rfl, by rw [← u.new]; rfl, fun r hr => ?_⟩
  cases r with
  | incoming j => rfl
  | connection h => simp only [dcidOf, u.off h (fun e => hr (e ▸ rfl))]

theorem Upd.dcidOf_inc {o o' : Option Pending} (u : Upd p p' i o o') :
    Upd (dcidOf g p) (dcidOf g p') (.incoming i) (o.map fun q => q.dcid) (o'.map fun q => q.dcid) := by
  refine ⟨by rw [← u.old]; rfl, by rw [← u.new]; rfl, fun r hr => ?_⟩
  cases r with
  | connection h => rfl
  | incoming j => simp only [dcidOf, u.off j (fun e => hr (e ▸ rfl))]

theorem InitOK.gain (hk : InitOK ini g p) (u : Upd (dcidOf g p) (dcidOf g' p') r none (some d))
    (hfree : d ≠ [] → ini d = none) (hini : ∀ k, ini' k = if k ≠ [] ∧ d = k then some r else ini k) :
    InitOK ini' g' p' :=
  ⟨hk.reg.gain (K := fun k => d = k) u (fun k => by simp) (fun k e hne => e ▸ hfree (e ▸ hne)) hini,
    by rw [hini, if_neg (fun h => h.1 rfl)]; exact hk.nonempty⟩

theorem InitOK.lose (hk : InitOK ini g p) (u : Upd (dcidOf g p) (dcidOf g' p') r (some d) none)
    (hini : ∀ k, ini' k = if d ≠ [] ∧ d = k then none else ini k) : InitOK ini' g' p' := by
  refine ⟨hk.reg.lose u (fun k hc _ => hc.2) (fun k e hr hn => ?_) (fun x' k e => by cases e) hini, ?_⟩
  · exact absurd ⟨fun e0 => (by rw [← e, e0, hk.nonempty] at hr; cases hr), e⟩ hn
  · rw [hini]; split
    · rfl
    · exact hk.nonempty

theorem InitOK.same {o o' : Option Cid} (hk : InitOK ini g p) (u : Upd (dcidOf g p) (dcidOf g' p') r o o')
    (ho : o = o') : InitOK ini g' p' := by
  have : dcidOf g' p' = dcidOf g p := funext fun j => by
    by_cases e : j = r
    · rw [e, u.new, u.old, ho]
    · exact u.off j e
  exact ⟨this ▸ hk.reg, hk.nonempty⟩

theorem InitOK.removeConn {m : Meta} (hk : InitOK ini g p) (u : Upd g g' ch (some m) none)
    (hini : ∀ d, ini' d = if m.side = .server ∧ m.initCid ≠ [] ∧ m.initCid = d then none else ini d) :
    InitOK ini' g' p := by
  have u' := u.dcidOf_conn (p := p)
  by_cases hs : m.side = .server
  · simp only [Option.bind_some, hs, if_true, Option.bind_none] at u'
    exact hk.lose u' fun d => by rw [hini]; simp only [hs, true_and]
  · simp only [Option.bind_some, hs, if_false, Option.bind_none] at u'
    have : ini' = ini := funext fun d => by rw [hini, if_neg (fun h => hs h.1)]
    exact this ▸ hk.same u' rfl

end init

structure SoundByTable (s : State) : Prop where
  cids : CidsOK (fun c => alookup c s.index.ids) s.conns.get
  init : InitOK (fun d => alookup d s.index.idsInitial) s.conns.get s.incoming.get
  inR : Refs (fun a => alookup a s.index.inRemotes) s.conns.get (fun a m => m.side = .server ∧ m.addresses = a)
  outR : Refs (fun r => alookup r s.index.outRemotes) s.conns.get
    (fun r m => m.side = .client ∧ m.addresses.remote = r)
  tokens : Refs (fun k => alookup k s.index.tokens) s.conns.get (fun k m => m.resetToken = some k)

theorem sound_iff {s : State} : Sound s ↔ SoundByTable s := by
  constructor
  · intro hs
    refine ⟨⟨fun h m e => ⟨fun q q' c => hs.loc_inj h m q q' c e, fun q c => hs.seq_lt h m q c e,
        hs.loc_nodup h m e⟩, fun c h e => ?_, fun h m c hm ⟨q, hq⟩ => hs.ids_complete h m q c hm hq⟩,
      ⟨⟨fun d r e => ?_, fun r x d hx hd hne => ?_⟩, hs.init_nonempty⟩, hs.in_sound, hs.out_sound, hs.tok_sound⟩
    · obtain ⟨m, q, hm, hq⟩ := hs.ids_sound c h e; exact ⟨m, hm, q, hq⟩
    · cases r with
      | connection h => exact ⟨d, dcidOf_connection.mpr (hs.init_conn d h e), rfl⟩
      | incoming i => exact ⟨d, dcidOf_incoming.mpr (hs.init_inc d i e), rfl⟩
    · subst hd
      cases r with
      | connection h => obtain ⟨m, hm, hsv, rfl⟩ := dcidOf_connection.mp hx; exact hs.conn_init h m hm hsv hne
      | incoming i => obtain ⟨q, hq, rfl⟩ := dcidOf_incoming.mp hx; exact hs.inc_init i q hq hne
  · intro ⟨hc, hi, hin, hout, htok⟩
    refine ⟨fun c h e => ?_, fun h m q c hm hq => hc.reg.complete h m c hm ⟨q, hq⟩,
      fun h m q q' c e => (hc.wf h m e).inj q q' c, fun h m q c e => (hc.wf h m e).lt q c,
      fun d h e => ?_, fun d i e => ?_,
      fun h m hm hsv => hi.reg.complete (.connection h) _ _ (dcidOf_connection.mpr ⟨m, hm, hsv, rfl⟩) rfl,
      fun i q hq => hi.reg.complete (.incoming i) _ _ (dcidOf_incoming.mpr ⟨q, hq, rfl⟩) rfl,
      hi.nonempty, hin, hout, htok, fun h m e => (hc.wf h m e).nodup⟩
    · obtain ⟨m, hm, q, hq⟩ := hc.reg.sound c h e; exact ⟨m, q, hm, hq⟩
    · obtain ⟨x, hx, rfl⟩ := hi.reg.sound d _ e; exact dcidOf_connection.mp hx
    · obtain ⟨x, hx, rfl⟩ := hi.reg.sound d _ e; exact dcidOf_incoming.mp hx

theorem sound_init (n : Nat) (b : Bool) : Sound (init n b) := by
  constructor <;> simp [init, Slab.get, Slab.empty]

end QM.Index
