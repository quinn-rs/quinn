import QuinnModel.Conn.Path
import QuinnModel.Lemmas.Runs
namespace QM.PathM

structure Inv (s : S) : Prop where
  fallback : s.path.validated = false → (∃ p, s.prev = some p) ∧ s.timer.isSome = true
  validatedClean : s.path.validated = true → s.path.challenge = none
  unvalidatedChallenged : s.path.validated = false → s.path.challenge.isSome = true
  prevValidated : ∀ p, s.prev = some p → p.validated = true

theorem step_elim {P : S → Prop} (s : S) (e : Ev) (same : P s)
    (migrated : ∀ src now ptoNew ptoOld tok tok2, e = .pkt src true now ptoNew ptoOld tok tok2 → src ≠ s.path.addr →
      s.mayMigrate = true → P (migrate s src now ptoNew ptoOld tok tok2))
    (validated : ∀ tok, e = .response s.path.addr tok → s.path.challenge = some tok →
      P { s with timer := none, path := { s.path with challenge := none, validated := true },
                 prev := s.prev.map fun p => { p with challenge := none, pending := false } })
    (expired : ∀ now t, e = .timeout now → s.timer = some t → t ≤ now →
      P { s with timer := none, prev := none,
                 path := { (match s.prev with | some p => p | none => s.path) with challenge := none, pending := false } }) :
    P (step s e) := by
  fun_cases step s e
  case case2 src trigger now ptoNew ptoOld tok tok2 c1 c2 =>
    obtain ⟨hs, rfl⟩ := c2
    refine migrated src now ptoNew ptoOld tok tok2 rfl hs ?_
    cases hm : s.mayMigrate with
    | true => rfl
    | false => exact absurd ⟨hs, by rw [hm]; rfl⟩ c1
  case case5 src tok _ c2 =>
    obtain ⟨hc, rfl⟩ := c2
    exact validated tok rfl hc
  case case7 now t ht hn _ => exact expired now t rfl ht hn
  all_goals exact same

theorem init_inv (a : Nat) (m : Bool) : Inv (init a m) :=
  ⟨nofun, fun _ => rfl, nofun, nofun⟩

theorem Inv.revert_validated {s : S} (h : Inv s) : (match s.prev with | some p => p | none => s.path).validated = true := by
  cases hp : s.prev with
  | some p => exact h.prevValidated p hp
  | none =>
    cases hv : s.path.validated with
    | true => rfl
    | false => obtain ⟨⟨p, hq⟩, _⟩ := h.fallback hv; rw [hp] at hq; cases hq

theorem step_inv (s : S) (e : Ev) (h : Inv s) : Inv (step s e) := by
  refine step_elim s e h (fun src now ptoNew ptoOld tok tok2 _ _ _ => ?_) (fun tok _ _ => ?_) (fun now t _ _ _ => ?_)
  · -- the path being left becomes the fallback, unless it is itself still being validated: then the old fallback stays
    have hprev : ∃ p, (migrate s src now ptoNew ptoOld tok tok2).prev = some p ∧ p.validated = true := by
      cases hv : s.path.validated with
      | true =>
        exact ⟨{ s.path with challenge := some tok2, pending := true }, by
          simp only [migrate, h.validatedClean hv, Option.isNone_none, if_true], hv⟩
      | false =>
        obtain ⟨⟨p, hp⟩, _⟩ := h.fallback hv
        obtain ⟨c, hc⟩ := Option.isSome_iff_exists.1 (h.unvalidatedChallenged hv)
        exact ⟨p, by simp only [migrate, hc, Option.isNone_some, Bool.false_eq_true, if_false]; exact hp,
          h.prevValidated p hp⟩
    obtain ⟨p, hp, hpv⟩ := hprev
    exact ⟨fun _ => ⟨⟨p, hp⟩, rfl⟩, nofun, fun _ => rfl, fun q hq => by rw [hp] at hq; cases hq; exact hpv⟩
  · exact ⟨nofun, fun _ => rfl, nofun, fun p hp => by
      obtain ⟨q, hq, rfl⟩ := Option.map_eq_some_iff.1 hp
      exact h.prevValidated q hq⟩
  · have hv := h.revert_validated
    have not : ¬ (match s.prev with | some p => p | none => s.path).validated = false := by rw [hv]; nofun
    exact ⟨fun hf => absurd hf not, fun _ => rfl, fun hf => absurd hf not, nofun⟩

theorem run_inv (evs : List Ev) : ∀ s, Inv s → Inv (run s evs) := foldl_inv step_inv evs

theorem step_init_noMigrate (a : Nat) (e : Ev) : step (init a false) e = init a false :=
  step_elim (P := fun s' => s' = init a false) _ e rfl (fun _ _ _ _ _ _ _ _ => nofun) (fun _ _ => nofun)
    (fun _ _ _ => nofun)

theorem run_init_noMigrate (a : Nat) (evs : List Ev) : run (init a false) evs = init a false :=
  foldl_inv (P := (· = init a false)) (fun _ e h => by rw [h, step_init_noMigrate]) evs _ rfl

theorem timer_kept (s : S) (e : Ev) (t : Nat) (ht : s.timer = some t ∨ s.timer = none)
    (hne : ∀ src now ptoNew ptoOld tok tok2, e = .pkt src true now ptoNew ptoOld tok tok2 → src = s.path.addr ∨ s.mayMigrate = false) :
    (step s e).timer = some t ∨ (step s e).timer = none :=
  step_elim (P := fun s' => s'.timer = some t ∨ s'.timer = none) s e ht
    (fun src now ptoNew ptoOld tok tok2 he hs hm => by
      rcases hne src now ptoNew ptoOld tok tok2 he with h | h
      · exact absurd h hs
      · rw [hm] at h; cases h)
    (fun _ _ _ => .inr rfl) (fun _ _ _ _ _ => .inr rfl)

/-- the factor regenerated from `migrate` is the THREE of the property -/
theorem validationPeriod_eq (a b : Nat) : validationPeriod a b = 3 * max a b := rfl

theorem migrate_deadline_3pto (s : S) (src now ptoNew ptoOld tok tok2 : Nat) (hm : s.mayMigrate = true) (hs : src ≠ s.path.addr) :
    let s' := step s (.pkt src true now ptoNew ptoOld tok tok2)
    s'.path.addr = src ∧ s'.path.validated = false ∧ s'.path.challenge = some tok ∧
      s'.timer = some (now + 3 * max ptoNew ptoOld) := by
  rw [← validationPeriod_eq]
  simp [step, migrate, hm, hs]

def NotTrigger : Ev → Prop
  | .pkt _ true _ _ _ _ _ => False
  | _ => True

theorem run_deadline_kept (evs : List Ev) : ∀ (s : S) (d : Nat), Inv s → (s.timer = some d ∨ s.timer = none) →
    (∀ e ∈ evs, NotTrigger e) → Inv (run s evs) ∧ ((run s evs).timer = some d ∨ (run s evs).timer = none) := by
  intro s d hi ht hn
  exact foldl_inv_of (P := fun s => Inv s ∧ (s.timer = some d ∨ s.timer = none))
    (fun s e he h => ⟨step_inv s e h.1, timer_kept s e d h.2 fun _ _ _ _ _ _ heq => by rw [heq] at he; exact he.elim⟩)
    evs s hn ⟨hi, ht⟩

theorem timeout_validated (s : S) (hi : Inv s) (d t : Nat) (ht : s.timer = some d ∨ s.timer = none) (hd : d ≤ t) :
    (step s (.timeout t)).path.validated = true := by
  rcases ht with h | h
  · simp only [step, h, hd, if_true]; exact hi.revert_validated
  · simp only [step, h]
    cases hv : s.path.validated with
    | true => rfl
    | false => have := (hi.fallback hv).2; rw [h] at this; cases this

theorem held_at_most_3pto (s : S) (hi : Inv s) (src now ptoNew ptoOld tok tok2 : Nat) (hm : s.mayMigrate = true)
    (hs : src ≠ s.path.addr) (evs : List Ev) (hn : ∀ e ∈ evs, NotTrigger e) (t : Nat)
    (ht : now + 3 * max ptoNew ptoOld ≤ t) :
    (step (run (step s (.pkt src true now ptoNew ptoOld tok tok2)) evs) (.timeout t)).path.validated = true := by
  obtain ⟨_, _, _, htimer⟩ := migrate_deadline_3pto s src now ptoNew ptoOld tok tok2 hm hs
  have hi1 := step_inv s (.pkt src true now ptoNew ptoOld tok tok2) hi
  have hk := run_deadline_kept evs _ (now + 3 * max ptoNew ptoOld) hi1 (Or.inl htimer) hn
  exact timeout_validated _ hk.1 _ t hk.2 ht

end QM.PathM
