import QuinnModel.Lemmas.StreamsC11
/-
C11, whole histories — what the property sees of a state: `view s` = the queued events other than Writable /
Available, the `opened` flags and the half view `hv s` (allocation counters, the abstract state `absSend` of every
sending half, the presence of every receiving half).  The helpers of the model leave the view alone or, when they
allocate stream ids, *grow* the half view (`Grow`); for the loops, the calls on one sending half and the allocation this is
read off their shared descriptions (`Shuffle.view`, `Touch.view`, `Alloc.halves`).  What drops a half or queues an event
is in StreamsStepFx.lean.  Last, `fsw s`: the queued Finished / Stopped events, a filter of the view's (`fsw_view`), on
which Props/C11 states its rule for these two events.
-/
namespace QM.Streams

structure HV where
  side : Side
  next : Two Nat
  maxRemote : Two Nat
  alloc : Two Nat
  sh : Nat → SendHalf
  rp : Nat → Bool

def State.hv (s : State) : HV :=
  ⟨s.side, s.next, s.maxRemote, s.allocatedRemoteCount, absSend s, fun id => s.recv.contains id⟩

/-- the stream id has been allocated: opened locally, or permitted to the peer -/
def HV.allocd (v : HV) (id : Nat) : Prop :=
  if sidInitiator id = v.side then sidIndex id < v.next.get (sidDir id)
  else sidIndex id < v.maxRemote.get (sidDir id)

theorem hv_of_eq {s s' : State} (h1 : s'.side = s.side) (h2 : s'.next = s.next)
    (h3 : s'.maxRemote = s.maxRemote) (h4 : s'.allocatedRemoteCount = s.allocatedRemoteCount)
    (h5 : s'.send = s.send) (h6 : s'.recv = s.recv) : s'.hv = s.hv := by
  have e : absSend s' = absSend s := by funext id; simp only [absSend, h5]
  simp only [State.hv, h1, h2, h3, h4, h6, e]

/-- ids that were not allocated become allocated and get fresh halves, `rel d` slots of direction `d` are released;
    the sending half of `xs` and the receiving half of `xr` are excepted -/
structure Grow (xs xr : Option Nat) (rel : Dir → Nat) (v v' : HV) : Prop where
  side : v'.side = v.side
  next : ∀ d, v.next.get d ≤ v'.next.get d
  maxR : ∀ d, v.maxRemote.get d ≤ v'.maxRemote.get d
  cnt : ∀ d, v'.maxRemote.get d + v.alloc.get d = v.maxRemote.get d + v'.alloc.get d + rel d
  sh : ∀ id, xs ≠ some id →
    v'.sh id = v.sh id ∨ (v.sh id = .gone ∧ ¬ v.allocd id ∧ v'.allocd id ∧ v'.sh id = .ready none ∧
      (sidDir id = .bi ∨ sidInitiator id = v.side))
  rp : ∀ id, xr ≠ some id →
    v'.rp id = v.rp id ∨ (v.rp id = false ∧ ¬ v.allocd id ∧ v'.allocd id ∧ v'.rp id = true)

def rel0 : Dir → Nat := fun _ => 0
def rel1 (d0 : Dir) : Dir → Nat := fun d => if d = d0 then 1 else 0

theorem Grow.refl (v : HV) : Grow none none rel0 v v :=
  ⟨rfl, fun _ => Nat.le_refl _, fun _ => Nat.le_refl _, fun _ => rfl, fun _ _ => Or.inl rfl,
   fun _ _ => Or.inl rfl⟩

theorem Grow.of_eq {v v' : HV} (h : v' = v) : Grow none none rel0 v v' := h ▸ Grow.refl v

theorem Grow.allocd {xs xr rel} {v v' : HV} (g : Grow xs xr rel v v') {id : Nat} (h : v.allocd id) :
    v'.allocd id := by
  unfold HV.allocd at h ⊢
  rw [g.side]
  split
  · rw [if_pos ‹_›] at h; exact Nat.lt_of_lt_of_le h (g.next _)
  · rw [if_neg ‹_›] at h; exact Nat.lt_of_lt_of_le h (g.maxR _)

theorem Grow.same_of_allocd {xs xr rel} {v v' : HV} (g : Grow xs xr rel v v') {id : Nat} (ha : v.allocd id) :
    (xs ≠ some id → v'.sh id = v.sh id) ∧ (xr ≠ some id → v'.rp id = v.rp id) :=
  ⟨fun hx => (g.sh id hx).elim (fun e => e) fun h => absurd ha h.2.1,
   fun hx => (g.rp id hx).elim (fun e => e) fun h => absurd ha h.2.1⟩

theorem Grow.weaken {xs xr rel} {v v' : HV} (g : Grow none none rel v v') : Grow xs xr rel v v' :=
  ⟨g.side, g.next, g.maxR, g.cnt, fun id _ => g.sh id nofun, fun id _ => g.rp id nofun⟩

theorem Grow.trans {xs xr r1 r2 r3} {a b c : HV} (h1 : Grow xs xr r1 a b) (h2 : Grow xs xr r2 b c)
    (hr : ∀ d, r3 d = r1 d + r2 d) : Grow xs xr r3 a c := by
  refine ⟨h2.side.trans h1.side, fun d => Nat.le_trans (h1.next d) (h2.next d),
    fun d => Nat.le_trans (h1.maxR d) (h2.maxR d), fun d => ?_, fun id hx => ?_, fun id hx => ?_⟩
  · have := h1.cnt d; have := h2.cnt d; have := hr d; omega
  · rcases h2.sh id hx with e2 | ⟨g2, n2, a2, r2, u2⟩
    · rcases h1.sh id hx with e1 | ⟨g1, n1, a1, r1, u1⟩
      · exact Or.inl (e2.trans e1)
      · exact Or.inr ⟨g1, n1, h2.allocd a1, e2.trans r1, u1⟩
    · rcases h1.sh id hx with e1 | ⟨g1, n1, a1, r1, u1⟩
      · exact Or.inr ⟨e1 ▸ g2, fun h => n2 (h1.allocd h), a2, r2, h1.side ▸ u2⟩
      · rw [r1] at g2; contradiction
  · rcases h2.rp id hx with e2 | ⟨g2, n2, a2, r2⟩
    · rcases h1.rp id hx with e1 | ⟨g1, n1, a1, r1⟩
      · exact Or.inl (e2.trans e1)
      · exact Or.inr ⟨g1, n1, h2.allocd a1, e2.trans r1⟩
    · rcases h1.rp id hx with e1 | ⟨g1, n1, a1, r1⟩
      · exact Or.inr ⟨e1 ▸ g2, fun h => n2 (h1.allocd h), a2, r2⟩
      · rw [r1] at g2; contradiction

def G (s s' : State) : Prop := Grow none none rel0 s.hv s'.hv

theorem G.after {a b c : State} (h2 : G b c) (h1 : G a b) : G a c := Grow.trans h1 h2 (fun _ => rfl)

/-- the events C11 speaks about: all but Writable / Available -/
def loud : Event → Bool
  | .writable _ | .available _ => false
  | _ => true

structure View where
  ev : List Event
  opened : Two Bool
  hv : HV

def State.view (s : State) : View := ⟨s.events.filter loud, s.opened, s.hv⟩

def State.viewScalars (s : State) : List Event × Two Bool × Side × Two Nat × Two Nat × Two Nat :=
  (s.events, s.opened, s.side, s.next, s.maxRemote, s.allocatedRemoteCount)

theorem view_of_hv {s s' : State} (h0 : s'.events.filter loud = s.events.filter loud)
    (h00 : s'.opened = s.opened) (h : s'.hv = s.hv) : s'.view = s.view := by
  simp only [State.view, h0, h00, h]

theorem filter_loud_quiet (l : List Event) {e : Event} (h : loud e = false) : (l ++ [e]).filter loud = l.filter loud := by
  simp [List.filter_append, h]

theorem absSend_of_set {s s' : State} {id : Nat} {v : Option Send} (h5 : s'.send = s.send.set id v)
    (hid : absSend s' id = absSend s id) : absSend s' = absSend s := by
  funext k
  by_cases hk : k = id
  · subst hk; exact hid
  · unfold absSend; rw [h5, Map.find?_set_ne _ _ _ _ hk]

theorem view_of_scalars {s s' : State} (hs : s'.viewScalars = s.viewScalars) (e : absSend s' = absSend s)
    (e2 : ∀ k, s'.recv.contains k = s.recv.contains k) : s'.view = s.view := by
  simp only [State.viewScalars, Prod.mk.injEq] at hs
  obtain ⟨h0, h00, h1, h2, h3, h4⟩ := hs
  simp only [State.view, State.hv, h0, h00, h1, h2, h3, h4, e, e2]

theorem view_setSend {s s' : State} {id : Nat} {x x' : Send} (hx : s.send.find? id = some (some x))
    (h5 : s'.send = s.send.set id (some x')) (h6 : s'.recv = s.recv) (hs : s'.viewScalars = s.viewScalars)
    (hc : SendHalf.ofSend x' = SendHalf.ofSend x) : s'.view = s.view :=
  view_of_scalars hs (absSend_of_set h5 (by unfold absSend; rw [h5, Map.find?_set_self _ _ _ _ hx, hx]; exact hc))
    fun _ => by rw [h6]

theorem view_setRecv {s s' : State} {id : Nat} {r : Option Recv} (h6 : s'.recv = s.recv.set id r)
    (h5 : s'.send = s.send) (hs : s'.viewScalars = s.viewScalars) : s'.view = s.view :=
  view_of_scalars hs (by funext id; simp only [absSend, h5]) fun k => by rw [h6, Map.contains_set]

theorem view_getOrInsertSend {s s' : State} {id : Nat} {x : Send}
    (h : s.getOrInsertSend id = some (x, s')) : s'.view = s.view := by
  rcases getOrInsertSend_eq h with ⟨_, rfl⟩ | ⟨hf, rfl, rfl⟩
  · rfl
  · -- a permitted but untouched stream already counts as a fresh `Ready` half
    exact view_of_scalars rfl
      (absSend_of_set rfl (by simp only [absSend, Map.find?_set_self _ _ _ _ hf, hf]; rfl)) fun _ => rfl

theorem view_getPutSend {s s1 s' : State} {id : Nat} {x x' : Send} (hg : s.getOrInsertSend id = some (x, s1))
    (h5 : s'.send = s1.send.set id (some x')) (h6 : s'.recv = s1.recv) (hs : s'.viewScalars = s1.viewScalars)
    (hc : SendHalf.ofSend x' = SendHalf.ofSend x) : s'.view = s.view :=
  (view_setSend (getOrInsertSend_spec hg).slot h5 h6 hs hc).trans (view_getOrInsertSend hg)

theorem view_getOrInsertRecv {s s' : State} {id : Nat} {r : Recv}
    (h : s.getOrInsertRecv id = some (r, s')) : s'.view = s.view := by
  revert h
  fun_cases State.getOrInsertRecv s id <;> intro h
  · contradiction
  · cases h; rfl
  · obtain ⟨_, rfl⟩ := Prod.mk.inj (Option.some.inj h); exact view_setRecv rfl rfl rfl

theorem view_putRecv (s : State) (id : Nat) (r : Recv) : (s.putRecv id r).view = s.view :=
  view_setRecv rfl rfl rfl

theorem view_applyCredits (s : State) (c : Nat) : (s.applyCredits c).view = s.view :=
  ite_keeps State.view rfl rfl

theorem view_addReadCredits {s s' : State} {c : Nat} {t : Bool}
    (h : s.addReadCredits c = some (s', t)) : s'.view = s.view := by
  rw [addReadCredits_eq h]; exact view_applyCredits s c

theorem view_creditAndQueue {s s' : State} {c : Nat} {t : Bool}
    (h : s.creditAndQueue c = some (s', t)) : s'.view = s.view := by
  obtain ⟨_, _, _, rfl⟩ := creditAndQueue_eq h; rfl

theorem view_queueMaxStreamId {s s' : State} {b : Bool} (h : s.queueMaxStreamId = some (s', b)) :
    s'.view = s.view := by
  rw [queueMaxStreamId_only h]; rfl

theorem view_queueMaxIf {s s' : State} {c : Bool} (h : s.queueMaxIf c = some s') : s'.view = s.view := by
  rcases queueMaxIf_cases h with ⟨_, rfl⟩ | ⟨_, b, hq⟩
  · rfl
  · exact view_queueMaxStreamId hq

theorem view_queueStopSending (s : State) (c : Bool) (id code : Nat) :
    (s.queueStopSending c id code).view = s.view :=
  ite_keeps State.view rfl rfl

theorem Send.write_half {x x' : Send} {n l k : Nat} (h : x.write n l = some (.ok (k, x'))) :
    SendHalf.ofSend x' = SendHalf.ofSend x := by
  rw [(Send.write_ok h).2.2]; rfl

theorem Send.Same.half {x x' : Send} (h : x.Same x') : SendHalf.ofSend x' = SendHalf.ofSend x := by
  unfold SendHalf.ofSend; rw [h.state, h.stop]

theorem Shuffle.view {s s' : State} (t : Shuffle s s') : s'.view = s.view := by
  refine view_of_scalars (by rw [t.rest]; rfl) (funext fun k => ?_) fun k => by rw [t.rest]
  rcases t.send k with h | ⟨x, x', h, h', c⟩
  · simp only [absSend, h]
  · simp only [absSend, h, h', c.half]

/-- the application's calls that leave the half in its class -/
theorem Touch.view {R : Send → Send → Prop} {s s' : State} {id : Nat} (t : Touch R s s' id)
    (h : ∀ x x', R x x' → SendHalf.ofSend x' = SendHalf.ofSend x) : s'.view = s.view := by
  rcases t with rfl | ⟨x, s1, hg, rfl | ⟨x', r, e⟩⟩
  · rfl
  · exact view_getOrInsertSend hg
  · exact view_getPutSend hg (by rw [e]) (by rw [e]) (by rw [e]; rfl) (h x x' r)

theorem view_write {s s' : State} {id n : Nat} {r : Except WriteErr Nat} (h : s.write id n = some (s', r)) :
    s'.view = s.view := by
  cases r with
  | error e => exact (touch_write_err h).view fun _ _ e => e ▸ rfl
  | ok k =>
    obtain ⟨x, s1, x', l, _, _, hg, hw, e⟩ := write_ok_put h
    exact view_getPutSend hg (by rw [e]) (by rw [e]) (by rw [e]; rfl) (Send.write_half hw)

theorem view_pollBlockedIf {s s' : State} {c : Bool} {e : Option Event} (h : s.pollBlockedIf c = some (s', e)) :
    s'.view = s.view ∧ ∀ ev, e = some ev → loud ev = false := by
  revert h
  fun_cases State.pollBlockedIf s c <;> intro h
  · obtain ⟨t, he, _⟩ := shuffle_pollBlocked _ h
    exact ⟨t.view, fun ev hev => by obtain ⟨_, rfl⟩ := he ev hev; rfl⟩
  · cases h; exact ⟨rfl, nofun⟩

theorem view_accept (s : State) (d : Dir) : (s.accept d).1.view = s.view :=
  ite_keeps (fun p : State × _ => p.1.view) rfl (ite_keeps State.view rfl rfl)

theorem view_afterUnblock {s : State} {id : Nat} {x : Send} (hx : s.send.find? id = some (some x))
    (b : Bool) (wl : Nat) : (s.afterUnblock b id x wl).view = s.view :=
  ite_keeps State.view (ite_keeps State.view (view_of_hv (filter_loud_quiet _ rfl) rfl rfl)
    (ite_keeps State.view (view_setSend hx rfl rfl rfl rfl) rfl)) rfl

theorem view_receivedMaxStreams (s : State) (d : Dir) (n : Nat) : (s.receivedMaxStreams d n).1.view = s.view :=
  ite_keeps (fun p : State × _ => p.1.view) rfl
    (ite_keeps (fun p : State × _ => p.1.view) (view_of_hv (filter_loud_quiet _ rfl) rfl rfl) rfl)

theorem absSend_setParamsLoop (side : Side) (v n i : Nat) (s : State) (k : Nat) :
    absSend { s with send := setParamsLoop side v s.send n i } k = absSend s k := by
  rcases setParamsLoop_send side v n s.send i k with e | ⟨x, hx, e, _⟩
  · simp only [absSend, e]
  · simp only [absSend, e, hx]; rfl

theorem view_setParams (s : State) (p : Params) : (s.setParams p).view = s.view := by
  have e : absSend (s.setParams p) = absSend s := by
    funext k
    exact absSend_setParamsLoop _ _ _ _ _ k
  show View.mk _ _ (HV.mk _ _ _ _ _ _) = View.mk _ _ (HV.mk _ _ _ _ _ _)
  rw [e]; rfl

theorem view_setReceiveWindow (s : State) (n : Nat) : (s.setReceiveWindow n).1.view = s.view :=
  ite_keeps (fun p : State × _ => p.1.view) rfl rfl

theorem view_ctrlMsd (l : List Nat) {s s' : State} {acc fs : List CtrlFrame}
    (h : s.ctrlMsd l acc = some (s', fs)) : s'.view = s.view := by
  revert h
  fun_induction State.ctrlMsd s l acc <;> intro h
  · cases h; rfl
  · rename_i ih; exact ih h
  · cases h
  · rename_i ih; exact (ih h).trans (view_putRecv _ _ _)
  · cases h
  · rename_i ih; exact ih h

theorem view_ctrlMaxData (s : State) : s.ctrlMaxData.1.view = s.view :=
  ite_keeps (fun p : State × _ => p.1.view) rfl rfl

theorem view_ctrlMaxStreams (s : State) (d : Dir) : (s.ctrlMaxStreams d).1.view = s.view :=
  ite_keeps (fun p : State × _ => p.1.view) rfl rfl

theorem view_ctrlStreamsBlocked (s : State) (d : Dir) : (s.ctrlStreamsBlocked d).1.view = s.view := by
  have e : (s.ctrlMoveBlocked d).view = s.view := ite_keeps State.view rfl rfl
  exact ite_keeps (fun p : State × _ => p.1.view) e e

theorem view_writeControlFrames {s s' : State} {fs : List CtrlFrame}
    (h : s.writeControlFrames = some (s', fs)) : s'.view = s.view := by
  unfold State.writeControlFrames at h
  dsimp only at h
  split at h
  · contradiction
  · simp only [Option.some.injEq, Prod.mk.injEq] at h
    rw [← h.1]
    have f := view_ctrlMsd _ ‹State.ctrlMsd _ _ _ = some _›
    refine (view_ctrlStreamsBlocked _ _).trans ((view_ctrlStreamsBlocked _ _).trans
      ((view_ctrlMaxStreams _ _).trans ((view_ctrlMaxStreams _ _).trans (f.trans ?_))))
    exact view_ctrlMaxData _

structure ViewGrow (xs xr : Option Nat) (rel : Dir → Nat) (v v' : View) : Prop where
  ev : v'.ev = v.ev
  opened : v'.opened = v.opened
  hv : Grow xs xr rel v.hv v'.hv

theorem ViewGrow.refl (v : View) : ViewGrow none none rel0 v v := ⟨rfl, rfl, Grow.refl _⟩
theorem ViewGrow.of_eq {v v' : View} (h : v' = v) : ViewGrow none none rel0 v v' := h ▸ ViewGrow.refl v

theorem ne_of_ne_some {k id : Nat} (h : some id ≠ some k) : k ≠ id := fun e => h (e ▸ rfl)

theorem viewGrow_set {s s' : State} {id : Nat} {v : Option Send} (h5 : s'.send = s.send.set id v)
    (h6 : s'.recv = s.recv) (hs : s'.viewScalars = s.viewScalars) : ViewGrow (some id) none rel0 s.view s'.view := by
  simp only [State.viewScalars, Prod.mk.injEq] at hs
  obtain ⟨h0, h00, h1, h2, h3, h4⟩ := hs
  refine ⟨by simp only [State.view, h0], h00, ?_⟩
  show Grow _ _ _ s.hv s'.hv
  refine ⟨h1, fun d => by simp only [State.hv, h2]; exact Nat.le_refl _,
    fun d => by simp only [State.hv, h3]; exact Nat.le_refl _,
    fun d => by simp only [State.hv, h3, h4, rel0]; omega, fun k hk => Or.inl ?_, fun k _ => Or.inl ?_⟩
  · simp only [State.hv, absSend, h5, Map.find?_set_ne _ _ _ _ (ne_of_ne_some hk)]
  · simp only [State.hv, h6]

/-- fresh `Ready` sending halves, present receiving halves -/
theorem Alloc.halves {N : Nat → Prop} {b : Prop} {s s' : State} (a : Alloc N b s s') (k : Nat) :
    (absSend s' k = absSend s k ∨ (N k ∧ b ∧ absSend s k = .gone ∧ absSend s' k = .ready none)) ∧
    (s'.recv.contains k = s.recv.contains k ∨ (N k ∧ s.recv.contains k = false ∧ s'.recv.contains k = true)) := by
  constructor
  · rcases a.send k with e | ⟨n, hb, g, r⟩
    · exact .inl (by simp only [absSend, e])
    · exact .inr ⟨n, hb, by simp only [absSend, g], by simp only [absSend, r]⟩
  · rcases a.recv k with e | ⟨n, g, r⟩
    · exact .inl (by simp only [Map.contains, e])
    · exact .inr ⟨n, by simp only [Map.contains, g]; rfl, by simp only [Map.contains, r]; rfl⟩

/-- the ids in `N` get halves (`hh`, from `Alloc.halves`) while the counters move to cover them -/
theorem viewGrow_of_fresh {s t : State} {N : Nat → Prop} {b : Prop} (he : t.events = s.events)
    (ho : t.opened = s.opened) (hs : t.side = s.side) (hn : ∀ d, s.next.get d ≤ t.next.get d)
    (hm : ∀ d, s.maxRemote.get d ≤ t.maxRemote.get d)
    (hc : ∀ d, t.maxRemote.get d + s.allocatedRemoteCount.get d = s.maxRemote.get d + t.allocatedRemoteCount.get d)
    (hh : ∀ k, (absSend t k = absSend s k ∨ (N k ∧ b ∧ absSend s k = .gone ∧ absSend t k = .ready none)) ∧
      (t.recv.contains k = s.recv.contains k ∨ (N k ∧ s.recv.contains k = false ∧ t.recv.contains k = true)))
    (hb : ∀ k, N k → b → sidDir k = .bi ∨ sidInitiator k = s.side)
    (fresh : ∀ k, N k → ¬ s.hv.allocd k ∧ t.hv.allocd k) : ViewGrow none none rel0 s.view t.view :=
  ⟨congrArg (List.filter loud) he, ho, hs, hn, hm, hc,
    fun k _ => (hh k).1.imp_right fun ⟨p, c, g, r⟩ => ⟨g, (fresh k p).1, (fresh k p).2, r, hb k p c⟩,
    fun k _ => (hh k).2.imp_right fun ⟨p, g, r⟩ => ⟨g, (fresh k p).1, (fresh k p).2, r⟩⟩

theorem sidNew_remote (side : Side) (d : Dir) (i : Nat) : sidInitiator (sidNew side.not d i) ≠ side := by
  rw [sidInitiator_sidNew]; cases side <;> simp [Side.not]

theorem viewGrow_ensureRemoteStreams {s s' : State} {d : Dir} (h : s.ensureRemoteStreams d = some s') :
    ViewGrow none none rel0 s.view s'.view := by
  obtain ⟨n, s1, rfl, h1, rfl⟩ := ensureRemoteStreams_inv h
  have hh := (alloc_insertRemoteRange _ h1).halves
  -- with `s1` written as `s` with other maps, what the view reads of the scalars is there by `rfl`
  obtain ⟨snd, rcv, rfl⟩ : ∃ snd rcv, s1 = { s with send := snd, recv := rcv } :=
    ⟨_, _, (alloc_insertRemoteRange _ h1).rest⟩
  refine viewGrow_of_fresh rfl rfl rfl (fun _ => Nat.le_refl _) (fun d' => ?_) (fun d' => ?_) hh
    (fun k ⟨j, _, _, hk⟩ hd => .inl (by rw [hk, sidDir_sidNew]; exact hd)) ?_
  · simp only [Two.get_set]
    split
    · subst_vars; omega
    · exact Nat.le_refl _
  · simp only [Two.get_set]
    split
    · subst_vars; omega
    · rfl
  · rintro k ⟨j, _, hj, rfl⟩
    simp only [HV.allocd, State.hv, sidNew_remote, ↓reduceIte, sidDir_sidNew, sidIndex_sidNew, Two.get_set]
    omega

theorem viewGrow_setMaxConcurrent {s s' : State} {d : Dir} {n : Nat} (h : s.setMaxConcurrent d n = some s') :
    ViewGrow none none rel0 s.view s'.view := by
  unfold State.setMaxConcurrent at h
  have g := viewGrow_ensureRemoteStreams h
  exact ⟨g.ev, g.opened, g.hv⟩

theorem viewGrow_open {s s' : State} {d : Dir} {r : Option Nat} (h : s.open_ d = some (s', r)) :
    ViewGrow none none rel0 s.view s'.view := by
  rcases open_cases h with ⟨_, rfl, _⟩ | ⟨_, _, _, rfl⟩ | ⟨_, _, _, s2, hins, rfl⟩
  · exact ViewGrow.refl _
  · exact ViewGrow.refl _
  · have hh := (alloc_insert hins).halves
    obtain ⟨snd, rcv, rfl⟩ : ∃ snd rcv, s2 = { s with next := _, send := snd, recv := rcv } :=
      ⟨_, _, (alloc_insert hins).rest⟩
    have hloc : sidInitiator (sidNew s.side d (s.next.get d)) = s.side := sidInitiator_sidNew _ _ _
    refine viewGrow_of_fresh rfl rfl rfl (fun d' => ?_) (fun _ => Nat.le_refl _) (fun _ => rfl) hh
      (fun k hk _ => .inr (hk ▸ hloc)) ?_
    · simp only [Two.get_set]; split
      · subst_vars; omega
      · exact Nat.le_refl _
    · rintro k rfl
      simp only [HV.allocd, State.hv, hloc, ↓reduceIte, sidDir_sidNew, sidIndex_sidNew, Two.get_set]
      omega

def isFinStop : Event → Bool
  | .finished _ | .stopped _ _ => true
  | _ => false

def State.fsw (s : State) : List Event := s.events.filter isFinStop

theorem fsw_of_events {s s' : State} (h : s'.events = s.events) : s'.fsw = s.fsw := by
  simp only [State.fsw, h]

theorem fsw_setParams (s : State) (p : Params) : (s.setParams p).fsw = s.fsw := rfl

theorem filter_finStop_loud (l : List Event) : (l.filter loud).filter isFinStop = l.filter isFinStop := by
  have : (fun e => isFinStop e && loud e) = isFinStop := by funext e; cases e <;> rfl
  rw [List.filter_filter, this]

theorem fsw_view (s : State) : s.fsw = s.view.ev.filter isFinStop := (filter_finStop_loud _).symm

def isRd : Event → Bool
  | .readable _ | .opened _ => true
  | _ => false

/-- the queued Readable events (and Opened ones: there never are any) and the `opened` flags -/
def State.uw (s : State) : List Event × Two Bool := (s.events.filter isRd, s.opened)

theorem uw_of_events {s s' : State} (h : s'.events = s.events) (h2 : s'.opened = s.opened) : s'.uw = s.uw := by
  simp only [State.uw, h, h2]

theorem uw_setParams (s : State) (p : Params) : (s.setParams p).uw = s.uw := rfl

end QM.Streams
