import QuinnModel.Lemmas.StreamsBasic
/-
What the helpers of the stream-layer model do, whatever the property.  A helper that sets a few fields is described
once, as a record update (`getOrInsertRecv_eq`, `creditAndQueue_eq`, `finalizeReadable_eq`, `queueMaxStreamId_only`):
any view a later file cares about is then unchanged by `rfl`.  Three shapes of change are shared by all sides, each
with the record equation for the fields it leaves alone: `Alloc` (stream ids are allocated), `Shuffle` (the transmit,
poll and retransmit loops), `Touch` (the application's calls on one sending half).
-/
namespace QM.Streams

/-- `s'` is `s` with uninstantiated halves added for ids in `N` that had none (sending halves only if `snd`):
    all that the allocation of stream ids does -/
structure Alloc (N : Nat → Prop) (snd : Prop) (s s' : State) : Prop where
  rest : s' = { s with send := s'.send, recv := s'.recv }
  send : ∀ k, s'.send.find? k = s.send.find? k ∨ (N k ∧ snd ∧ s.send.find? k = none ∧ s'.send.find? k = some none)
  recv : ∀ k, s'.recv.find? k = s.recv.find? k ∨ (N k ∧ s.recv.find? k = none ∧ s'.recv.find? k = some none)

theorem Alloc.refl (N : Nat → Prop) (snd : Prop) (s : State) : Alloc N snd s s :=
  ⟨rfl, fun _ => .inl rfl, fun _ => .inl rfl⟩

theorem Alloc.mono {N M : Nat → Prop} {snd b : Prop} {s s' : State} (a : Alloc N snd s s') (h : ∀ k, N k → M k)
    (hs : snd → b) : Alloc M b s s' :=
  ⟨a.rest, fun k => (a.send k).imp_right fun ⟨n, c, g, r⟩ => ⟨h k n, hs c, g, r⟩,
    fun k => (a.recv k).imp_right fun ⟨n, g, r⟩ => ⟨h k n, g, r⟩⟩

/-- one allocation, then another -/
theorem Alloc.trans {N N' : Nat → Prop} {snd snd' : Prop} {s s1 s' : State} (a1 : Alloc N snd s s1)
    (a2 : Alloc N' snd' s1 s') {M : Nat → Prop} {b : Prop} (h1 : ∀ k, N k → M k) (h2 : ∀ k, N' k → M k)
    (hs : snd → b) (hs' : snd' → b) : Alloc M b s s' := by
  refine ⟨a2.rest.trans (by rw [a1.rest]), fun k => ?_, fun k => ?_⟩
  · rcases a2.send k with e2 | ⟨n2, b2, g2, r2⟩
    · rcases a1.send k with e1 | ⟨n1, b1, g1, r1⟩
      · exact .inl (e2.trans e1)
      · exact .inr ⟨h1 k n1, hs b1, g1, e2.trans r1⟩
    · rcases a1.send k with e1 | ⟨_, _, _, r1⟩
      · exact .inr ⟨h2 k n2, hs' b2, e1 ▸ g2, r2⟩
      · rw [r1] at g2; cases g2
  · rcases a2.recv k with e2 | ⟨n2, g2, r2⟩
    · rcases a1.recv k with e1 | ⟨n1, g1, r1⟩
      · exact .inl (e2.trans e1)
      · exact .inr ⟨h1 k n1, g1, e2.trans r1⟩
    · rcases a1.recv k with e1 | ⟨_, _, r1⟩
      · exact .inr ⟨h2 k n2, e1 ▸ g2, r2⟩
      · rw [r1] at g2; cases g2

theorem find?_mapInsertIf {α} {c : Bool} {m m' : Map (Option α)} {id : Nat}
    (h : mapInsertIf c m id = some m') (k : Nat) :
    m'.find? k = m.find? k ∨ (k = id ∧ m.find? k = none ∧ m'.find? k = some none ∧ c = true) := by
  unfold mapInsertIf at h
  split at h
  · obtain ⟨ha, hf⟩ := Map.insertNew_some h
    replace hf := hf k
    by_cases hk : id = k
    · subst hk; rw [if_pos rfl] at hf; exact Or.inr ⟨rfl, ha, hf, ‹_›⟩
    · rw [if_neg hk] at hf; exact Or.inl hf
  · simp only [Option.some.injEq] at h; subst h; exact Or.inl rfl

theorem alloc_insert {s s' : State} {r : Bool} {id : Nat} (h : s.insert r id = some s') :
    Alloc (· = id) ((sidDir id == .bi || !r) = true) s s' := by
  revert h
  fun_cases State.insert s r id <;> intro h
  case case3 hs _ hr =>
    cases h
    exact ⟨rfl, fun k => (find?_mapInsertIf hs k).imp_right fun ⟨a, b, c, d⟩ => ⟨a, d, b, c⟩,
      fun k => (find?_mapInsertIf hr k).imp_right fun ⟨a, b, c, _⟩ => ⟨a, b, c⟩⟩
  all_goals contradiction

theorem alloc_insertRemoteRange (n : Nat) {s s' : State} {d : Dir} {st i : Nat}
    (h : s.insertRemoteRange d st n i = some s') :
    Alloc (fun k => ∃ j, i ≤ j ∧ j < i + n ∧ k = sidNew s.side.not d (st + j)) (d = .bi) s s' := by
  revert h
  fun_induction State.insertRemoteRange s d st n i <;> intro h
  case case1 => cases h; exact .refl _ _ _
  case case2 => contradiction
  case case3 s n i s1 h1 ih =>
    have a1 := alloc_insert h1
    have hside : s1.side = s.side := by rw [a1.rest]
    refine a1.trans (ih h) (fun k hk => ⟨i, Nat.le_refl _, by omega, hk⟩)
      (fun k ⟨j, h1, h2, h3⟩ => ⟨j, by omega, by omega, hside ▸ h3⟩) (fun hb => ?_) id
    simpa [sidDir_sidNew] using hb

/-- `StreamsState::new` before the streams of the peer are allocated -/
def State.bare (c : Config) : State :=
  { side := c.side, maxRemote := ⟨c.maxRemoteBi, c.maxRemoteUni⟩, sentMaxRemote := ⟨c.maxRemoteBi, c.maxRemoteUni⟩,
    allocatedRemoteCount := ⟨c.maxRemoteBi, c.maxRemoteUni⟩,
    maxConcurrentRemoteCount := ⟨c.maxRemoteBi, c.maxRemoteUni⟩, receiveWindow := c.receiveWindow,
    localMaxData := c.receiveWindow, sentMaxData := c.receiveWindow, sendWindow := c.sendWindow,
    streamReceiveWindow := c.streamReceiveWindow }

/-- a new state is the bare one with, first, both halves of the peer's bidirectional streams allocated and then the
    receiving halves of its unidirectional ones -/
theorem alloc_new {c : Config} {s0 : State} (h : State.new c = some s0) : ∃ s1,
    Alloc (fun k => ∃ j, j < c.maxRemoteBi ∧ k = sidNew c.side.not .bi j) True (State.bare c) s1 ∧
    Alloc (fun k => ∃ j, j < c.maxRemoteUni ∧ k = sidNew c.side.not .uni j) False s1 s0 := by
  revert h
  fun_cases State.new c <;> intro h
  · contradiction
  next s1 h1 =>
  have a1 := alloc_insertRemoteRange _ h1
  have e1 : s1 = { State.bare c with send := s1.send, recv := s1.recv } := a1.rest
  refine ⟨s1, a1.mono (fun k ⟨j, _, hj, hk⟩ => ⟨j, ?_, ?_⟩) fun _ => trivial,
    (alloc_insertRemoteRange _ h).mono (fun k ⟨j, _, hj, hk⟩ => ⟨j, ?_, ?_⟩) nofun⟩
  · rw [Nat.zero_add] at hj; exact hj
  · rw [Nat.zero_add] at hk; exact hk
  · rw [e1, Nat.zero_add] at hj; exact hj
  · rw [e1, Nat.zero_add] at hk; exact hk

theorem addReadCredits_eq {s s' : State} {c : Nat} {t : Bool} (h : s.addReadCredits c = some (s', t)) :
    s' = s.applyCredits c := by
  revert h
  fun_cases State.addReadCredits s c <;> intro h
  case case2 => contradiction
  all_goals obtain ⟨rfl, _⟩ := Prod.mk.inj (Option.some.inj h); rfl

theorem addReadCredits_fields {s s' : State} {c : Nat} {t : Bool} (h : s.addReadCredits c = some (s', t)) :
    ∃ a b, s' = { s with localMaxData := a, receiveWindowShrinkDebt := b } := by
  rw [addReadCredits_eq h]; unfold State.applyCredits; split <;> exact ⟨_, _, rfl⟩

theorem creditAndQueue_eq {s s' : State} {c : Nat} {t : Bool} (h : s.creditAndQueue c = some (s', t)) :
    ∃ a b m, s' = { s with localMaxData := a, receiveWindowShrinkDebt := b, rtx := { s.rtx with maxData := m } } := by
  revert h
  fun_cases State.creditAndQueue s c <;> intro h
  · contradiction
  next h1 =>
  obtain ⟨a, b, rfl⟩ := addReadCredits_fields h1
  cases h
  cases t <;> exact ⟨_, _, _, rfl⟩

theorem finalizeReadable_eq {s s' : State} {id : Nat} {rs : Recv} {fr t0 t : Bool}
    (h : s.finalizeReadable id rs fr t0 = some (s', t)) :
    ∃ m r, s' = { s with rtx := { s.rtx with maxStreamData := m }, recv := r } := by
  revert h
  fun_cases State.finalizeReadable s id rs fr t0 <;> intro h
  · cases h; exact ⟨_, _, rfl⟩
  · contradiction
  next t1 _ _ => obtain ⟨rfl, _⟩ := Prod.mk.inj (Option.some.inj h); cases t1 <;> exact ⟨_, _, rfl⟩

theorem getOrInsertRecv_eq {s s' : State} {id : Nat} {r : Recv} (h : s.getOrInsertRecv id = some (r, s')) :
    ∃ m, s' = { s with recv := m } := by
  revert h
  fun_cases State.getOrInsertRecv s id <;> intro h
  · contradiction
  all_goals obtain ⟨_, rfl⟩ := Prod.mk.inj (Option.some.inj h); exact ⟨_, rfl⟩

theorem queueMaxStreamId_only {s s' : State} {b : Bool} (h : s.queueMaxStreamId = some (s', b)) :
    s' = { s with rtx := s'.rtx } := by
  revert h
  -- branches: underflow for bi, underflow for uni, both flags set or not
  fun_cases State.queueMaxStreamId s <;> intro h
  case case3 s1 _ _ _ s2 =>
    obtain ⟨rfl, _⟩ := Prod.mk.inj (Option.some.inj h)
    have e1 : s1 = { s with rtx := s1.rtx } := by dsimp only [s1]; split <;> rfl
    have e2 : s2 = { s1 with rtx := s2.rtx } := by dsimp only [s2]; split <;> rfl
    exact e2.trans (congrArg (fun t : State => { t with rtx := s2.rtx }) e1)
  all_goals contradiction

theorem queueMaxIf_cases {s s' : State} {c : Bool} (h : s.queueMaxIf c = some s') :
    (c = false ∧ s' = s) ∨ (c = true ∧ ∃ b, s.queueMaxStreamId = some (s', b)) := by
  cases c
  · cases h; exact Or.inl ⟨rfl, rfl⟩
  · unfold State.queueMaxIf at h
    rw [if_pos rfl] at h
    split at h
    · contradiction
    · next b hq => cases h; exact Or.inr ⟨rfl, b, hq⟩

theorem getOrInsertSend_eq {s s' : State} {id : Nat} {x : Send} (h : s.getOrInsertSend id = some (x, s')) :
    (s.send.find? id = some (some x) ∧ s' = s) ∨
    (s.send.find? id = some none ∧ x = Send.new (s.maxSendData id) ∧
      s' = { s with send := s.send.set id (some x) }) := by
  revert h
  fun_cases State.getOrInsertSend s id <;> intro h
  · contradiction
  · cases h; exact Or.inl ⟨‹_›, rfl⟩
  · obtain ⟨rfl, rfl⟩ := Prod.mk.inj (Option.some.inj h); exact Or.inr ⟨‹_›, rfl, rfl⟩

/-- `set_params` replaces the limit of instantiated sending halves of the peer's bidirectional streams and leaves
    every other entry of the send map as it is -/
theorem setParamsLoop_send (side : Side) (v : Nat) : ∀ (n : Nat) (send : Map (Option Send)) (i k : Nat),
    (setParamsLoop side v send n i).find? k = send.find? k ∨
    ∃ x, send.find? k = some (some x) ∧ (setParamsLoop side v send n i).find? k = some (some { x with maxData := v }) ∧
      sidInitiator k = side.not ∧ sidDir k = .bi := by
  intro n
  induction n with
  | zero => intro send i k; exact .inl rfl
  | succ n ih =>
    intro send i k
    unfold setParamsLoop
    dsimp only
    split
    · rename_i snd hs
      have h1 := ih (send.set (sidNew side.not .bi i) (some { snd with maxData := v })) (i + 1) k
      by_cases hk : k = sidNew side.not .bi i
      · subst hk
        -- later iterations meet the replaced half and leave its new limit alone
        refine .inr ⟨snd, hs, ?_, sidInitiator_sidNew _ _ _, sidDir_sidNew _ _ _⟩
        rcases h1 with e | ⟨x, hx, e, _⟩
        · rw [e, Map.find?_set_self _ _ _ _ hs]
        · rw [Map.find?_set_self _ _ _ _ hs] at hx; cases hx; exact e
      · rwa [Map.find?_set_ne _ _ _ _ hk] at h1
    · exact ih _ _ _

/-- the same half up to what is queued for (re)transmission, its priority and the connection-blocked mark -/
structure Send.Same (x x' : Send) : Prop where
  maxData : x'.maxData = x.maxData
  state : x'.state = x.state
  stop : x'.stopReason = x.stopReason
  offset : x'.pending.offset = x.pending.offset

theorem Send.Same.trans {x y z : Send} (h1 : x.Same y) (h2 : y.Same z) : x.Same z :=
  ⟨h2.maxData.trans h1.maxData, h2.state.trans h1.state, h2.stop.trans h1.stop, h2.offset.trans h1.offset⟩

/-- all that the transmit, poll and retransmit loops do: the queue of pending streams and the list of
    connection-blocked streams change, instantiated sending halves are replaced by `Same` ones.  `rest` is the
    record equation for every other field: a view that reads none of the three projects by `rw [t.rest]; rfl` -/
structure Shuffle (s s' : State) : Prop where
  rest : s' = { s with send := s'.send, pending := s'.pending, connectionBlocked := s'.connectionBlocked }
  keys : s'.send.map Prod.fst = s.send.map Prod.fst
  send : ∀ k, s'.send.find? k = s.send.find? k ∨
    ∃ x x', s.send.find? k = some (some x) ∧ s'.send.find? k = some (some x') ∧ x.Same x'

namespace Shuffle
variable {s s1 s' : State}

theorem of_queues (h : s' = { s with pending := s'.pending, connectionBlocked := s'.connectionBlocked }) : Shuffle s s' :=
  ⟨by rw [h], by rw [h], fun _ => Or.inl (by rw [h])⟩

theorem refl (s : State) : Shuffle s s := of_queues rfl

theorem put {id : Nat} {x x' : Send} (hx : s.send.find? id = some (some x))
    (h : s' = { s with send := s.send.set id (some x'), pending := s'.pending,
                       connectionBlocked := s'.connectionBlocked }) (hs : x.Same x') : Shuffle s s' := by
  have e : s'.send = s.send.set id (some x') := by rw [h]
  refine ⟨by rw [h], by rw [e]; exact Map.keys_set _ _ _, fun k => ?_⟩
  rw [e]
  by_cases hk : k = id
  · subst hk; exact Or.inr ⟨x, x', hx, Map.find?_set_self _ _ _ _ hx, hs⟩
  · exact Or.inl (Map.find?_set_ne _ _ _ _ hk)

/-- the later steps first: the known step fixes the state in the middle -/
theorem after (t2 : Shuffle s1 s') (t1 : Shuffle s s1) : Shuffle s s' := by
  refine ⟨t2.rest.trans (by rw [t1.rest]), t2.keys.trans t1.keys, fun k => ?_⟩
  rcases t2.send k with h2 | ⟨x1, x2, h2, h2', c2⟩
  · rw [h2]; exact t1.send k
  · rcases t1.send k with h1 | ⟨x, x1', h1, h1', c1⟩
    · exact Or.inr ⟨x1, x2, h1 ▸ h2, h2', c2⟩
    · obtain rfl : x1' = x1 := by rw [h1'] at h2; cases h2; rfl
      exact Or.inr ⟨x, x2, h1, h2', c1.trans c2⟩

end Shuffle

/-- the application's calls on the sending half of stream `id`: `get_or_insert_send(id)`, then possibly the half `x`
    is replaced by an `x'` with `R x x'`; beside the half only queues and counters of the sender change -/
def Touch (R : Send → Send → Prop) (s s' : State) (id : Nat) : Prop :=
  s' = s ∨ ∃ x s1, s.getOrInsertSend id = some (x, s1) ∧
    (s' = s1 ∨ ∃ x', R x x' ∧
      s' = { s1 with send := s1.send.set id (some x'), pending := s'.pending,
                     connectionBlocked := s'.connectionBlocked, unackedData := s'.unackedData, rtx := s'.rtx })

end QM.Streams
