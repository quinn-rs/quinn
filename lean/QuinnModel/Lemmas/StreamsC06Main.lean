import QuinnModel.Lemmas.StreamsC06Ops
/-
C06 — reachable states with the receiver-side ghosts, and what one step does to the receiver view.
-/
namespace QM.Streams

theorem discarded_other (s : State) (o : Op) (out : Out) (hc : o.isRecvOp = false) : discarded s o out = 0 := by
  cases o <;> simp [Op.isRecvOp] at hc <;> rfl

/-- reachable states with the receiver-side ghosts: `C` = stream bytes consumed or discarded so far,
    `W` = largest connection receive window configured so far, `U` = saturating arithmetic never took
    effect -/
inductive ReachR (c : Config) : State → Nat → Nat → Prop → Prop
  | init {s0 : State} : State.new c = some s0 → ReachR c s0 0 c.receiveWindow True
  | step {s s' : State} {C W : Nat} {U : Prop} {o : Op} {out : Out} :
      ReachR c s C W U → o.isRestart = false → step s o = some (s', out) →
      ReachR c s' (C + discarded s o out)
        (Nat.max W (match o with | .recvWindow n => n | _ => 0)) (U ∧ Unsat s')

theorem new_rvw {c : Config} {s0 : State} (h : State.new c = some s0) :
    s0.rvw = ⟨⟨0, c.receiveWindow, c.receiveWindow, 0, c.streamReceiveWindow⟩, fun _ => none⟩ := by
  obtain ⟨s1, a1, a2⟩ := alloc_new h
  exact a2.rvw.1.trans a1.rvw.1

/-- every step acts on the receiving halves and credits what `discarded` says, or sets the window -/
theorem step_acts {s s' : State} {o : Op} {out : Out} (h : step s o = some (s', out)) (hr : o.isRestart = false) :
    (∃ id, Acts s s' id (discarded s o out)) ∨ (∃ n, o = .recvWindow n ∧ s' = (s.setReceiveWindow n).1) := by
  cases Steps.of_step h with
  | stream h1 => exact .inl ⟨_, received_acts h1⟩
  | rst h1 => exact .inl ⟨_, receivedReset_acts h1⟩
  | @read _ _ _ r h1 => have a := read_acts h1; exact .inl ⟨_, by cases r <;> exact a⟩
  | stop h1 => exact .inl ⟨_, stop_acts h1⟩
  | recvReset h1 => exact .inl ⟨_, recvReceivedReset_acts h1⟩
  | recvWindow n => exact .inr ⟨n, rfl, rfl⟩
  | ctrl h1 => exact .inl ⟨0, (writeControlFrames_still h1).acts 0⟩
  | _ => exact .inl ⟨0, ((quiet_step h rfl hr).acts 0).cast (discarded_other s _ _ rfl).symm⟩

end QM.Streams
