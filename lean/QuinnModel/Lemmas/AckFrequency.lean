import QuinnModel.Conn.AckFrequency
/-
Proofs about the AckFrequencyState model: `candidate_max_ack_delay` never panics (DESIGN §7 F1, fixed in quinn: the
upper clamp bound is at least the lower one), totality and decision of `ack_frequency_received`, no panic over
arbitrary event sequences.
-/
namespace QM.AckFrequency
open QM

theorem clamp_none_iff (x lo hi : Nat) : clamp x lo hi = none ↔ lo > hi := by
  unfold clamp; split <;> simp [*]

theorem clamp_value (x lo hi : Nat) (h : lo ≤ hi) : clamp x lo hi = some (min (max x lo) hi) := by
  unfold clamp
  rw [if_neg (Nat.not_lt.mpr h)]
  by_cases h1 : x < lo
  · rw [if_pos h1, Nat.max_eq_right (Nat.le_of_lt h1), Nat.min_eq_left h]
  · rw [if_neg h1, Nat.max_eq_left (Nat.not_lt.mp h1)]
    by_cases h2 : x > hi
    · rw [if_pos h2, Nat.min_eq_right (Nat.le_of_lt h2)]
    · rw [if_neg h2, Nat.min_eq_left (Nat.not_lt.mp h2)]

theorem clamp_range (x lo hi d : Nat) (h : clamp x lo hi = some d) : lo ≤ d ∧ d ≤ hi := by
  have hle : lo ≤ hi := Nat.not_lt.mp (fun hn => by rw [(clamp_none_iff x lo hi).mpr hn] at h; cases h)
  rw [clamp_value x lo hi hle] at h
  cases h
  exact ⟨Nat.le_min.mpr ⟨Nat.le_max_right _ _, hle⟩, Nat.min_le_right _ _⟩

theorem candidate_value (s : State) (rtt : Nat) (cfg peerMin : Option Nat) :
    candidateMaxAckDelay s rtt cfg peerMin =
      some (min (max (match cfg with | some d => d | none => s.peerMaxAckDelay) (minAckDelayNs peerMin))
        (Gen.candidateUpper rtt (minAckDelayNs peerMin))) :=
  clamp_value _ _ _ (Nat.le_max_right _ _)

theorem candidate_some (s : State) (rtt : Nat) (cfg peerMin : Option Nat) :
    ∃ d, candidateMaxAckDelay s rtt cfg peerMin = some d ∧
      minAckDelayNs peerMin ≤ d ∧ d ≤ Gen.candidateUpper rtt (minAckDelayNs peerMin) :=
  ⟨_, candidate_value s rtt cfg peerMin, clamp_range _ _ _ _ (candidate_value s rtt cfg peerMin)⟩

theorem shouldSend_some (fdec : Nat → Nat → Bool) (s : State) (rtt : Nat) (cfg peerMin : Option Nat) :
    ∃ b, shouldSendAckFrequency fdec s rtt cfg peerMin = some b := by
  unfold shouldSendAckFrequency
  by_cases h0 : s.nextSeq = 0
  · exact ⟨true, by simp [h0]⟩
  · obtain ⟨d, hd, _⟩ := candidate_some s rtt cfg peerMin
    simp only [h0, if_false, hd]
    exact ⟨_, rfl⟩

theorem recv_eq (s : State) (thr : Nat × Nat) (seq aet req reord : Nat) :
    ackFrequencyReceived s thr seq aet req reord =
      if (∃ h, s.lastFrame = some h ∧ seq ≤ h) then (s, thr, .ok false)
      else if req * 1000 < Gen.timerGranularityNs then
        ({ s with lastFrame := some seq }, thr, .err Gen.ackFreqTooSmallCode)
      else ({ s with lastFrame := some seq, maxAckDelay := req * 1000 }, (aet, reord), .ok true) := by
  unfold ackFrequencyReceived
  cases hl : s.lastFrame with
  | none => simp
  | some h =>
    by_cases hs : seq ≤ h
    · simp [hs]
    · simp [hs]

theorem recv_nextSeq (s : State) (thr : Nat × Nat) (seq aet req reord : Nat) :
    (ackFrequencyReceived s thr seq aet req reord).1.nextSeq = s.nextSeq := by
  rw [recv_eq]
  split
  · rfl
  · split <;> rfl

theorem recv_decision (s : State) (thr : Nat × Nat) (seq aet req reord : Nat) :
    (ackFrequencyReceived s thr seq aet req reord).2.2 =
      if (∃ h, s.lastFrame = some h ∧ seq ≤ h) then .ok false
      else if req * 1000 < Gen.timerGranularityNs then .err Gen.codeProtocolViolation
      else .ok true := by
  rw [recv_eq, apply_ite (fun r : State × (Nat × Nat) × RecvOut => r.2.2),
    apply_ite (fun r : State × (Nat × Nat) × RecvOut => r.2.2)]
  rfl

inductive Op where
  /-- ACK_FREQUENCY frame from the peer (any varints) -/
  | recv (seq aet req reord : Nat)
  /-- a packet number was acknowledged (peer-controlled) -/
  | acked (pn : Nat)
  /-- `poll_transmit` at smoothed rtt `rtt`, sending packet `pn` if an ACK_FREQUENCY frame is due -/
  | poll (rtt pn : Nat)
  | pto
deriving Repr

/-- `poll_transmit` + `populate_packet` as far as ACK_FREQUENCY goes; none = panic -/
def poll (fdec : Nat → Nat → Bool) (s : State) (e : Env) (rtt pn : Nat) : Option State :=
  match shouldSendAckFrequency fdec s rtt e.cfgMaxAckDelay e.peerMinAckDelay with
  | none => none
  | some false => some s
  | some true =>
    match nextSequenceNumber s with
    | none => none
    | some (s1, _) =>
      match candidateMaxAckDelay s1 rtt e.cfgMaxAckDelay e.peerMinAckDelay with
      | none => none
      | some d => some (ackFrequencySent s1 pn d)

def step (fdec : Nat → Nat → Bool) (s : State) (e : Env) : Op → Option (State × Env)
  | .recv seq aet req reord =>
    let r := ackFrequencyReceived s e.thresholds seq aet req reord
    some (r.1, { e with thresholds := r.2.1 })
  | .acked pn => some (onAcked s pn, e)
  | .poll rtt pn => (poll fdec s e rtt pn).map (fun s' => (s', e))
  | .pto => some (s, e)

def run (fdec : Nat → Nat → Bool) : State → Env → List Op → Option (State × Env)
  | s, e, [] => some (s, e)
  | s, e, op :: ops => match step fdec s e op with
    | none => none
    | some (s', e') => run fdec s' e' ops

theorem poll_some (fdec : Nat → Nat → Bool) (s : State) (e : Env) (rtt pn : Nat) (hn : s.nextSeq ≤ varIntMax) :
    ∃ s', poll fdec s e rtt pn = some s' ∧ s'.nextSeq ≤ s.nextSeq + 1 := by
  unfold poll
  obtain ⟨b, hs⟩ := shouldSend_some fdec s rtt e.cfgMaxAckDelay e.peerMinAckDelay
  rw [hs]
  cases b with
  | false => exact ⟨s, rfl, by omega⟩
  | true =>
    simp only
    have : nextSequenceNumber s = some ({ s with nextSeq := s.nextSeq + 1 }, s.nextSeq) := by
      unfold nextSequenceNumber; simp [show ¬ s.nextSeq > varIntMax by omega]
    rw [this]
    simp only
    obtain ⟨d, hd, _⟩ := candidate_some { s with nextSeq := s.nextSeq + 1 } rtt e.cfgMaxAckDelay e.peerMinAckDelay
    rw [hd]
    exact ⟨_, rfl, by simp [ackFrequencySent]⟩

theorem step_some (fdec : Nat → Nat → Bool) (s : State) (e : Env) (op : Op) (hn : s.nextSeq ≤ varIntMax) :
    ∃ s' e', step fdec s e op = some (s', e') ∧ s'.nextSeq ≤ s.nextSeq + 1 := by
  cases op with
  | recv seq aet req reord =>
    refine ⟨_, _, rfl, ?_⟩
    show (ackFrequencyReceived s e.thresholds seq aet req reord).1.nextSeq ≤ _
    rw [recv_nextSeq]; omega
  | acked pn =>
    refine ⟨_, _, rfl, ?_⟩
    fun_cases onAcked s pn <;> exact Nat.le_succ _
  | poll rtt pn =>
    obtain ⟨s', h, hle⟩ := poll_some fdec s e rtt pn hn
    exact ⟨s', e, by simp [step, h], hle⟩
  | pto => exact ⟨s, e, rfl, by omega⟩

theorem run_some (fdec : Nat → Nat → Bool) (ops : List Op) : ∀ (s : State) (e : Env),
    s.nextSeq + ops.length ≤ varIntMax + 1 → ∃ r, run fdec s e ops = some r := by
  induction ops with
  | nil => intro s e _; exact ⟨_, rfl⟩
  | cons op ops ih =>
    intro s e hn
    simp only [List.length_cons] at hn
    obtain ⟨s', e', h, hle⟩ := step_some fdec s e op (by omega)
    obtain ⟨r, hr⟩ := ih s' e' (by omega)
    exact ⟨r, by simp only [run, h, hr]⟩

end QM.AckFrequency
