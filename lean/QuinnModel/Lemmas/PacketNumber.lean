import QuinnModel.Wire.PacketNumber
namespace QM.PacketNumber

theorem eq_of_mod_eq {a b w : Nat} (h : a % w = b % w) (hd : a < b + w ∧ b < a + w) : a = b := by
  rcases Nat.le_total a b with hab | hab
  · have h0 := Nat.sub_mod_eq_zero_of_mod_eq h.symm
    rw [Nat.mod_eq_of_lt (by omega)] at h0
    omega
  · have h0 := Nat.sub_mod_eq_zero_of_mod_eq h
    rw [Nat.mod_eq_of_lt (by omega)] at h0
    omega

/-- `(expected & !mask) | truncated` has the residue of the truncated number -/
theorem candidate_mod (e n win : Nat) : (e - e % win + n % win) % win = n % win := by
  rw [Nat.add_mod, Nat.sub_mod_eq_zero_of_mod_eq (Nat.mod_mod _ _).symm, Nat.zero_add, Nat.mod_mod, Nat.mod_mod]

/-- the candidate and its shifts by `win` all have the residue of `n`, and the one `expand` picks lies less than
    `win` from `n` (the candidate and `e` share a block of `win`, `n` is within `win / 2` of `e`): it is `n` -/
theorem expandW_window {win n e : Nat} (hw : win % 2 = 0) (hn : n + win < 2^64)
    (hlo : e < n + win / 2) (hhi : n ≤ e + win / 2) : expandW win (n % win) e = some n := by
  have hre := Nat.mod_lt e (show 0 < win by omega)
  have hrn := Nat.mod_lt n (show 0 < win by omega)
  have hX := Nat.mod_le e win
  have hY := Nat.mod_le n win
  -- the two overflow arms, then candidate + win, candidate - win, candidate
  fun_cases expandW win (n % win) e
  · omega
  · omega
  · exact congrArg some (eq_of_mod_eq ((Nat.add_mod_right _ _).trans (candidate_mod e n win)) (by omega))
  · exact congrArg some
      (eq_of_mod_eq ((Nat.mod_eq_sub_mod (by omega)).symm.trans (candidate_mod e n win)) (by omega))
  · exact congrArg some (eq_of_mod_eq (candidate_mod e n win) (by omega))

theorem expandW_no_overflow (win t e : Nat) (ht : t < win) (he : e + 2 * win < 2 ^ 64) :
    ∃ n, expandW win t e = some n := by
  have hA : e - e % win ≤ e := Nat.sub_le _ _
  have hh : win / 2 ≤ win := Nat.div_le_self _ _
  -- the two overflow arms, then the three results
  fun_cases expandW win t e
  · omega
  · omega
  · exact ⟨_, rfl⟩
  · exact ⟨_, rfl⟩
  · exact ⟨_, rfl⟩

theorem winOf_even (len : Nat) : winOf len % 2 = 0 := by
  unfold winOf; split <;> decide

theorem winOf_le (len : Nat) : winOf len ≤ 2^32 := by
  unfold winOf; split <;> decide

/-- a receiver at `r + 1` with `la ≤ r < n` recovers `n` from `n % m % win` when the sender's range test
    `(n - la) * 2 < win` passed and the sender kept at least the low `win` (`win ∣ m`) -/
theorem expandW_new {win m n la r : Nat} (hw : win % 2 = 0) (hm : win ∣ m) (hn : n + win < 2^64)
    (h1 : la ≤ r) (h2 : r < n) (hr : (n - la) * 2 < win) : expandW win (n % m % win) (r + 1) = some n := by
  rw [Nat.mod_mod_of_dvd n hm]
  exact expandW_window hw hn (by omega) (by omega)

end QM.PacketNumber
