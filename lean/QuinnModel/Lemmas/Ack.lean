import QuinnModel.Wire.Ack
import QuinnModel.Lemmas.VarInt
/-
Proofs about the ACK frame model: `scan_ack_blocks` is bounded by its input, everything it accepts is iterated by
`AckIter` without any underflow into exactly `n + 1` descending, disjoint ranges, and `Ack::encode` round-trips.
All three rest on one relation between bytes and ranges, `Blocks` (first block, then `Lay`): `scan_ack_blocks`
accepts exactly a block section in front of the rest, `AckIter` over a block section yields its ranges, and the
encoder writes the block section of the ranges it is given.
-/
namespace QM.Ack
open QM

def IsCode (v : Nat) (c : Bytes) : Prop := ∀ r, VarInt.decode (c ++ r) = some (v, r)

theorem IsCode.length_pos {v : Nat} {c : Bytes} (h : IsCode v c) : 1 ≤ c.length := by
  cases c with
  | nil => cases h []
  | cons a t => exact Nat.le_add_left 1 _

theorem writeVar_code (x : Nat) (h : x < 2^62) : ∃ e, writeVar x = some e ∧ IsCode x e := by
  obtain ⟨e, he, hd⟩ := VarInt.encode_decodes h
  exact ⟨e, by simp only [writeVar, VarInt.fromU64, Gen.varintFromU64Bound, h, if_true, he], hd⟩

/-- every read in the ACK code is `buf.get_var()?` followed by the rest of the function -/
def rd {α} (bs : Bytes) (k : Nat → Bytes → Except IterErr α) : Except IterErr α :=
  match VarInt.decode bs with
  | none => .error .unexpectedEnd
  | some (v, r) => k v r

theorem rd_code {α} {v : Nat} {c : Bytes} (h : IsCode v c) (r : Bytes) (k : Nat → Bytes → Except IterErr α) :
    rd (c ++ r) k = k v r := by rw [rd, h r]

theorem rd_ok {α} {bs : Bytes} {k : Nat → Bytes → Except IterErr α} {x : α} (h : rd bs k = .ok x) :
    ∃ v c r, bs = c ++ r ∧ IsCode v c ∧ k v r = .ok x := by
  unfold rd at h
  split at h
  · cases h
  · obtain ⟨c, hb, hc⟩ := VarInt.decode_append ‹_›
    exact ⟨_, c, _, hb, hc, h⟩

theorem scanLoop_succ (n : Nat) (buf : Bytes) (s : Nat) : scanLoop (n + 1) buf s =
    rd buf fun gap buf1 => if s < gap + 2 then .error .malformed else
      rd buf1 fun block buf2 => if s - (gap + 2) < block then .error .malformed else
        scanLoop n buf2 (s - (gap + 2) - block) := rfl

theorem scanAckBlocks_eq (buf : Bytes) (largest n : Nat) : scanAckBlocks buf largest n =
    rd buf fun first buf1 => if largest < first then .error .malformed else
      match scanLoop n buf1 (largest - first) with
      | .error e => .error e
      | .ok rest => .ok (buf.length - rest.length) := rfl

theorem decodeAckBody_eq (ty : Nat) (bs : Bytes) : decodeAckBody ty bs =
    rd bs fun largest b1 => rd b1 fun delay b2 => rd b2 fun extra b3 =>
      match scanAckBlocks b3 largest extra with
      | .error e => .error e
      | .ok n =>
        if ty ≠ Gen.frameTypeAckEcn then .ok (⟨largest, delay, b3.take n, none⟩, b3.drop n) else
          rd (b3.drop n) fun ect0 b5 => rd b5 fun ect1 b6 => rd b6 fun ce b7 =>
            .ok (⟨largest, delay, b3.take n, some (ect0, ect1, ce)⟩, b7) := rfl

/-- descending and disjoint with at least one missing number between consecutive ranges -/
def Chain : List (Nat × Nat) → Prop
  | [] => True
  | (lo, hi) :: t => lo ≤ hi ∧ (∀ r ∈ t, r.2 + 2 ≤ lo) ∧ Chain t

/-- `d` is what follows the first block in an ACK frame whose ranges after the one starting at `lo` are `ds`
    (descending, inclusive): for each range the code of the gap down to it and the code of its length. The two
    equations are the subtractions `scan_ack_blocks` checks and `AckIter` repeats, read as additions. -/
def Lay : Nat → List (Nat × Nat) → Bytes → Prop
  | _, [], d => d = []
  | lo, (lo', hi') :: t, d => ∃ g b cg cb d', hi' + (g + 2) = lo ∧ lo' + b = hi' ∧ IsCode g cg ∧ IsCode b cb ∧
      d = cg ++ (cb ++ d') ∧ Lay lo' t d'

theorem Lay.length_le : ∀ {lo : Nat} {ds : List (Nat × Nat)} {d : Bytes}, Lay lo ds d → 2 * ds.length ≤ d.length
  | _, [], _, _ => Nat.zero_le _
  | _, _ :: _, _, ⟨_, _, _, _, _, _, _, hg, hb, hd, ht⟩ => by
    have := ht.length_le
    have := hg.length_pos
    have := hb.length_pos
    rw [hd]
    simp only [List.length_cons, List.length_append]
    omega

theorem Lay.chain : ∀ {lo : Nat} {ds : List (Nat × Nat)} {d : Bytes}, Lay lo ds d → Chain ds ∧ ∀ r ∈ ds, r.2 + 2 ≤ lo
  | _, [], _, _ => ⟨trivial, fun _ h => nomatch h⟩
  | _, (lo', hi') :: _, _, ⟨_, _, _, _, _, h1, h2, _, _, _, ht⟩ =>
    have ⟨c, below⟩ := ht.chain
    ⟨⟨by omega, below, c⟩, fun r hr => by
      rcases List.mem_cons.mp hr with rfl | hr
      · show hi' + 2 ≤ _; omega
      · have := below r hr; omega⟩

theorem scanLoop_lay : ∀ (n : Nat) (buf : Bytes) (s : Nat) (rest : Bytes), scanLoop n buf s = .ok rest →
    ∃ ds pre, ds.length = n ∧ buf = pre ++ rest ∧ Lay s ds pre
  | 0, buf, s, rest, h => by
    cases h
    exact ⟨[], [], rfl, rfl, rfl⟩
  | n + 1, buf, s, rest, h => by
    rw [scanLoop_succ] at h
    obtain ⟨g, cg, buf1, rfl, hig, h⟩ := rd_ok h
    split at h
    · cases h
    · obtain ⟨b, cb, buf2, rfl, hib, h⟩ := rd_ok h
      split at h
      · cases h
      · obtain ⟨ds, pre, hl, rfl, hlay⟩ := scanLoop_lay n buf2 _ rest h
        exact ⟨(s - (g + 2) - b, s - (g + 2)) :: ds, cg ++ (cb ++ pre), by rw [List.length_cons, hl],
          by simp only [List.append_assoc], g, b, cg, cb, pre, by omega, by omega, hig, hib, rfl, hlay⟩

theorem scanLoop_of_lay : ∀ (ds : List (Nat × Nat)) (pre : Bytes) (s : Nat) (rest : Bytes),
    Lay s ds pre → scanLoop ds.length (pre ++ rest) s = .ok rest
  | [], _, _, _, h => by cases h; rfl
  | (lo', hi') :: t, _, s, rest, ⟨g, b, cg, cb, d', h1, h2, hg, hb, hd, ht⟩ => by
    rw [hd, List.length_cons, scanLoop_succ, List.append_assoc, rd_code hg, if_neg (by omega), List.append_assoc,
      rd_code hb, if_neg (by omega), show s - (g + 2) - b = lo' by omega]
    exact scanLoop_of_lay t d' _ rest ht

theorem IsCode.append_isEmpty {v : Nat} {c : Bytes} (h : IsCode v c) (d : Bytes) : (c ++ d).isEmpty = false := by
  cases c with
  | nil => exact absurd h.length_pos (by decide)
  | cons a t => rfl

theorem iterNext_last (L b0 : Nat) (c0 : Bytes) (hc : IsCode b0 c0) (hb : b0 ≤ L) :
    iterNext L (c0 ++ []) = .item (L - b0) L L [] := by
  simp only [iterNext, hc.append_isEmpty, Bool.false_eq_true, if_false, hc []]
  simp only [getVar, VarInt.decode, List.drop_nil, show ¬ L < b0 by omega, if_false]

/-- one step of `AckIter` in front of a further range: block and gap are there and nothing underflows -/
theorem iterNext_gap {lo hi hi' b g : Nat} {c0 cg : Bytes} (d : Bytes) (hc : IsCode b c0) (hg : IsCode g cg)
    (h1 : lo + b = hi) (h2 : hi' + (g + 2) = lo) : iterNext hi (c0 ++ (cg ++ d)) = .item lo hi hi' d := by
  simp only [iterNext, hc.append_isEmpty, Bool.false_eq_true, if_false, hc (cg ++ d), getVar, hg d, Gen.ackGapBias,
    show ¬ hi < b + g + 2 by omega, show ¬ hi < b by omega, show hi - b = lo by omega,
    show hi - (b + g + 2) = hi' by omega]

/-- `AckIter` over laid-out ranges never underflows and yields them -/
theorem iterAll_lay : ∀ (ds : List (Nat × Nat)) (d : Bytes) (lo hi b : Nat) (c0 : Bytes) (fuel : Nat),
    Lay lo ds d → IsCode b c0 → lo + b = hi → ds.length + 2 ≤ fuel → iterAll fuel hi (c0 ++ d) = some ((lo, hi) :: ds)
  | [], _, lo, hi, b, c0, f + 2, hl, hc, hb, _ => by
    cases hl
    simp only [iterAll, iterNext_last hi b c0 hc (by omega), show hi - b = lo by omega]
    simp only [iterNext, List.isEmpty_nil, if_true]
  | (lo', hi') :: t, _, lo, hi, b, c0, f + 1, ⟨g, b', cg, cb, d', h1, h2, hg, hcb, hd, ht⟩, hc, hb, hf => by
    simp only [hd, iterAll, iterNext_gap (cb ++ d') hc hg hb h1,
      iterAll_lay t d' lo' hi' b' cb f ht hcb h2 (by rw [List.length_cons] at hf; omega)]

/-- `c` is the block section of an ACK frame with largest `hi` and ranges `(lo, hi) :: ds`: the code of the first
    block's length, then `Lay` -/
def Blocks (lo hi : Nat) (ds : List (Nat × Nat)) (c : Bytes) : Prop :=
  ∃ b cf cr, lo + b = hi ∧ IsCode b cf ∧ c = cf ++ cr ∧ Lay lo ds cr

namespace Blocks
variable {lo hi : Nat} {ds : List (Nat × Nat)} {c : Bytes} (h : Blocks lo hi ds c)
include h

theorem length_le : 2 * ds.length + 1 ≤ c.length := by
  obtain ⟨b, cf, cr, _, hf, rfl, hlay⟩ := h
  have := hf.length_pos; have := hlay.length_le
  rw [List.length_append]; omega

theorem chain : Chain ((lo, hi) :: ds) := by
  obtain ⟨b, cf, cr, hb, _, _, hlay⟩ := h
  exact ⟨by omega, hlay.chain.2, hlay.chain.1⟩

/-- `scan_ack_blocks` accepts a block section in front of anything and reports its length -/
theorem scan (X : Bytes) : scanAckBlocks (c ++ X) hi ds.length = .ok c.length := by
  obtain ⟨b, cf, cr, hb, hf, rfl, hlay⟩ := h
  rw [scanAckBlocks_eq, List.append_assoc, rd_code hf, if_neg (by omega), show hi - b = lo by omega,
    scanLoop_of_lay ds cr _ X hlay]
  simp only [List.length_append, Except.ok.injEq]; omega

/-- `AckIter` over a block section never underflows and yields its ranges -/
theorem iter : iterAll (c.length + 1) hi c = some ((lo, hi) :: ds) := by
  have := h.length_le
  obtain ⟨b, cf, cr, hb, hf, rfl, hlay⟩ := h
  exact iterAll_lay ds cr lo hi b cf _ hlay hf hb (by omega)

theorem decodeAckBody {d : Nat} {cl cd cn : Bytes} (hl : IsCode hi cl) (hd : IsCode d cd)
    (hn : IsCode ds.length cn) (ty : Nat) (X : Bytes) :
    decodeAckBody ty (cl ++ (cd ++ (cn ++ (c ++ X)))) =
      if ty ≠ Gen.frameTypeAckEcn then .ok (⟨hi, d, c, none⟩, X) else
        rd X fun ect0 b5 => rd b5 fun ect1 b6 => rd b6 fun ce b7 =>
          .ok (⟨hi, d, c, some (ect0, ect1, ce)⟩, b7) := by
  rw [decodeAckBody_eq, rd_code hl, rd_code hd, rd_code hn, h.scan]
  simp only [List.take_left' rfl, List.drop_left' rfl]

end Blocks

/-- what `scan_ack_blocks` accepts is a block section in front of the rest -/
theorem scanAckBlocks_ok {buf : Bytes} {largest n k : Nat} (h : scanAckBlocks buf largest n = .ok k) :
    ∃ lo ds c X, buf = c ++ X ∧ k = c.length ∧ ds.length = n ∧ Blocks lo largest ds c := by
  rw [scanAckBlocks_eq] at h
  obtain ⟨first, c0, buf1, rfl, hc, h⟩ := rd_ok h
  split at h
  · cases h
  · split at h
    · cases h
    · rename_i rest hs
      cases h
      obtain ⟨ds, pre, hl, rfl, hlay⟩ := scanLoop_lay n buf1 _ rest hs
      exact ⟨largest - first, ds, c0 ++ pre, rest, (List.append_assoc _ _ _).symm,
        by simp only [List.length_append]; omega, hl, first, c0, pre, by omega, hc, rfl, hlay⟩

theorem scanAckBlocks_spec (buf : Bytes) (largest n k : Nat) (h : scanAckBlocks buf largest n = .ok k) :
    k ≤ buf.length ∧ 2 * n + 1 ≤ k ∧
    ∃ ranges, iterAll (k + 1) largest (buf.take k) = some ranges ∧ ranges.length = n + 1 ∧ Chain ranges ∧
      ranges.head?.map (·.2) = some largest := by
  obtain ⟨lo, ds, c, X, rfl, rfl, rfl, hb⟩ := scanAckBlocks_ok h
  rw [List.take_left' rfl]
  exact ⟨by rw [List.length_append]; omega, hb.length_le, _, hb.iter, rfl, hb.chain, rfl⟩

theorem decodeAckBody_spec (ty : Nat) (bs : Bytes) (f : AckFrame) (rest : Bytes)
    (h : decodeAckBody ty bs = .ok (f, rest)) :
    rest.length < bs.length ∧
    ∃ ranges, iterAll (f.additional.length + 1) f.largest f.additional = some ranges ∧ Chain ranges ∧
      ranges.head?.map (·.2) = some f.largest ∧ 1 ≤ ranges.length := by
  rw [decodeAckBody_eq] at h
  obtain ⟨largest, c1, b1, rfl, hc1, h⟩ := rd_ok h
  obtain ⟨delay, c2, b2, rfl, _, h⟩ := rd_ok h
  obtain ⟨extra, c3, b3, rfl, _, h⟩ := rd_ok h
  have := hc1.length_pos
  split at h
  · cases h
  · rename_i n hs
    obtain ⟨lo, ds, c, X, rfl, rfl, _, hb⟩ := scanAckBlocks_ok hs
    rw [List.take_left' rfl, List.drop_left' rfl] at h
    have key : ∃ ranges, iterAll (c.length + 1) largest c = some ranges ∧ Chain ranges ∧
        ranges.head?.map (·.2) = some largest ∧ 1 ≤ ranges.length :=
      ⟨_, hb.iter, hb.chain, rfl, Nat.le_add_left _ _⟩
    split at h
    · cases h
      exact ⟨by simp only [List.length_append]; omega, key⟩
    · obtain ⟨e0, c4, b5, rfl, _, h⟩ := rd_ok h
      obtain ⟨e1, c5, b6, rfl, _, h⟩ := rd_ok h
      obtain ⟨e2, c6, b7, rfl, _, h⟩ := rd_ok h
      cases h
      exact ⟨by simp only [List.length_append]; omega, key⟩

theorem scanAckBlocks_bounded_iterations (buf : Bytes) (largest n : Nat) (hn : buf.length < 2 * n + 1) :
    ∃ e, scanAckBlocks buf largest n = .error e := by
  cases h : scanAckBlocks buf largest n with
  | error e => exact ⟨e, rfl⟩
  | ok k =>
    have := scanAckBlocks_spec buf largest n k h
    omega

/-- descending half-open ranges strictly below `prev`, each non-empty and not adjacent to its predecessor
    (what `ArrayRangeSet::iter().rev()` yields after a range starting at `prev`) -/
def CanonDesc : Nat → List (Nat × Nat) → Prop
  | _, [] => True
  | prev, (s, e) :: t => s < e ∧ e < prev ∧ CanonDesc s t

theorem canonDesc_length : ∀ (rest : List (Nat × Nat)) (prev : Nat), CanonDesc prev rest → rest.length ≤ prev
  | [], _, _ => Nat.zero_le _
  | (s, _) :: t, _, ⟨_, _, h3⟩ => by
    have := canonDesc_length t s h3
    rw [List.length_cons]; omega

theorem encodeRest_lay : ∀ (rest : List (Nat × Nat)) (prev : Nat), CanonDesc prev rest → prev < 2^62 →
    ∃ bytes, encodeRest prev rest = some bytes ∧ Lay prev (rest.map fun r => (r.1, r.2 - 1)) bytes
  | [], _, _, _ => ⟨[], rfl, rfl⟩
  | (s, e) :: t, prev, ⟨h1, h2, h3⟩, hp => by
    obtain ⟨cg, hcg, hig⟩ := writeVar_code (prev - e - 1) (by omega)
    obtain ⟨cb, hcb, hib⟩ := writeVar_code (e - s - 1) (by omega)
    obtain ⟨r, hr, hlr⟩ := encodeRest_lay t s h3 (by omega)
    refine ⟨cg ++ cb ++ r, ?_, _, _, cg, cb, r, ?_, ?_, hig, hib, List.append_assoc _ _ _, hlr⟩
    · simp only [encodeRest, show ¬ e < s by omega, show ¬ prev < e by omega, show ¬ prev - e < 1 by omega,
        show ¬ e - s < 1 by omega, if_false, hcg, hcb, hr]
    · show e - 1 + (prev - e - 1 + 2) = prev; omega
    · show s + (e - s - 1) = e - 1; omega

theorem decodeAck_code {ty : Nat} {c : Bytes} (h : IsCode ty c) (hty : ty = Gen.frameTypeAck ∨ ty = Gen.frameTypeAckEcn)
    (r : Bytes) : decodeAck (c ++ r) = some (decodeAckBody ty r) := by
  rw [decodeAck, h r]
  exact if_pos hty

theorem encode_decode (delay : Nat) (asc : List (Nat × Nat)) (ecn : Option (Nat × Nat × Nat)) (tail : Bytes)
    (s e : Nat) (rest : List (Nat × Nat)) (hrev : asc.reverse = (s, e) :: rest) (hse : s < e) (he : e ≤ 2^62)
    (hc : CanonDesc s rest) (hd : delay < 2^62)
    (hecn : ∀ a b c, ecn = some (a, b, c) → a < 2^62 ∧ b < 2^62 ∧ c < 2^62) :
    ∃ bytes f, encode delay asc ecn = some bytes ∧ decodeAck (bytes ++ tail) = some (.ok (f, tail)) ∧
      f.largest = e - 1 ∧ f.delay = delay ∧ f.ecn = ecn ∧
      f.ranges = some ((s, e - 1) :: rest.map (fun r => (r.1, r.2 - 1))) := by
  -- every field is written as a code and the ranges as a block section of themselves (`hblk`), which the decoder
  -- cuts out again and `AckIter` iterates
  have hlen : asc.length = rest.length + 1 := by
    simpa only [List.length_reverse, List.length_cons] using congrArg List.length hrev
  have hrl := canonDesc_length rest s hc
  obtain ⟨cl, hcl, hil⟩ := writeVar_code (e - 1) (by omega)
  obtain ⟨cd, hcd, hid⟩ := writeVar_code delay hd
  obtain ⟨cn, hcn, hin⟩ := writeVar_code (asc.length - 1) (by omega)
  obtain ⟨cf, hcf, hif⟩ := writeVar_code (e - s - 1) (by omega)
  obtain ⟨cr, hcr, hlay⟩ := encodeRest_lay rest s hc (by omega)
  rw [show asc.length - 1 = (rest.map fun r => (r.1, r.2 - 1)).length by rw [List.length_map]; omega] at hin
  have hblk : Blocks s (e - 1) (rest.map fun r => (r.1, r.2 - 1)) (cf ++ cr) := ⟨_, cf, cr, by omega, hif, rfl, hlay⟩
  have hbody := hblk.decodeAckBody hil hid hin
  have hranges := hblk.iter
  have hfix : ¬ e < 1 ∧ ¬ e < s ∧ ¬ e - s < 1 := by omega
  cases ecn with
  | none =>
    obtain ⟨ct, hty, hity⟩ := writeVar_code Gen.frameTypeAck (by decide)
    refine ⟨ct ++ cl ++ cd ++ cn ++ cf ++ cr, ⟨e - 1, delay, cf ++ cr, none⟩, ?_, ?_, rfl, rfl, rfl,
      hranges⟩
    · simp only [encode, hrev, hfix, if_false, Option.isSome_none, Bool.false_eq_true, hty, hcl, hcd, hcn, hcf, hcr]
    · simp only [List.append_assoc]
      rw [decodeAck_code hity (.inl rfl), ← List.append_assoc cf, hbody, if_pos (by decide)]
  | some t =>
    obtain ⟨a, b, c⟩ := t
    obtain ⟨ha, hb, hcc⟩ := hecn a b c rfl
    obtain ⟨ca, hca, hia⟩ := writeVar_code a ha
    obtain ⟨cb, hcb, hib⟩ := writeVar_code b hb
    obtain ⟨cc, hccc, hic⟩ := writeVar_code c hcc
    obtain ⟨ct, hty, hity⟩ := writeVar_code Gen.frameTypeAckEcn (by decide)
    refine ⟨ct ++ cl ++ cd ++ cn ++ cf ++ cr ++ ca ++ cb ++ cc,
      ⟨e - 1, delay, cf ++ cr, some (a, b, c)⟩, ?_, ?_, rfl, rfl, rfl, hranges⟩
    · simp only [encode, hrev, hfix, if_false, Option.isSome_some, if_true, hty, hcl, hcd, hcn, hcf, hcr, hca, hcb, hccc]
    · simp only [List.append_assoc]
      rw [decodeAck_code hity (.inr rfl), ← List.append_assoc cf, hbody, if_neg (fun h => h rfl), rd_code hia, rd_code hib, rd_code hic]

/-- content of the `ArrayRangeSet` (ascending, half-open) holding the descending inclusive ranges `ds` -/
def toRangeSet (ds : List (Nat × Nat)) : List (Nat × Nat) := (ds.map (fun r => (r.1, r.2 + 1))).reverse

theorem chain_canon : ∀ (t : List (Nat × Nat)) (lo : Nat), Chain t → (∀ r ∈ t, r.2 + 2 ≤ lo) →
    CanonDesc lo (t.map (fun r => (r.1, r.2 + 1)))
  | [], _, _, _ => trivial
  | (lo', hi') :: t, lo, ⟨c1, c2, c3⟩, hb =>
    have := hb (lo', hi') List.mem_cons_self
    ⟨Nat.lt_succ_of_le c1, by show hi' + 1 < lo; omega, chain_canon t lo' c3 c2⟩

end QM.Ack
