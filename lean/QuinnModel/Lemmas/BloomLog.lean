import QuinnModel.Endpoint.BloomLog
import QuinnModel.Lemmas.Runs
/- Single use of validation tokens through `BloomTokenLog`, over arbitrary histories. -/
namespace QM.SysTime

theorem add_some (t d : Nat) (h : t + d < limit) : add t d = some (t + d) := by
  unfold add; rw [if_pos h]

theorem add_none (t d : Nat) (h : ¬ t + d < limit) : add t d = none := by
  unfold add; rw [if_neg h]

theorem eq_of_add_eq_some (t d e : Nat) (h : add t d = some e) : e = t + d := by
  unfold add at h
  split at h
  · exact (Option.some.inj h).symm
  · exact absurd h (by simp)

end QM.SysTime

namespace QM.BloomLog

theorem Filter.items_mono (f : Filter) (fp b : Nat) (o m : Bool) (x : Nat) (hx : x ∈ f.items) :
    x ∈ (f.checkAndInsert fp b o m).1.items := by
  fun_cases Filter.checkAndInsert f fp b o m
  case case1 => exact hx
  case case3 => exact hx
  all_goals exact List.mem_cons_of_mem _ hx

/-- no false negatives, in either mode -/
theorem Filter.mem_refused (f : Filter) (fp b : Nat) (o m : Bool) (hx : fp ∈ f.items) :
    (f.checkAndInsert fp b o m).2 = false := by
  simp [Filter.checkAndInsert, hx]

theorem Filter.mem_after (f : Filter) (fp b : Nat) (o m : Bool) :
    fp ∈ (f.checkAndInsert fp b o m).1.items := by
  fun_cases Filter.checkAndInsert f fp b o m
  case case1 => assumption
  case case3 => assumption
  all_goals exact List.mem_cons_self

/-- Every (fingerprint, issue time) accepted so far is either behind period 1 (and will be refused as
    "too far in past") or listed in the filter of the period its expiry falls into. -/
def Inv (L : Nat) (s : State) (seen : Nat × Nat → Prop) : Prop :=
  ∀ fp i, seen (fp, i) →
    i + L < s.p1 ∨ (s.p1 ≤ i + L ∧ i + L < s.p1 + L ∧ fp ∈ s.f1.items)
      ∨ (s.p1 + L ≤ i + L ∧ i + L < s.p1 + 2 * L ∧ fp ∈ s.f2.items)

theorem init_inv (L mb : Nat) : Inv L (init mb) (fun _ => False) := by
  intro _ _ h; exact h.elim

/-- where the log accounts for fingerprint `fp` of a token expiring at `x` (`Inv` says this of every accepted token) -/
def Covered (L : Nat) (s : State) (fp x : Nat) : Prop :=
  x < s.p1 ∨ (s.p1 ≤ x ∧ x < s.p1 + L ∧ fp ∈ s.f1.items) ∨ (s.p1 + L ≤ x ∧ x < s.p1 + 2 * L ∧ fp ∈ s.f2.items)

/-- The period logic of `check_and_insert` without the division, in the two steps the code takes.  First the filter
    for an expiry `x` not before period 1 is picked; beyond period 2 that turns the periods over, by one (filter 2
    becomes filter 1) or, from three periods on, so that period 1 starts at `x` with both filters empty. -/
inductive Turned (L : Nat) (s : State) (x : Nat) : State → Prop
  | stay : Turned L s x s
  | one : Turned L s x { s with f1 := s.f2, f2 := .empty, p1 := s.p1 + L }
  | both : s.p1 + 3 * L ≤ x → Turned L s x { s with f1 := .empty, f2 := .empty, p1 := x }

/-- Then the fingerprint is looked up in, and added to, the filter of the period that `x` falls into now. -/
inductive Outcome (L : Nat) (s : State) (fp x : Nat) (c : Choice) : State → Bool → Prop
  | past : x < s.p1 → Outcome L s fp x c s false
  | in1 {t : State} : Turned L s x t → t.p1 ≤ x → x < t.p1 + L →
      Outcome L s fp x c { t with f1 := (t.f1.checkAndInsert fp t.budget c.ok c.bloom1).1 }
        (t.f1.checkAndInsert fp t.budget c.ok c.bloom1).2
  | in2 {t : State} : Turned L s x t → t.p1 + L ≤ x → x < t.p1 + 2 * L →
      Outcome L s fp x c { t with f2 := (t.f2.checkAndInsert fp t.budget c.ok c.bloom2).1 }
        (t.f2.checkAndInsert fp t.budget c.ok c.bloom2).2

namespace Covered
variable {L : Nat} {s t : State} {fp x y : Nat}

theorem f1_mono {f : Filter} (hf : ∀ y ∈ s.f1.items, y ∈ f.items) (h : Covered L s fp x) :
    Covered L { s with f1 := f } fp x :=
  h.imp_right (Or.imp_left fun ⟨a, b, m⟩ => ⟨a, b, hf _ m⟩)

theorem f2_mono {f : Filter} (hf : ∀ y ∈ s.f2.items, y ∈ f.items) (h : Covered L s fp x) :
    Covered L { s with f2 := f } fp x :=
  h.imp_right (Or.imp_right fun ⟨a, b, m⟩ => ⟨a, b, hf _ m⟩)

/-- turning over forgets only what then lies before period 1 -/
theorem turned (ht : Turned L s y t) (h : Covered L s fp x) : Covered L t fp x := by
  cases ht with
  | stay => exact h
  | one =>
    rcases h with h | ⟨_, b, _⟩ | ⟨a, b, m⟩
    · exact Or.inl (Nat.lt_add_right L h)
    · exact Or.inl b
    · exact Or.inr (Or.inl ⟨a, by show x < s.p1 + L + L; omega, m⟩)
  | both he =>
    refine Or.inl (Nat.lt_of_lt_of_le ?_ he)
    rcases h with h | ⟨_, b, _⟩ | ⟨_, b, _⟩ <;> omega

theorem mem1 (h : Covered L s fp x) (a : s.p1 ≤ x) (b : x < s.p1 + L) : fp ∈ s.f1.items := by
  rcases h with h | ⟨_, _, m⟩ | ⟨a', _, _⟩
  · omega
  · exact m
  · omega

theorem mem2 (h : Covered L s fp x) (a : s.p1 + L ≤ x) (b : x < s.p1 + 2 * L) : fp ∈ s.f2.items := by
  rcases h with h | ⟨_, b, _⟩ | ⟨_, _, m⟩
  · omega
  · omega
  · exact m

end Covered

theorem div_bounds (x L : Nat) (hL : 0 < L) : x / L * L ≤ x ∧ x < x / L * L + L := by
  constructor
  · exact Nat.div_mul_le_self x L
  · have := Nat.lt_mul_div_succ x hL
    rw [Nat.mul_add, Nat.mul_one, Nat.mul_comm] at this
    exact this

theorem checkAndInsert_outcome {L : Nat} (hL : 0 < L) {s s' : State} {n i : Nat} {c : Choice} {r : Bool}
    (hc : checkAndInsert s n i L c = some (s', r)) : Outcome L s (fingerprint n) (i + L) c s' r := by
  revert hc
  fun_cases checkAndInsert s n i L c
  case case1 h0 => exact absurd h0 (Nat.ne_of_gt hL)
  case case2 => nofun
  case case3 e hadd hpast =>
    rintro ⟨⟩
    exact .past (SysTime.eq_of_add_eq_some i L e hadd ▸ hpast)
  -- in the other cases `d` = the number of whole periods between the start of period 1 and the expiry
  case' case4 e hadd hpast d fp h0 f r' hf | case5 e hadd hpast d fp h0 h1 f r' hf |
      case6 e hadd hpast d fp h0 h1 h2 f r' hf | case7 e hadd hpast d fp h0 h1 h2 f r' hf =>
    rintro ⟨⟩
    obtain rfl := SysTime.eq_of_add_eq_some i L e hadd
    obtain ⟨rfl, rfl⟩ := Prod.mk.inj hf.symm
    have hd : d * L ≤ i + L - s.p1 ∧ i + L - s.p1 < d * L + L := div_bounds (i + L - s.p1) L hL
    clear_value d
  · rw [h0] at hd
    exact .in1 .stay (by omega) (by omega)
  · rw [h1] at hd
    exact .in2 .stay (by omega) (by omega)
  · rw [show d = 2 by unfold Gen.bloomTurnOverBoth at h2; omega] at hd
    exact .in2 .one (by show s.p1 + L + L ≤ i + L; omega) (by show i + L < s.p1 + L + 2 * L; omega)
  · have h3L : 3 * L ≤ d * L := Nat.mul_le_mul_right L (by unfold Gen.bloomTurnOverBoth at h2; omega)
    exact .in1 (.both (by omega)) (Nat.le_refl _) (Nat.lt_add_of_pos_right hL)

theorem Inv.preserved (L : Nat) (hL : 0 < L) (s s' : State) (seen : Nat × Nat → Prop) (h : Inv L s seen)
    (n i : Nat) (c : Choice) (r : Bool) (hc : checkAndInsert s n i L c = some (s', r)) :
    Inv L s' (fun x => seen x ∨ (r = true ∧ x = (fingerprint n, i)))
      ∧ (r = true → ¬ seen (fingerprint n, i)) := by
  -- old tokens stay covered (`old`), the new one is covered in its window (`new`)
  have key : ∀ {s' : State} {r : Bool}, (∀ fp j, Covered L s fp (j + L) → Covered L s' fp (j + L)) →
      (r = true → Covered L s' (fingerprint n) (i + L)) →
      Inv L s' (fun x => seen x ∨ (r = true ∧ x = (fingerprint n, i))) := by
    intro s' r old new fp j hs
    rcases hs with hs | ⟨hr, hx⟩
    · exact old fp j (h fp j hs)
    · obtain ⟨rfl, rfl⟩ := Prod.mk.inj hx
      exact new hr
  -- a token seen before is still covered after the turn-over, hence listed in the filter that is consulted (in an empty
  -- one never), which therefore refuses
  cases checkAndInsert_outcome hL hc with
  | past hp => exact ⟨key (fun _ _ hcov => hcov) (fun hr => absurd hr Bool.false_ne_true), fun hr => absurd hr Bool.false_ne_true⟩
  | in1 ht a b =>
    refine ⟨key (fun _ _ hcov => (hcov.turned ht).f1_mono (Filter.items_mono _ _ _ _ _))
      (fun _ => Or.inr (Or.inl ⟨a, b, Filter.mem_after _ _ _ _ _⟩)), fun hr hs => ?_⟩
    rw [Filter.mem_refused _ _ _ _ _ ((Covered.turned ht (h _ _ hs)).mem1 a b)] at hr
    exact Bool.false_ne_true hr
  | in2 ht a b =>
    refine ⟨key (fun _ _ hcov => (hcov.turned ht).f2_mono (Filter.items_mono _ _ _ _ _))
      (fun _ => Or.inr (Or.inr ⟨a, b, Filter.mem_after _ _ _ _ _⟩)), fun hr hs => ?_⟩
    rw [Filter.mem_refused _ _ _ _ _ ((Covered.turned ht (h _ _ hs)).mem2 a b)] at hr
    exact Bool.false_ne_true hr

theorem accepted_fresh (L : Nat) (hL : 0 < L) (cs : List Call) : ∀ (s : State) (seen : Nat × Nat → Prop),
    Inv L s seen → (accepted L s cs).Nodup ∧ ∀ x ∈ accepted L s cs, ¬ seen x := by
  induction cs with
  | nil => intro s seen _; simp [accepted]
  | cons c cs ih =>
    intro s seen h
    unfold accepted
    cases hc : checkAndInsert s c.nonce c.issued L c.choice with
    | none => simp
    | some p =>
      obtain ⟨s', r⟩ := p
      have ⟨hinv, hfresh⟩ := Inv.preserved L hL s s' seen h c.nonce c.issued c.choice r hc
      have ih := ih s' _ hinv
      cases r with
      | false => exact fresh_mono ih fun _ => Or.inl
      | true => exact fresh_cons ih (fun _ => Or.inl) (Or.inr ⟨rfl, rfl⟩) (hfresh rfl)

end QM.BloomLog
