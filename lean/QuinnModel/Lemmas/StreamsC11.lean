import QuinnModel.Lemmas.StreamsSenderView
/-
C11 — stream operations follow the stream state machine.  Sending halves: the abstract state of a half, the result
tables as functions of it, the table of `reset` and what those of `finish`, `write` and `stopped` in Props/C11 are proved
from.  Receiving halves: what the tables of `read`, `stop` and `received_reset` over the abstract state `absRecv`
(Lemmas/StreamsFrameOps.lean) are proved from.  Last, `stream_freed` and the count of remote streams.
-/
namespace QM.Streams

inductive SendHalf
  /-- not (or no longer) in the send map: never opened, or finished and fully acknowledged, or reset
      and the reset acknowledged -/
  | gone
  /-- open for writing (`stop` = STOP_SENDING code received, if any) -/
  | ready (stop : Option Nat)
  /-- finished by the application, waiting for acknowledgements -/
  | dataSent (stop : Option Nat)
  /-- reset by the application, waiting for the acknowledgement of the reset -/
  | resetSent (stop : Option Nat)
deriving DecidableEq, Repr

def SendHalf.ofSend (x : Send) : SendHalf :=
  match x.state with
  | .ready => .ready x.stopReason
  | .dataSent _ => .dataSent x.stopReason
  | .resetSent => .resetSent x.stopReason

/-- a permitted but untouched stream (`None` in the map) behaves as a fresh `Ready` half -/
def absSend (s : State) (id : Nat) : SendHalf :=
  match s.send.find? id with
  | none => .gone
  | some none => .ready none
  | some (some x) => SendHalf.ofSend x

def expectedFinish : SendHalf → Except WriteErr Unit × SendHalf
  | .gone => (.error .closedStream, .gone)
  | .ready (some c) => (.error (.stopped c), .ready (some c))
  | .ready none => (.ok (), .dataSent none)
  | .dataSent (some c) => (.error (.stopped c), .dataSent (some c))
  | .dataSent none => (.error .closedStream, .dataSent none)
  | .resetSent (some c) => (.error (.stopped c), .resetSent (some c))
  | .resetSent none => (.error .closedStream, .resetSent none)

def expectedReset : SendHalf → Bool × SendHalf
  | .gone => (false, .gone)
  | .ready c => (true, .resetSent c)
  | .dataSent c => (true, .resetSent c)
  | .resetSent c => (false, .resetSent c)

/-- `stopped`: `none` = ClosedStream -/
def expectedStopped : SendHalf → Option (Option Nat)
  | .gone => none
  | .ready c | .dataSent c | .resetSent c => some c

/-- `write` of `n` bytes on an open connection, written from the PROPERTY TEXT (C11: "write ... succeed
    only while the sending half is open and unstopped, report the peer's STOP_SENDING code once stopped,
    and report a closed stream after finish, reset or full acknowledgement"): the result is a function
    of the abstract state of the half alone, except for the accepted amount, for which `room` = what
    connection-level credit, send window and stream credit allow right now -/
def expectedWrite (room n : Nat) : SendHalf → Except WriteErr Nat
  | .ready none => if room = 0 then .error .blocked else .ok (Nat.min n room)
  | .ready (some c) => .error (.stopped c)
  | .gone | .dataSent _ | .resetSent _ => .error .closedStream

theorem expectedStopped_ofSend (x : Send) : expectedStopped (SendHalf.ofSend x) = some x.stopReason := by
  unfold SendHalf.ofSend; cases x.state <;> rfl

theorem ne_gone_of_stopped {h : SendHalf} {c : Option Nat} (e : expectedStopped h = some c) : h ≠ .gone :=
  fun hh => by rw [hh] at e; cases e

theorem absSend_getOrInsert {s s1 : State} {id : Nat} {x : Send} (h : s.getOrInsertSend id = some (x, s1)) :
    absSend s id = SendHalf.ofSend x := by
  unfold absSend
  rcases (getOrInsertSend_spec h).origin with hh | ⟨hh, hx⟩
  · rw [hh]
  · rw [hh, hx]; rfl

theorem absSend_gone_iff {s : State} {id : Nat} : s.getOrInsertSend id = none ↔ absSend s id = .gone := by
  unfold State.getOrInsertSend absSend
  cases hf : s.send.find? id with
  | none => simp
  | some v =>
    cases v with
    | none => simp
    | some x => simpa using ne_gone_of_stopped (expectedStopped_ofSend x)

theorem absSend_some {s : State} {id : Nat} {x : Send} (hx : s.send.find? id = some (some x)) :
    absSend s id = SendHalf.ofSend x := by
  unfold absSend; rw [hx]

theorem absSend_putSend {s : State} {id : Nat} {x x' : Send} (hx : s.send.find? id = some (some x)) :
    absSend (s.putSend id x') id = SendHalf.ofSend x' :=
  absSend_some (find_putSend_self hx)

theorem Send.finish_ok {x x' : Send} (h : x.finish = .ok x') :
    SendHalf.ofSend x = .ready none ∧ SendHalf.ofSend x' = .dataSent none := by
  revert h
  fun_cases Send.finish x <;> intro h <;> cases h
  exact ⟨by simp only [SendHalf.ofSend, ‹x.stopReason = none›, ‹x.state = .ready›],
    by simp only [SendHalf.ofSend, ‹x.stopReason = none›]⟩

theorem Send.finish_err {x : Send} {e : WriteErr} (h : x.finish = .error e) :
    expectedFinish (SendHalf.ofSend x) = (.error e, SendHalf.ofSend x) := by
  revert h
  unfold SendHalf.ofSend
  fun_cases Send.finish x <;> intro h <;> cases h
  · rw [‹x.stopReason = _›]; cases x.state <;> rfl
  · rw [‹x.stopReason = _›]
    cases hst : x.state with
    | ready => contradiction
    | _ => rfl

theorem Send.reset_table (x : Send) :
    expectedReset (SendHalf.ofSend x) = (decide (x.state ≠ .resetSent), SendHalf.ofSend x.reset) := by
  unfold SendHalf.ofSend Send.reset
  cases hst : x.state <;> simp [hst, expectedReset]

/-- `none`: the send-window accounting would underflow (a panic) -/
theorem reset_table {s s' : State} {id code : Nat} {b : Bool} (h : s.reset id code = some (s', b)) :
    b = (expectedReset (absSend s id)).1 ∧ absSend s' id = (expectedReset (absSend s id)).2 := by
  rcases sendReset_cases h with ⟨hg, rfl, rfl⟩ | ⟨x, s1, hg, hb⟩
  · rw [absSend_gone_iff.mp hg]; exact ⟨rfl, rfl⟩
  have hx1 := (getOrInsertSend_spec hg).slot
  rw [absSend_getOrInsert hg, Send.reset_table]
  rcases hb with ⟨hst, rfl, rfl⟩ | ⟨u, ua, hst, _, _, rfl, rfl⟩
  · have e : x.reset = x := by unfold Send.reset; rw [hst]
    exact ⟨by simp [hst], by rw [e]; exact absSend_some hx1⟩
  · exact ⟨by simp [hst], absSend_putSend hx1⟩

def streamCredit (s : State) (id : Nat) : Nat :=
  match s.send.find? id with
  | some (some x) => x.maxData - x.pending.offset
  | _ => s.maxSendData id

theorem ofSend_writable {x : Send} (hw : x.isWritable = true) : SendHalf.ofSend x = .ready x.stopReason := by
  have hst : x.state = .ready := by simpa [Send.isWritable] using hw
  unfold SendHalf.ofSend; rw [hst]

theorem expectedWrite_closed {x : Send} (hnw : x.isWritable = false) (room n : Nat) :
    expectedWrite room n (SendHalf.ofSend x) = .error .closedStream := by
  have : x.state ≠ .ready := by simpa [Send.isWritable] using hnw
  unfold SendHalf.ofSend
  cases hst : x.state with
  | ready => exact absurd hst this
  | _ => rfl

theorem read_closed {s : State} {id budget : Nat} (h : s.recv.find? id = none) :
    s.read id budget = some (s, .closedStream) := by
  unfold State.read State.getOrInsertRecv; simp [h]

theorem absRecv_getOrInsert {s s1 : State} {id : Nat} {rs : Recv} (h : s.getOrInsertRecv id = some (rs, s1)) :
    absRecv s id = RecvHalf.ofRecv rs := by
  revert h
  unfold absRecv
  fun_cases State.getOrInsertRecv s id <;> intro h
  · contradiction
  · cases h; rw [‹s.recv.find? id = _›]
  · obtain ⟨rfl, _⟩ := Prod.mk.inj (Option.some.inj h); rw [‹s.recv.find? id = _›]; rfl

theorem absRecv_gone_iff {s : State} {id : Nat} : s.getOrInsertRecv id = none ↔ absRecv s id = .gone := by
  unfold State.getOrInsertRecv absRecv
  cases hf : s.recv.find? id with
  | none => simp
  | some v =>
    cases v with
    | none => simp
    | some r =>
      simp only [reduceCtorEq, false_iff]
      unfold RecvHalf.ofRecv
      split
      · simp
      · cases r.state <;> simp

theorem ensureRemoteStreams_inv {s s' : State} {d : Dir} (h : s.ensureRemoteStreams d = some s') :
    ∃ n s1, n = s.maxConcurrentRemoteCount.get d - s.allocatedRemoteCount.get d ∧
      s.insertRemoteRange d (s.maxRemote.get d) n 0 = some s1 ∧
      s' = { s1 with allocatedRemoteCount := s1.allocatedRemoteCount.set d (s1.allocatedRemoteCount.get d + n),
                     maxRemote := s1.maxRemote.set d (s1.maxRemote.get d + n) } := by
  revert h
  fun_cases State.ensureRemoteStreams s d <;> intro h
  · contradiction
  · cases h; exact ⟨_, _, rfl, ‹_›, rfl⟩

theorem ensureRemoteStreams_count {s s' : State} {d : Dir} (h : s.ensureRemoteStreams d = some s') :
    s'.allocatedRemoteCount.get d = Nat.max (s.allocatedRemoteCount.get d) (s.maxConcurrentRemoteCount.get d) ∧
    s'.maxRemote.get d = s.maxRemote.get d +
      (s.maxConcurrentRemoteCount.get d - s.allocatedRemoteCount.get d) := by
  obtain ⟨n, s1, rfl, h1, rfl⟩ := ensureRemoteStreams_inv h
  have e := (alloc_insertRemoteRange _ h1).rest
  have e1 : s1.allocatedRemoteCount = s.allocatedRemoteCount := by rw [e]
  have e2 : s1.maxRemote = s.maxRemote := by rw [e]
  simp only [Two.get_set, ↓reduceIte, e1, e2, natMax_eq]
  constructor
  · omega
  · trivial

theorem freeRemote_inv {s s' : State} {id : Nat} {half : Half} (h : s.freeRemote id half = some s') :
    (sidInitiator id ≠ s.side ∧ s.fullyFree id half = true ∧ ∃ c, c + 1 = s.allocatedRemoteCount.get (sidDir id) ∧
      State.ensureRemoteStreams { s with allocatedRemoteCount := s.allocatedRemoteCount.set (sidDir id) c }
        (sidDir id) = some s') ∨
    (¬ (sidInitiator id ≠ s.side ∧ s.fullyFree id half = true) ∧ s' = s) := by
  revert h
  fun_cases State.freeRemote s id half <;> intro h
  · cases h
  · exact Or.inl ⟨‹_›, ‹_›, _, by have := subU_eq ‹subU _ 1 = some _›; omega, h⟩
  · cases h; exact Or.inr ⟨fun hh => absurd hh.2 ‹_›, rfl⟩
  · cases h; exact Or.inr ⟨fun hh => absurd hh.1 ‹_›, rfl⟩

end QM.Streams
