import QuinnModel.Data.Datagrams
import QuinnModel.Lemmas.VarInt
/-
Proofs about the DatagramState model (C16): from a state whose totals are the sums over its queues (`Inv`) each operation
is described once (`Sent`, `*_char`) and `step_ok` collects what every step keeps; then `max_size()` against the packet.
-/
namespace QM.Datagrams
open QM

def sumLen : List Bytes → Nat
  | [] => 0
  | d :: q => d.length + sumLen q

/-- what a queue of buffered incoming datagrams is charged against the receive buffer (`recv_cost` each) -/
def sumCost : List Bytes → Nat
  | [] => 0
  | d :: q => recvCost d + sumCost q

/-! `sumLen` and `sumCost` both add up a quantity `f` per datagram: proved once for any such sum `g` -/

theorem sum_append (f : Bytes → Nat) (g : List Bytes → Nat) (h0 : g [] = 0) (hc : ∀ d q, g (d :: q) = f d + g q)
    (a b : List Bytes) : g (a ++ b) = g a + g b := by
  induction a with
  | nil => rw [List.nil_append, h0, Nat.zero_add]
  | cons d q ih => rw [List.cons_append, hc, hc, ih, Nat.add_assoc]

theorem sum_sublist (f : Bytes → Nat) (g : List Bytes → Nat) (hc : ∀ d q, g (d :: q) = f d + g q)
    {a b : List Bytes} (h : a.Sublist b) : g a ≤ g b := by
  induction h with
  | slnil => exact Nat.le_refl _
  | cons d _ ih => rw [hc]; exact Nat.le_trans ih (Nat.le_add_left _ _)
  | cons_cons d _ ih => rw [hc, hc]; exact Nat.add_le_add_left ih _

theorem sumLen_append (a b : List Bytes) : sumLen (a ++ b) = sumLen a + sumLen b :=
  sum_append List.length sumLen rfl (fun _ _ => rfl) a b

theorem sumCost_append (a b : List Bytes) : sumCost (a ++ b) = sumCost a + sumCost b :=
  sum_append recvCost sumCost rfl (fun _ _ => rfl) a b

theorem sumLen_sublist {a b : List Bytes} (h : a.Sublist b) : sumLen a ≤ sumLen b :=
  sum_sublist List.length sumLen (fun _ _ => rfl) h

theorem sumCost_sublist {a b : List Bytes} (h : a.Sublist b) : sumCost a ≤ sumCost b :=
  sum_sublist recvCost sumCost (fun _ _ => rfl) h

theorem sumCost_drop_le (q : List Bytes) (k : Nat) : sumCost (q.drop k) ≤ sumCost q :=
  sumCost_sublist (List.drop_sublist k q)

/-! `extra`: what the total holds besides this list -/

theorem head_le_sumLen (d : Bytes) (q : List Bytes) (extra : Nat) : ¬ sumLen (d :: q) + extra < d.length :=
  Nat.not_lt.2 (Nat.le_trans (Nat.le_add_right _ _) (Nat.le_add_right _ _))

theorem sumLen_cons_sub (d : Bytes) (q : List Bytes) (extra : Nat) :
    sumLen (d :: q) + extra - d.length = sumLen q + extra := by
  show d.length + sumLen q + extra - d.length = _
  omega

theorem recvCost_pos (d : Bytes) : 1 ≤ recvCost d := Nat.le_max_right _ _

theorem len_le_recvCost (d : Bytes) : d.length ≤ recvCost d := Nat.le_max_left _ _

theorem recvCost_le_max (d : Bytes) (w : Nat) (h : d.length ≤ w) : recvCost d ≤ Nat.max w 1 := by
  show max d.length 1 ≤ max w 1
  omega

theorem recvCost_le_of_pos (d : Bytes) (w : Nat) (h : d.length ≤ w) (hw : 1 ≤ w) : recvCost d ≤ w :=
  Nat.max_le.2 ⟨h, hw⟩

/-- every buffered datagram is charged at least one byte -/
theorem length_le_sumCost (q : List Bytes) : q.length ≤ sumCost q := by
  induction q with
  | nil => exact Nat.le_refl _
  | cons d q ih => rw [List.length_cons, sumCost, Nat.add_comm]; exact Nat.add_le_add (recvCost_pos d) ih

theorem sumLen_le_sumCost (q : List Bytes) : sumLen q ≤ sumCost q := by
  induction q with
  | nil => exact Nat.le_refl _
  | cons d q ih => exact Nat.add_le_add (len_le_recvCost d) ih

theorem sumCost_eq_zero_iff (q : List Bytes) : sumCost q = 0 ↔ q = [] := by
  cases q with
  | nil => exact ⟨fun _ => rfl, fun _ => rfl⟩
  | cons d q => exact ⟨fun h => by have := recvCost_pos d; rw [sumCost] at h; omega, nofun⟩

/-- the accounting invariant of `DatagramState` (plus: queued datagrams are varint-encodable, the
    "length sanity" that `Datagram::encode` relies on) -/
structure Inv (s : State) : Prop where
  out : s.outgoingTotal = sumLen s.outgoing
  inc : s.recvBuffered = sumCost s.incoming
  sane : ∀ d ∈ s.outgoing, d.length < 2^62

theorem init_inv : Inv init := ⟨rfl, rfl, fun _ h => nomatch h⟩

/-- what the callers guarantee about the inputs of an operation: `usize` buffer size, and a maximum that came
    out of `max_size()` (bounded by the `u16` MTU; any bound below 2^62 suffices) -/
def Op.WF : Op → Prop
  | .send _ _ _ max b => b < 2^64 ∧ ∀ m, max = some m → m < 2^62
  | _ => True

theorem hasSpace_iff (total len b : Nat) (hb : b < 2^64) :
    Gen.dgHasSpace total len b = true ↔ total + len ≤ b := by
  simp only [Gen.dgHasSpace, Bool.and_eq_true, decide_eq_true_eq]
  omega

theorem hasSpace_false_iff (total len b : Nat) (hb : b < 2^64) :
    Gen.dgHasSpace total len b = false ↔ b < total + len := by
  rw [← Bool.not_eq_true, hasSpace_iff _ _ _ hb, Nat.not_le]

theorem sendBufferSpace_eq (s : State) (b : Nat) : sendBufferSpace s b = b - s.outgoingTotal := rfl

theorem makeSpace_char (len b : Nat) (hb : b < 2^64) (hlen : len ≤ b) :
    ∀ (q : List Bytes), ∃ k,
      makeSpace len b q (sumLen q) = (q.drop k, sumLen (q.drop k), false)
      ∧ sumLen (q.drop k) + len ≤ b
      ∧ ∀ j, j < k → b < sumLen (q.drop j) + len := by
  intro q
  induction q with
  | nil => exact ⟨0, rfl, by show 0 + len ≤ b; omega, nofun⟩
  | cons d q ih =>
    cases hs : Gen.dgHasSpace (sumLen (d :: q)) len b with
    | true =>
      exact ⟨0, by rw [makeSpace, if_pos hs]; rfl, (hasSpace_iff _ _ _ hb).1 hs, nofun⟩
    | false =>
      obtain ⟨k, h1, h2, h3⟩ := ih
      refine ⟨k + 1, ?_, h2, fun j hj => ?_⟩
      · rw [makeSpace, hs, if_neg Bool.false_ne_true,
          if_neg (show ¬ sumLen (d :: q) < d.length from head_le_sumLen d q 0),
          show sumLen (d :: q) - d.length = sumLen q from sumLen_cons_sub d q 0]
        exact h1
      · cases j with
        | zero => exact (hasSpace_false_iff _ _ _ hb).1 hs
        | succ j => exact h3 j (Nat.lt_of_succ_lt_succ hj)

theorem tooLarge_iff (len m b : Nat) : Gen.dgTooLarge len m b = true ↔ Nat.min m b < len :=
  decide_eq_true_iff

theorem tooLarge_false_iff (len m b : Nat) : Gen.dgTooLarge len m b = false ↔ len ≤ Nat.min m b :=
  decide_eq_false_iff_not.trans Nat.not_lt

/-- the ways `send` can go, in the order of the checks (`send_sent`: there are no others); with `drop` the oldest
    datagrams are evicted, no more than necessary -/
inductive Sent (s : State) (d : Bytes) (b : Nat) : Bool → Bool → Option Nat → State × Out → Prop
  | disabled {drop : Bool} {max : Option Nat} : Sent s d b drop false max (s, .sendErr .disabled)
  | unsupported {drop : Bool} : Sent s d b drop true none (s, .sendErr .unsupportedByPeer)
  | tooLarge {drop : Bool} {m : Nat} (hlt : Nat.min m b < d.length) : Sent s d b drop true (some m) (s, .sendErr .tooLarge)
  | blocked {m : Nat} (hle : d.length ≤ Nat.min m b) (hfull : b < s.outgoingTotal + d.length) :
      Sent s d b false true (some m) ({ s with sendBlocked := true }, .sendErr (.blocked d))
  | queued {m : Nat} (hle : d.length ≤ Nat.min m b) (hfit : s.outgoingTotal + d.length ≤ b) :
      Sent s d b false true (some m)
        ({ s with outgoing := s.outgoing ++ [d], outgoingTotal := s.outgoingTotal + d.length }, .sendOk)
  | evicted {m : Nat} (k : Nat) (hle : d.length ≤ Nat.min m b) (hfit : sumLen (s.outgoing.drop k) + d.length ≤ b)
      (hmin : ∀ j, j < k → b < sumLen (s.outgoing.drop j) + d.length) :
      Sent s d b true true (some m)
        ({ s with outgoing := s.outgoing.drop k ++ [d], outgoingTotal := sumLen (s.outgoing.drop k) + d.length }, .sendOk)

theorem send_sent (s : State) (hi : Inv s) (d : Bytes) (drop en : Bool) (max : Option Nat) (b : Nat) (hb : b < 2^64) :
    Sent s d b drop en max (send s d drop en max b) := by
  cases en with
  | false => exact .disabled
  | true =>
    cases max with
    | none => exact .unsupported
    | some m =>
      cases htl : Gen.dgTooLarge d.length m b with
      | true => simpa [send, htl] using Sent.tooLarge (s := s) (drop := drop) ((tooLarge_iff _ _ _).1 htl)
      | false =>
        have hle := (tooLarge_false_iff _ _ _).1 htl
        cases drop with
        | false =>
          cases hs : Gen.dgHasSpace s.outgoingTotal d.length b with
          | false =>
            simpa [send, htl, hasSendBufferSpace, hs] using Sent.blocked hle ((hasSpace_false_iff _ _ _ hb).1 hs)
          | true =>
            have hfit := (hasSpace_iff _ _ _ hb).1 hs
            have hno : ¬ (s.outgoingTotal + d.length ≥ 2^64) := by omega
            simpa [send, htl, hasSendBufferSpace, hs, hno] using Sent.queued hle hfit
        | true =>
          obtain ⟨k, h1, h2, h3⟩ := makeSpace_char d.length b hb (Nat.le_trans hle (Nat.min_le_right _ _)) s.outgoing
          have hno : ¬ (sumLen (s.outgoing.drop k) + d.length ≥ 2^64) := by omega
          simpa [send, htl, makeSpaceFor, hi.out, h1, hno] using Sent.evicted k hle h2 h3

theorem recv_char (s : State) (hi : s.recvBuffered = sumCost s.incoming) :
    (s.incoming = [] ∧ recv s = (s, .recvNone))
    ∨ (∃ x rest, s.incoming = x :: rest
        ∧ recv s = ({ s with incoming := rest, recvBuffered := sumCost rest }, .recvSome x)) := by
  unfold recv
  cases h : s.incoming with
  | nil => exact Or.inl ⟨rfl, rfl⟩
  | cons x rest =>
    rw [h] at hi
    have hi' : s.recvBuffered = recvCost x + sumCost rest := hi
    refine Or.inr ⟨x, rest, rfl, ?_⟩
    show (if s.recvBuffered < recvCost x then _ else _) = _
    rw [if_neg (by rw [hi']; exact Nat.not_lt.2 (Nat.le_add_right _ _)),
      show s.recvBuffered - recvCost x = sumCost rest from by rw [hi']; exact Nat.add_sub_cancel_left _ _]

theorem mustEvict_iff (cost buffered w : Nat) : Gen.dgMustEvict cost buffered w = true ↔ w < cost + buffered := by
  simp [Gen.dgMustEvict]

/-- from ANY state, consistent or not: every iteration pops a datagram or leaves the loop -/
theorem evict_never_hangs (cost w : Nat) : ∀ (fuel : Nat) (s : State), s.incoming.length < fuel →
    (evict cost w fuel s).2 ≠ .hang := by
  intro fuel
  induction fuel with
  | zero => intro s h; exact absurd h (Nat.not_lt_zero _)
  | succ fuel ih =>
    intro s hf
    rw [evict]
    cases hm : Gen.dgMustEvict cost s.recvBuffered w with
    | false => rw [if_neg Bool.false_ne_true]; nofun
    | true =>
      rw [if_pos rfl, recv]
      cases hq : s.incoming with
      | nil => nofun
      | cons x rest =>
        dsimp only
        by_cases hlt : s.recvBuffered < recvCost x
        · rw [if_pos hlt]; nofun
        · rw [if_neg hlt]
          exact ih _ (Nat.lt_of_succ_lt_succ (by rw [hq] at hf; exact hf))

theorem evict_char (cost w : Nat) :
    ∀ (fuel : Nat) (s : State), s.recvBuffered = sumCost s.incoming → s.incoming.length < fuel →
      ∃ k, evict cost w fuel s = ({ s with incoming := s.incoming.drop k, recvBuffered := sumCost (s.incoming.drop k) }, .done)
        ∧ (cost + sumCost (s.incoming.drop k) ≤ w ∨ s.incoming.drop k = [])
        ∧ ∀ j, j < k → w < cost + sumCost (s.incoming.drop j) := by
  intro fuel
  induction fuel with
  | zero => intro s _ h; exact absurd h (Nat.not_lt_zero _)
  | succ fuel ih =>
    intro s hi hf
    have hself : ({ s with incoming := s.incoming.drop 0, recvBuffered := sumCost (s.incoming.drop 0) } : State) = s := by
      rw [List.drop_zero, ← hi]
    cases hm : Gen.dgMustEvict cost s.recvBuffered w with
    | true =>
      have hgt := (mustEvict_iff cost s.recvBuffered w).1 hm
      rcases recv_char s hi with ⟨hnil, hr⟩ | ⟨x, rest, hx, hr⟩
      · refine ⟨0, ?_, Or.inr hnil, nofun⟩
        rw [evict, if_pos hm, hr, hself]
      · obtain ⟨k, h1, h2, h3⟩ := ih { s with incoming := rest, recvBuffered := sumCost rest } rfl
          (Nat.lt_of_succ_lt_succ (by rw [hx] at hf; exact hf))
        refine ⟨k + 1, ?_, by rw [hx]; exact h2, fun j hj => ?_⟩
        · rw [evict, if_pos hm, hr, hx]; exact h1
        · cases j with
          | zero => rw [List.drop_zero, ← hi]; exact hgt
          | succ j => rw [hx]; exact h3 j (Nat.lt_of_succ_lt_succ hj)
    | false =>
      have hle : ¬ w < cost + s.recvBuffered := of_decide_eq_false hm
      refine ⟨0, ?_, Or.inl ?_, nofun⟩
      · rw [evict, hm, if_neg Bool.false_ne_true, hself]
      · rw [List.drop_zero, ← hi]; exact Nat.le_of_not_lt hle

theorem received_char (s : State) (hi : s.recvBuffered = sumCost s.incoming) (d : Bytes) (window : Option Nat) :
    (window = none ∧ received s d window = (s, .rcvErr .unexpected))
    ∨ (∃ w, window = some w ∧ w < d.length ∧ received s d window = (s, .rcvErr .oversized))
    ∨ (∃ w, window = some w ∧ d.length ≤ w ∧ w < recvCost d ∧ received s d window = (s, .rcvOk false))
    ∨ (∃ w k, window = some w ∧ recvCost d ≤ w
        ∧ received s d window =
            ({ s with incoming := s.incoming.drop k ++ [d], recvBuffered := sumCost (s.incoming.drop k) + recvCost d },
             .rcvOk (decide (s.recvBuffered = 0)))
        ∧ sumCost (s.incoming.drop k) + recvCost d ≤ w
        ∧ ∀ j, j < k → w < sumCost (s.incoming.drop j) + recvCost d) := by
  cases window with
  | none => exact Or.inl ⟨rfl, rfl⟩
  | some w =>
    refine Or.inr ?_
    unfold received
    dsimp only
    cases ho : Gen.dgOversized d.length w with
    | true => exact Or.inl ⟨w, rfl, of_decide_eq_true ho, by rw [if_pos rfl]⟩
    | false =>
      have hle : d.length ≤ w := Nat.le_of_not_lt (of_decide_eq_false ho)
      rw [if_neg Bool.false_ne_true]
      cases hc : Gen.dgCostTooBig (recvCost d) w with
      | true => exact Or.inr (Or.inl ⟨w, rfl, hle, of_decide_eq_true hc, by rw [if_pos rfl]⟩)
      | false =>
        have hcw : recvCost d ≤ w := Nat.le_of_not_lt (of_decide_eq_false hc)
        obtain ⟨k, h1, h2, h3⟩ := evict_char (recvCost d) w (s.incoming.length + 1) s hi (Nat.lt_succ_self _)
        refine Or.inr (Or.inr ⟨w, k, rfl, hcw, by rw [if_neg Bool.false_ne_true, h1]; rfl, ?_,
          fun j hj => Nat.add_comm _ _ ▸ h3 j hj⟩)
        rcases h2 with h2 | h2
        · exact Nat.add_comm _ _ ▸ h2
        · rw [h2]; exact Nat.le_trans (Nat.le_of_eq (Nat.zero_add _)) hcw

def keep (m : Nat) (d : Bytes) : Bool := Gen.dgKeep d.length m

theorem keep_iff (m : Nat) (d : Bytes) : keep m d = true ↔ d.length < m := by simp [keep, Gen.dgKeep]

theorem dropOver_char (m : Nat) : ∀ (q : List Bytes) (extra : Nat),
    dropOver m q (sumLen q + extra) =
      some (q.filter (keep m), sumLen (q.filter (keep m)) + extra, q.any (fun d => !keep m d)) := by
  intro q
  induction q with
  | nil => intro extra; rfl
  | cons d q ih =>
    intro extra
    cases hk : Gen.dgKeep d.length m with
    | true =>
      have hk' : keep m d = true := hk
      have e1 : sumLen (d :: q) + extra = sumLen q + (d.length + extra) := by
        show d.length + sumLen q + extra = _; omega
      rw [dropOver, if_pos hk, e1, ih, List.filter_cons, if_pos hk', List.any_cons, hk']
      show some (_, sumLen (q.filter (keep m)) + (d.length + extra), _) = some (_, d.length + sumLen (q.filter (keep m)) + extra, _)
      rw [Nat.add_left_comm, Nat.add_assoc]; rfl
    | false =>
      have hk' : keep m d = false := hk
      rw [dropOver, hk, if_neg Bool.false_ne_true, if_neg (head_le_sumLen d q extra), sumLen_cons_sub, ih,
        List.filter_cons, hk', if_neg Bool.false_ne_true, List.any_cons, hk']
      rfl

theorem dropOversized_char (s : State) (hi : s.outgoingTotal = sumLen s.outgoing) (m : Nat) :
    dropOversized s m =
      ({ s with outgoing := s.outgoing.filter (keep m), outgoingTotal := sumLen (s.outgoing.filter (keep m)) },
       .dropped (s.outgoing.any (fun d => !keep m d))) := by
  have := dropOver_char m s.outgoing 0
  simp only [Nat.add_zero] at this
  simp only [dropOversized, hi, this]

def unfit (m : Nat) (d : Bytes) : Bool := !Gen.dgFrontFits d.length m

theorem unfit_iff (m : Nat) (d : Bytes) : unfit m d = true ↔ m < d.length := by
  simp [unfit, Gen.dgFrontFits]

def headUnfit (m : Nat) : List Bytes → Bool
  | [] => false
  | d :: _ => unfit m d

theorem dropFront_char (m : Nat) : ∀ (q : List Bytes) (extra : Nat),
    dropFront m q (sumLen q + extra) =
      some (q.dropWhile (unfit m), sumLen (q.dropWhile (unfit m)) + extra, headUnfit m q) := by
  intro q
  induction q with
  | nil => intro extra; rfl
  | cons d q ih =>
    intro extra
    cases hk : Gen.dgFrontFits d.length m with
    | true =>
      have hu : unfit m d = false := by rw [unfit, hk]; rfl
      rw [dropFront, if_pos hk, List.dropWhile_cons, headUnfit, hu, if_neg Bool.false_ne_true]
    | false =>
      have hu : unfit m d = true := by rw [unfit, hk]; rfl
      rw [dropFront, hk, if_neg Bool.false_ne_true, if_neg (head_le_sumLen d q extra), sumLen_cons_sub, ih,
        List.dropWhile_cons, headUnfit, hu, if_pos rfl]

theorem dropOversizedFront_char (s : State) (hi : s.outgoingTotal = sumLen s.outgoing) (m : Nat) :
    dropOversizedFront s m =
      ({ s with outgoing := s.outgoing.dropWhile (unfit m), outgoingTotal := sumLen (s.outgoing.dropWhile (unfit m)) },
       .dropped (headUnfit m s.outgoing)) := by
  have := dropFront_char m s.outgoing 0
  simp only [Nat.add_zero] at this
  simp only [dropOversizedFront, hi, this]

/-- the common tail of `purgeGlue` and `blackHoleGlue` -/
theorem glue_result (s : State) (any : Bool) :
    (if (any && s.sendBlocked) = true then ({ s with sendBlocked := false }, Out.glue (some (any, true)))
      else (s, Out.glue (some (any, false))))
    = ({ s with sendBlocked := s.sendBlocked && !any }, Out.glue (some (any, any && s.sendBlocked))) := by
  obtain ⟨rb, inc, out, tot, blk⟩ := s
  cases any <;> cases blk <;> rfl

theorem purgeGlue_char (s : State) (hi : s.outgoingTotal = sumLen s.outgoing) (max : Option Nat) :
    (max = none ∧ purgeGlue s max = (s, .glue none))
    ∨ (∃ m, max = some m
        ∧ purgeGlue s max =
          ({ s with outgoing := s.outgoing.dropWhile (unfit m), outgoingTotal := sumLen (s.outgoing.dropWhile (unfit m)),
                    sendBlocked := s.sendBlocked && !(headUnfit m s.outgoing) },
           .glue (some (headUnfit m s.outgoing, headUnfit m s.outgoing && s.sendBlocked)))) := by
  cases max with
  | none => exact Or.inl ⟨rfl, rfl⟩
  | some m =>
    refine Or.inr ⟨m, rfl, ?_⟩
    simp only [purgeGlue, dropOversizedFront_char s hi m]
    exact glue_result { s with outgoing := s.outgoing.dropWhile (unfit m),
                               outgoingTotal := sumLen (s.outgoing.dropWhile (unfit m)) } _

theorem blackHoleGlue_char (s : State) (hi : s.outgoingTotal = sumLen s.outgoing) (max : Option Nat) :
    (max = none ∧ blackHoleGlue s max = (s, .glue none))
    ∨ (∃ m, max = some m
        ∧ blackHoleGlue s max =
          ({ s with outgoing := s.outgoing.filter (keep m), outgoingTotal := sumLen (s.outgoing.filter (keep m)),
                    sendBlocked := s.sendBlocked && !(s.outgoing.any (fun d => !keep m d)) },
           .glue (some (s.outgoing.any (fun d => !keep m d), s.outgoing.any (fun d => !keep m d) && s.sendBlocked)))) := by
  cases max with
  | none => exact Or.inl ⟨rfl, rfl⟩
  | some m =>
    refine Or.inr ⟨m, rfl, ?_⟩
    simp only [blackHoleGlue, dropOversized_char s hi m]
    exact glue_result { s with outgoing := s.outgoing.filter (keep m), outgoingTotal := sumLen (s.outgoing.filter (keep m)) } _

theorem head_dropWhile_fits (m : Nat) : ∀ (q : List Bytes) (d : Bytes) (rest : List Bytes),
    q.dropWhile (unfit m) = d :: rest → d.length ≤ m := by
  intro q
  induction q with
  | nil => intro d rest h; cases h
  | cons x q ih =>
    intro d rest h
    rw [List.dropWhile_cons] at h
    cases hu : unfit m x with
    | true => rw [hu, if_pos rfl] at h; exact ih d rest h
    | false =>
      rw [hu, if_neg Bool.false_ne_true] at h
      cases h
      exact Nat.le_of_not_lt fun hlt => by rw [(unfit_iff m x).2 hlt] at hu; cases hu

/-- the receiving side's reading of a DATAGRAM-with-length frame (spec): type, varint length, payload -/
def decodeFrame (bs : Bytes) : Option (Bytes × Bytes) :=
  match VarInt.decode bs with
  | some (ty, r1) =>
    if ty = Gen.dgFrameTypeWithLen then
      match VarInt.decode r1 with
      | some (len, r2) => if r2.length < len then none else some (r2.take len, r2.drop len)
      | none => none
    else none
  | none => none

theorem frame_ok (d : Bytes) (h : d.length < 2^62) :
    ∃ fs fr, frameSize d = some fs ∧ encodeFrame d = some fr ∧ fr.length = fs ∧ fs ≤ d.length + Gen.dgSizeBound
      ∧ ∀ rest, decodeFrame (fr ++ rest) = some (d, rest) := by
  obtain ⟨el, sl, he, hs, hl⟩ := VarInt.size_eq_encode_length d.length h
  have hfrom : VarInt.fromU64 d.length = some d.length := if_pos h
  have htyenc : VarInt.encode Gen.dgFrameTypeWithLen = some [49] := by decide
  have hsl : sl ≤ 8 := hl ▸ VarInt.encode_length_le he
  refine ⟨Gen.dgFrameSize sl d.length, [49] ++ el ++ d, ?_, ?_, ?_, ?_, ?_⟩
  · simp only [frameSize, hfrom, hs]
  · simp only [encodeFrame, htyenc, hfrom, he]
  · simp only [Gen.dgFrameSize, List.length_append, List.length_cons, List.length_nil, hl, if_true]
  · show 1 + sl + d.length ≤ d.length + (1 + 8); omega
  · intro rest
    obtain ⟨el', he', hd'⟩ := VarInt.encode_decodes h
    rw [he] at he'; cases he'
    have h49 : VarInt.decode ([49] ++ el ++ d ++ rest) = some (Gen.dgFrameTypeWithLen, el ++ (d ++ rest)) := by
      rw [List.append_assoc, List.append_assoc]; rfl
    have : ¬ (d ++ rest).length < d.length := by rw [List.length_append]; omega
    simp only [decodeFrame, h49, if_true, hd', this, if_false, List.take_left', List.drop_left']

theorem write_char (s : State) (hi : Inv s) (buf : Bytes) (max : Nat) :
    (write s buf max = (s, .wrote false buf)
      ∧ (s.outgoing = [] ∨ ∃ d rest fs, s.outgoing = d :: rest ∧ frameSize d = some fs ∧ max < buf.length + fs))
    ∨ (∃ d rest fs fr, s.outgoing = d :: rest ∧ frameSize d = some fs ∧ encodeFrame d = some fr ∧ fr.length = fs
        ∧ buf.length + fs ≤ max
        ∧ write s buf max =
            ({ s with outgoing := rest, outgoingTotal := sumLen rest }, .wrote true (buf ++ fr))) := by
  unfold write
  cases h : s.outgoing with
  | nil => exact Or.inl ⟨rfl, Or.inl rfl⟩
  | cons d rest =>
    obtain ⟨fs, fr, hfs, hfr, hlen, _, _⟩ := frame_ok d (hi.sane d (by rw [h]; exact List.mem_cons_self))
    have ht : s.outgoingTotal = sumLen (d :: rest) := h ▸ hi.out
    dsimp only
    rw [hfs, hfr]
    dsimp only
    cases hn : Gen.dgNoRoom buf.length fs max with
    | true => exact Or.inl ⟨by rw [if_pos rfl], Or.inr ⟨d, rest, fs, rfl, hfs, of_decide_eq_true hn⟩⟩
    | false =>
      refine Or.inr ⟨d, rest, fs, fr, rfl, hfs, hfr, hlen, Nat.le_of_not_lt (of_decide_eq_false hn), ?_⟩
      rw [if_neg Bool.false_ne_true, ht, if_neg (show ¬ sumLen (d :: rest) < d.length from head_le_sumLen d rest 0),
        show sumLen (d :: rest) - d.length = sumLen rest from sumLen_cons_sub d rest 0]

def encAll : List Bytes → Bytes
  | [] => []
  | d :: q => (match encodeFrame d with | some fr => fr | none => []) ++ encAll q

theorem writeLoopAux_char (max : Nat) : ∀ (fuel : Nat) (s : State) (buf : Bytes) (n0 : Nat), Inv s →
    s.outgoing.length < fuel →
    ∃ k, writeLoopAux max fuel s buf n0 =
        ({ s with outgoing := s.outgoing.drop k, outgoingTotal := sumLen (s.outgoing.drop k) },
         buf ++ encAll (s.outgoing.take k), n0 + k, false)
      ∧ k ≤ s.outgoing.length
      ∧ (0 < k → (buf ++ encAll (s.outgoing.take k)).length ≤ max) := by
  intro fuel
  induction fuel with
  | zero => intro s _ _ _ h; exact absurd h (Nat.not_lt_zero _)
  | succ fuel ih =>
    intro s buf n0 hi hf
    -- leaving the loop at once (`k = 0`): nothing dropped, nothing written
    have stop : (s, buf, n0, false) = ({ s with outgoing := s.outgoing.drop 0, outgoingTotal := sumLen (s.outgoing.drop 0) },
        buf ++ encAll (s.outgoing.take 0), n0 + 0, false) := by
      rw [List.drop_zero, ← hi.out]; exact congrArg (fun x => (s, x, n0, false)) (List.append_nil buf).symm
    cases hg : Gen.dgLoopGuard buf.length max with
    | false => exact ⟨0, by rw [writeLoopAux, hg, if_neg Bool.false_ne_true]; exact stop, Nat.zero_le _, nofun⟩
    | true =>
      rcases write_char s hi buf max with ⟨hw, _⟩ | ⟨d, rest, fs, fr, hq, hfs, hfr, hlen, hfit, hw⟩
      · exact ⟨0, by rw [writeLoopAux, if_pos hg, hw]; exact stop, Nat.zero_le _, nofun⟩
      · obtain ⟨k, h1, h2, h3⟩ := ih { s with outgoing := rest, outgoingTotal := sumLen rest } (buf ++ fr) (n0 + 1)
          ⟨rfl, hi.inc, fun x hx => hi.sane x (by rw [hq]; exact List.mem_cons_of_mem _ hx)⟩
          (Nat.lt_of_succ_lt_succ (by rw [hq] at hf; exact hf))
        have henc : buf ++ encAll ((d :: rest).take (k + 1)) = buf ++ fr ++ encAll (rest.take k) := by
          rw [List.take_succ_cons, encAll, hfr, List.append_assoc]
        refine ⟨k + 1, ?_, by rw [hq]; exact Nat.succ_le_succ h2, fun _ => ?_⟩
        · rw [writeLoopAux, if_pos hg, hw, hq, henc, show n0 + (k + 1) = n0 + 1 + k from by omega]
          exact h1
        · rw [hq, henc]
          cases k with
          | zero => rw [List.take_zero, encAll, List.append_nil, List.length_append, hlen]; exact hfit
          | succ k => exact h3 (Nat.succ_pos k)

theorem writeLoop_char (s : State) (hi : Inv s) (buf : Bytes) (max : Nat) :
    ∃ k, k ≤ s.outgoing.length
      ∧ writeLoop s buf max =
        ({ s with outgoing := s.outgoing.drop k, outgoingTotal := sumLen (s.outgoing.drop k),
                  sendBlocked := s.sendBlocked && decide (k = 0) },
         .loop k (buf ++ encAll (s.outgoing.take k)) (s.sendBlocked && decide (0 < k)))
      ∧ (0 < k → (buf ++ encAll (s.outgoing.take k)).length ≤ max) := by
  obtain ⟨k, h1, h2, h3⟩ := writeLoopAux_char max (s.outgoing.length + 1) s buf 0 hi (Nat.lt_succ_self _)
  refine ⟨k, h2, ?_, h3⟩
  simp only [writeLoop, h1, Nat.zero_add]
  cases k <;> cases s.sendBlocked <;> rfl

theorem mem_of_mem_drop' {α} (x : α) (l : List α) (k : Nat) (h : x ∈ l.drop k) : x ∈ l := List.mem_of_mem_drop h

/-- what one operation from a consistent state `s` achieves -/
structure StepOk (s : State) (op : Op) (r : State × Out) : Prop where
  inv : Inv r.1
  noPanic : r.2 ≠ .panic
  noHang : r.2 ≠ .hang
  outgoing : r.1.outgoing.Sublist s.outgoing
    ∨ ∃ d drop en max b, op = .send d drop en max b ∧ r.2 = .sendOk ∧ r.1.outgoingTotal ≤ b
  incoming : (r.1.incoming = s.incoming ∨ op = .recv ∧ r.1.incoming.Sublist s.incoming)
    ∨ ∃ d w e, op = .received d (some w) ∧ r.2 = .rcvOk e ∧ r.1.recvBuffered ≤ w

theorem step_ok (s : State) (hi : Inv s) (op : Op) (hw : op.WF) : StepOk s op (step s op) := by
  have same : ∀ o : Out, o ≠ .panic → o ≠ .hang → StepOk s op (s, o) :=
    fun o h1 h2 => ⟨hi, h1, h2, Or.inl (List.Sublist.refl _), Or.inl (Or.inl rfl)⟩
  have shrink : ∀ (q : List Bytes) (b : Bool) (o : Out), q.Sublist s.outgoing → o ≠ .panic → o ≠ .hang →
      StepOk s op ({ s with outgoing := q, outgoingTotal := sumLen q, sendBlocked := b }, o) :=
    fun q b o hq h1 h2 => ⟨⟨rfl, hi.inc, fun x hx => hi.sane x (hq.subset hx)⟩, h1, h2, Or.inl hq, Or.inl (Or.inl rfl)⟩
  cases op <;> simp only [step]
  case send d drop en max b =>
    obtain ⟨hb, hm⟩ := hw
    -- being within the maximum (`Op.WF`), the datagram queued is varint-encodable
    have queued : ∀ m q, max = some m → d.length ≤ Nat.min m b → q.Sublist s.outgoing → sumLen q + d.length ≤ b →
        StepOk s (.send d drop en max b) ({ s with outgoing := q ++ [d], outgoingTotal := sumLen q + d.length }, .sendOk) := by
      intro m q hmx hle hq hfit
      refine ⟨⟨by rw [sumLen_append]; rfl, hi.inc, fun x hx => ?_⟩, nofun, nofun,
        Or.inr ⟨d, drop, en, max, b, rfl, rfl, hfit⟩, Or.inl (Or.inl rfl)⟩
      rcases List.mem_append.1 hx with hx | hx
      · exact hi.sane x (hq.subset hx)
      · cases List.mem_singleton.1 hx
        exact Nat.lt_of_le_of_lt (Nat.le_trans hle (Nat.min_le_left _ _)) (hm m hmx)
    have h := send_sent s hi d drop en max b hb
    generalize send s d drop en max b = r at h
    cases h with
    | disabled | unsupported | tooLarge => exact same _ nofun nofun
    | blocked => exact ⟨⟨hi.out, hi.inc, hi.sane⟩, nofun, nofun, Or.inl (List.Sublist.refl _), Or.inl (Or.inl rfl)⟩
    | queued hle hfit => rw [hi.out] at hfit ⊢; exact queued _ _ rfl hle (List.Sublist.refl _) hfit
    | evicted k hle hfit => exact queued _ _ rfl hle (List.drop_sublist k _) hfit
  case received d w =>
    rcases received_char s hi.inc d w with ⟨_, h⟩ | ⟨w', _, _, h⟩ | ⟨w', _, _, _, h⟩ | ⟨w', k, rfl, _, h, hle, _⟩
      <;> rw [h]
    · exact same _ nofun nofun
    · exact same _ nofun nofun
    · exact same _ nofun nofun
    · exact ⟨⟨hi.out, by rw [sumCost_append]; rfl, hi.sane⟩, nofun, nofun, Or.inl (List.Sublist.refl _),
        Or.inr ⟨d, w', _, rfl, rfl, hle⟩⟩
  case recv =>
    rcases recv_char s hi.inc with ⟨_, h⟩ | ⟨x, rest, hx, h⟩ <;> rw [h]
    · exact same _ nofun nofun
    · exact ⟨⟨hi.out, rfl, hi.sane⟩, nofun, nofun, Or.inl (List.Sublist.refl _),
        Or.inl (Or.inr ⟨rfl, hx ▸ List.sublist_cons_self x rest⟩)⟩
  case write buf m =>
    rcases write_char s hi buf m with ⟨h, _⟩ | ⟨d, rest, fs, fr, hq, _, _, _, _, h⟩ <;> rw [h]
    · exact same _ nofun nofun
    · exact shrink rest _ _ (hq ▸ List.sublist_cons_self d rest) nofun nofun
  case writeLoop buf m =>
    obtain ⟨k, _, h, _⟩ := writeLoop_char s hi buf m
    rw [h]; exact shrink _ _ _ (List.drop_sublist k _) nofun nofun
  case dropOversized m =>
    rw [dropOversized_char s hi.out m]; exact shrink _ _ _ List.filter_sublist nofun nofun
  case blackHoleGlue max =>
    rcases blackHoleGlue_char s hi.out max with ⟨_, h⟩ | ⟨m, _, h⟩ <;> rw [h]
    · exact same _ nofun nofun
    · exact shrink _ _ _ List.filter_sublist nofun nofun
  case purgeGlue max =>
    rcases purgeGlue_char s hi.out max with ⟨_, h⟩ | ⟨m, _, h⟩ <;> rw [h]
    · exact same _ nofun nofun
    · exact shrink _ _ _ (List.dropWhile_sublist _) nofun nofun

def exec (s : State) : List Op → State
  | [] => s
  | op :: ops => exec (step s op).1 ops

def trace (s : State) : List Op → List (Op × Out)
  | [] => []
  | op :: ops => (op, (step s op).2) :: trace (step s op).1 ops

theorem exec_induct (C : Op → Prop) (P : State → Prop) (hstep : ∀ s op, P s → C op → P (step s op).1)
    (ops : List Op) : ∀ s, P s → (∀ op ∈ ops, C op) → P (exec s ops) := by
  induction ops with
  | nil => intro s h _; exact h
  | cons op ops ih =>
    intro s h hc
    exact ih _ (hstep s op h (hc op List.mem_cons_self)) (fun o ho => hc o (List.mem_cons_of_mem _ ho))

theorem exec_inv (ops : List Op) (s : State) (hi : Inv s) (hw : ∀ op ∈ ops, op.WF) : Inv (exec s ops) :=
  exec_induct Op.WF Inv (fun s op hi hw => (step_ok s hi op hw).inv) ops s hi hw

theorem trace_no_panic (ops : List Op) : ∀ (s : State), Inv s → (∀ op ∈ ops, op.WF) →
    ∀ e ∈ trace s ops, e.2 ≠ .panic ∧ e.2 ≠ .hang := by
  induction ops with
  | nil => intro s _ _ e he; cases he
  | cons op ops ih =>
    intro s hi hw e he
    have hs := step_ok s hi op (hw op List.mem_cons_self)
    rcases List.mem_cons.1 he with rfl | he
    · exact ⟨hs.noPanic, hs.noHang⟩
    · exact ih _ hs.inv (fun o ho => hw o (List.mem_cons_of_mem _ ho)) e he

def accepted : List (Op × Out) → List Bytes
  | [] => []
  | (.received d _, .rcvOk _) :: t => d :: accepted t
  | _ :: t => accepted t

def delivered : List (Op × Out) → List Bytes
  | [] => []
  | (.recv, .recvSome d) :: t => d :: delivered t
  | _ :: t => delivered t

/-- one operation in front of a run `t` (ending with `rest` buffered) keeps the FIFO relation -/
theorem fifo_step (s : State) (hi : Inv s) (op : Op) (hw : op.WF) (t : List (Op × Out)) (rest : List Bytes)
    (ih : (delivered t ++ rest).Sublist ((step s op).1.incoming ++ accepted t)) :
    (delivered ((op, (step s op).2) :: t) ++ rest).Sublist (s.incoming ++ accepted ((op, (step s op).2) :: t)) := by
  -- an operation of the send half: neither list changes
  have other : (∀ d w, op ≠ .received d w) → op ≠ .recv → (delivered t ++ rest).Sublist (s.incoming ++ accepted t) :=
    fun h1 h2 => match (step_ok s hi op hw).incoming with
      | .inl (.inl h) => h ▸ ih
      | .inl (.inr h) => absurd h.1 h2
      | .inr ⟨d, w, _, h, _⟩ => absurd h (h1 d (some w))
  cases op
  case recv =>
    simp only [step] at ih ⊢
    rcases recv_char s hi.inc with ⟨_, h⟩ | ⟨x, tl, hx, h⟩ <;> rw [h] at ih ⊢
    · exact ih
    · rw [hx]; exact List.Sublist.cons_cons x ih
  case received d w =>
    simp only [step] at ih ⊢
    rcases received_char s hi.inc d w with ⟨_, h⟩ | ⟨w', _, _, h⟩ | ⟨w', _, _, _, h⟩ | ⟨w', k, _, _, h, _, _⟩
      <;> rw [h] at ih ⊢
    · exact ih
    · exact ih
    · exact ih.trans (List.Sublist.append (List.Sublist.refl _) (List.sublist_cons_self _ _))
    · refine ih.trans ?_
      show (s.incoming.drop k ++ [d] ++ _).Sublist (s.incoming ++ d :: _)
      rw [List.append_assoc]
      exact List.Sublist.append (List.drop_sublist k s.incoming) (List.Sublist.refl _)
  all_goals exact other nofun nofun

theorem fifo_general (ops : List Op) : ∀ (s : State), Inv s → (∀ op ∈ ops, op.WF) →
    (delivered (trace s ops) ++ (exec s ops).incoming).Sublist (s.incoming ++ accepted (trace s ops)) := by
  induction ops with
  | nil => intro s _ _; exact List.sublist_append_left _ _
  | cons op ops ih =>
    intro s hi hw
    have hop := hw op List.mem_cons_self
    exact fifo_step s hi op hop _ _
      (ih (step s op).1 (step_ok s hi op hop).inv (fun o ho => hw o (List.mem_cons_of_mem _ ho)))

theorem step_total (s : State) (hi : Inv s) (op : Op) (hw : op.WF) :
    (step s op).1.outgoingTotal ≤ s.outgoingTotal
    ∨ ∃ d drop en max b, op = .send d drop en max b ∧ (step s op).2 = .sendOk ∧ (step s op).1.outgoingTotal ≤ b := by
  have h := step_ok s hi op hw
  exact h.outgoing.imp (fun h' => by rw [h.inv.out, hi.out]; exact sumLen_sublist h') id

theorem total_le_fixed (b : Nat) (ops : List Op) (s : State) (hi : Inv s) (h0 : s.outgoingTotal ≤ b)
    (hw : ∀ op ∈ ops, op.WF ∧ ∀ d drop en max b', op = .send d drop en max b' → b' = b) :
    (exec s ops).outgoingTotal ≤ b :=
  (exec_induct _ (fun s => Inv s ∧ s.outgoingTotal ≤ b) (fun s op h hop => ⟨(step_ok s h.1 op hop.1).inv, by
    rcases step_total s h.1 op hop.1 with h' | ⟨d, drop, en, max, b', hop', _, h'⟩
    · exact Nat.le_trans h' h.2
    · exact hop.2 d drop en max b' hop' ▸ h'⟩) ops s ⟨hi, h0⟩ hw).2

theorem step_buffered (s : State) (hi : Inv s) (op : Op) (hw : op.WF) :
    (step s op).1.recvBuffered ≤ s.recvBuffered
    ∨ ∃ d w e, op = .received d (some w) ∧ (step s op).2 = .rcvOk e ∧ (step s op).1.recvBuffered ≤ w := by
  have h := step_ok s hi op hw
  exact h.incoming.imp (fun h' => by
    rw [h.inv.inc, hi.inc]
    exact h'.elim (fun e => e ▸ Nat.le_refl _) (fun h' => sumCost_sublist h'.2)) id

theorem buffered_le_fixed (w : Nat) (ops : List Op) (s : State) (hi : Inv s) (h0 : s.recvBuffered ≤ w)
    (hw : ∀ op ∈ ops, op.WF ∧ ∀ d w', op = .received d (some w') → w' = w) :
    (exec s ops).recvBuffered ≤ w :=
  (exec_induct _ (fun s => Inv s ∧ s.recvBuffered ≤ w) (fun s op h hop => ⟨(step_ok s h.1 op hop.1).inv, by
    rcases step_buffered s h.1 op hop.1 with h' | ⟨d, w', e, hop', _, h'⟩
    · exact Nat.le_trans h' h.2
    · exact hop.2 d w' hop' ▸ h'⟩) ops s ⟨hi, h0⟩ hw).2

/-- `max_size()` in one piece: the two checked subtractions fail together exactly below `overhead + SIZE_BOUND` -/
theorem maxSize_eq (mtu oh : Nat) (peer : Option Nat) :
    maxSize mtu oh peer = if mtu < oh + Gen.dgSizeBound then none
      else some (peer.map fun p => Nat.min (p - Gen.dgSizeBound) (mtu - oh - Gen.dgSizeBound)) := by
  fun_cases maxSize mtu oh peer
  · rw [if_pos (by omega)]
  · rw [if_pos (by omega)]
  · rw [if_neg (by omega)]; rfl
  · rw [if_neg (by omega)]; rfl

theorem maxSize_none_iff (mtu oh : Nat) (peer : Option Nat) :
    maxSize mtu oh peer = none ↔ mtu < oh + Gen.dgSizeBound := by
  rw [maxSize_eq]; split
  · exact ⟨fun _ => ‹_›, fun _ => rfl⟩
  · exact ⟨nofun, fun h => absurd h ‹_›⟩

theorem maxSize_some (mtu oh : Nat) (peer : Option Nat) (r : Option Nat) (h : maxSize mtu oh peer = some r) :
    (r = none ↔ peer = none)
    ∧ ∀ m, r = some m → m + oh + Gen.dgSizeBound ≤ mtu
        ∧ ∃ p, peer = some p ∧ m ≤ p - Gen.dgSizeBound
        ∧ m = Nat.min (p - Gen.dgSizeBound) (mtu - oh - Gen.dgSizeBound) := by
  rw [maxSize_eq] at h
  split at h
  · cases h
  · cases h
    cases peer with
    | none => exact ⟨⟨fun _ => rfl, fun _ => rfl⟩, nofun⟩
    | some p =>
      refine ⟨⟨nofun, nofun⟩, fun m hm => ?_⟩
      cases hm
      refine ⟨?_, p, rfl, Nat.min_le_left _ _, rfl⟩
      show Nat.min (p - Gen.dgSizeBound) (mtu - oh - Gen.dgSizeBound) + oh + Gen.dgSizeBound ≤ mtu
      rw [Nat.add_assoc]
      exact Nat.add_le_of_le_sub (Nat.le_of_not_lt ‹_›) (Nat.sub_sub mtu oh _ ▸ Nat.min_le_right _ _)

theorem overhead_le (cid : Nat) (scid : Option Nat) (h : cid ≤ 20) (hs : ∀ l, scid = some l → l ≤ 20) :
    overhead cid scid ≤ 69 := by
  cases scid with
  | none => simp only [overhead, Gen.dgOverhead, Gen.dgPnLenBound, Gen.dgTagLenGuess]; omega
  | some l =>
    have := hs l rfl
    simp only [overhead, Gen.dgOverhead, Gen.dgPnLenBound, Gen.dgTagLenGuess, Gen.dgLongHeaderExtra]; omega

/-! What `max_size()` promises, measured on the packet as it is really built (RFC 9000 §17.2, §17.3): the layouts are
written down from the RFC, not from `predict_1rtt_overhead`. -/

/-- length of a 1-RTT packet: flags, destination CID, packet number, payload, AEAD tag (RFC 9000 §17.3.1) -/
def shortPacketLen (dcid pn payload tag : Nat) : Nat := 1 + dcid + pn + payload + tag

/-- length of a 0-RTT packet: flags, version (4), DCID length + DCID, SCID length + SCID, Length (quinn always
    writes the two-byte form), packet number, payload, AEAD tag (RFC 9000 §17.2.3) -/
def zeroRttPacketLen (dcid scid pn payload tag : Nat) : Nat := 1 + 4 + (1 + dcid) + (1 + scid) + 2 + pn + payload + tag

/-- the packet that carries application data with the keys at hand (`scid = some l`: only 0-RTT keys) -/
def dataPacketLen (dcid : Nat) (scid : Option Nat) (pn payload tag : Nat) : Nat :=
  match scid with
  | none => shortPacketLen dcid pn payload tag
  | some l => zeroRttPacketLen dcid l pn payload tag

theorem frameSize_le (d : Bytes) (h : d.length < 2^62) : ∃ fs, frameSize d = some fs ∧ fs ≤ d.length + Gen.dgSizeBound :=
  let ⟨fs, _, hfs, _, _, hle, _⟩ := frame_ok d h
  ⟨fs, hfs, hle⟩

/-- the header really in use is within what `predict_1rtt_overhead` allows for, whatever the packet-number length -/
theorem dataPacketLen_le (dcid : Nat) (scid : Option Nat) (pn payload : Nat) (hpn : pn ≤ 4) :
    dataPacketLen dcid scid pn payload Gen.dgTagLenGuess ≤ overhead dcid scid + payload := by
  cases scid with
  | none => show 1 + dcid + pn + payload + 16 ≤ 1 + dcid + 4 + 16 + 0 + payload; omega
  | some l => show 1 + 4 + (1 + dcid) + (1 + l) + 2 + pn + payload + 16 ≤ 1 + dcid + 4 + 16 + (4 + 1 + 1 + l + 2) + payload; omega

end QM.Datagrams
