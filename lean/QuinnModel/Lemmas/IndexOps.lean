import QuinnModel.Lemmas.IndexBase
/-
The calls of the endpoint, one by one: why each keeps `Sound` (a composition of the part lemmas) and, for the
helpers and for `connect`, `accept` and `Drained`, which the lemmas about the address-tuple tables take apart
too, what the call does to the state (`*_spec`, `*_cases`: in terms of the lookups; `Added` and `Removed` say
what adding and removing a connection do to the tables).
-/
namespace QM.Index

variable {s s' s1 s2 s3 : State} {ch idx seq n : Nat} {cands c1 c' : List Cid} {id loc initCid locCid dcid d : Cid}
  {m conn : Meta} {remote : Addr} {token : Token} {allow tls : Bool} {ix ix' : Index} {a addresses : FourTuple}
  {side : Side} {pref : Option Cid} {inc : Slab Pending} {res : ConnectResult} {ids : List (Nat × Cid)}
  {tbl : List (Cid × RouteTo)} {p : Pending} {data : Bytes} {mode : AcceptMode}

theorem newCid_spec (h : newCid s ch cands = some (id, s1, c1)) :
    (id = [] ↔ s.cidLen = 0) ∧ (id ≠ [] → alookup id s.index.ids = none) ∧
    ∃ ids', s1 = { s with index := { s.index with ids := ids' } } ∧
      ∀ c, alookup c ids' = if c ≠ [] ∧ id = c then some ch else alookup c s.index.ids := by
  revert h
  fun_induction newCid s ch cands
  case case1 h0 | case3 c rest h0 =>
    intro h; cases h
    exact ⟨⟨fun _ => h0, fun _ => rfl⟩, fun e => absurd rfl e, s.index.ids, rfl,
      fun c => (if_neg fun h => h.1 h.2.symm).symm⟩
  case case5 c rest h0 hne hnone =>
    intro h; cases h
    have hc : id ≠ [] := by intro e; simp [e] at hne
    exact ⟨⟨fun e => absurd e hc, fun e => absurd e h0⟩, fun _ => hnone, _, rfl,
      alookup_ainsert_nonempty hc ch _⟩
  case case6 ih => exact ih
  all_goals intro h; cases h

theorem sound_resetToken (hs : Sound s) (h : evResetToken s ch remote token = some s') : Sound s' := by
  revert h
  fun_cases evResetToken s ch remote token
  case case1 => intro h; cases h
  case case2 m hm conns toks =>
    intro h; cases h
    obtain ⟨hc, hi, hin, hout, htok⟩ := sound_iff.mp hs
    have u := Slab.upd_set hm { m with resetToken := some (remote, token) }
    have wf := hc.wf ch m hm
    -- `gain` of no key: the slot changes, the CIDs it holds do not
    refine sound_iff.mpr ⟨hc.gain (K := fun _ => False) u ⟨wf.inj, wf.lt, wf.nodup⟩ (fun c => by simp [Meta.Holds])
      (fun _ h => h.elim) fun c => (if_neg fun h => h.2).symm, hi.same u.dcidOf_conn rfl, hin.set u fun _ h => h,
      hout.set u fun _ h => h, ?_⟩
    -- erasing the old token leaves no entry for `ch`; then the new one is registered
    have h0 : ∀ k, alookup k toks = if m.resetToken = some k then none else alookup k s.index.tokens := by
      intro k; dsimp only [toks]; cases m.resetToken <;> simp [alookup_aerase]
    refine Refs.gain (C := fun k => (remote, token) = k) (fun k h hk => htok k h ?_) u
      (fun k => alookup_ainsert _ _ _ _) (fun k e => e ▸ rfl) (fun k x e hk p => ?_)
    · rw [h0] at hk; split at hk
      · cases hk
      · exact hk
    · cases e; rw [h0, if_pos p] at hk; cases hk

theorem sound_sendNewIdentifiers (hs : Sound s) (h : sendNewIdentifiers s ch n cands = some (s', ids, c')) :
    Sound s' := by
  fun_induction sendNewIdentifiers s ch n cands generalizing ids
  case case1 => cases h; exact hs
  case case5 s n cands id s1 c1 hnew m hm seq m' s2 ids2 c2 hrec ih =>
    cases h
    refine ih ?_ hrec
    obtain ⟨-, hfresh, ids', rfl, hids⟩ := newCid_spec hnew
    obtain ⟨hc, hi, hin, hout, htok⟩ := sound_iff.mp hs
    have u := Slab.upd_set hm m'
    exact sound_iff.mpr ⟨hc.issue u rfl rfl hfresh hids, hi.same u.dcidOf_conn rfl, hin.set u fun _ h => h,
      hout.set u fun _ h => h, htok.set u fun _ h => h⟩
  all_goals cases h

/-- `RetireConnectionId` up to the replacement CIDs (`send_new_identifiers`) -/
theorem sound_retire_step (hs : Sound s) (hm : s.conns.get ch = some m) (hcid : alookup seq m.locCids = some d) :
    Sound { s with conns := s.conns.set ch { m with locCids := aerase seq m.locCids },
                   index := s.index.retire d } := by
  obtain ⟨hc, hi, hin, hout, htok⟩ := sound_iff.mp hs
  have u := Slab.upd_set hm { m with locCids := aerase seq m.locCids }
  exact sound_iff.mpr ⟨hc.retire u rfl rfl hcid (fun c => alookup_aerase d c s.index.ids),
    hi.same u.dcidOf_conn rfl, hin.set u fun _ h => h, hout.set u fun _ h => h, htok.set u fun _ h => h⟩

theorem sound_retire
    {r : Option (List (Nat × Cid))} (hs : Sound s) (h : evRetire s ch seq allow cands = some (s', r)) :
    Sound s' := by
  revert h
  fun_cases evRetire s ch seq allow cands
  case case2 => intro h; cases h; exact hs
  case case4 m hm cid hcid s1 _ s2 ids c2 hsend =>
    intro h; cases h; exact sound_sendNewIdentifiers (sound_retire_step hs hm hcid) hsend
  case case5 m hm cid hcid s1 _ =>
    intro h; rw [← (Prod.mk.inj (Option.some.inj h)).1]; exact sound_retire_step hs hm hcid
  all_goals intro h; cases h

theorem removeInitial_spec (h : ix.removeInitial d = some ix') :
    ∃ tbl, ix' = { ix with idsInitial := tbl } ∧
      ∀ k, alookup k tbl = if d ≠ [] ∧ d = k then none else alookup k ix.idsInitial := by
  unfold Index.removeInitial at h
  split at h
  · rename_i he
    cases h
    have : d = [] := by simpa using he
    exact ⟨ix.idsInitial, rfl, fun k => by simp [this]⟩
  · rename_i he
    have hne : d ≠ [] := by simpa using he
    split at h
    · cases h; exact ⟨_, rfl, fun k => by simp [alookup_aerase, hne]⟩
    · cases h

theorem removeInitial_eq_none (h : ix.removeInitial d = none) : d ≠ [] ∧ alookup d ix.idsInitial = none := by
  unfold Index.removeInitial at h
  split at h
  · cases h
  · rename_i he
    split at h
    · cases h
    · exact ⟨by simpa using he, ‹_›⟩

/-- what `ConnectionIndex::remove(ch, conn)` leaves in each table -/
structure Removed (ix : Index) (ch : Nat) (conn : Meta) (ix' : Index) : Prop where
  idsInitial : ∀ k, alookup k ix'.idsInitial =
    if conn.side = .server ∧ conn.initCid ≠ [] ∧ conn.initCid = k then none else alookup k ix.idsInitial
  ids : ∀ c, alookup c ix'.ids = if c ∈ conn.locCids.map (fun e => e.2) then none else alookup c ix.ids
  inR : ∀ a, alookup a ix'.inRemotes =
    if conn.addresses = a ∧ alookup a ix.inRemotes = some ch then none else alookup a ix.inRemotes
  outR : ∀ r, alookup r ix'.outRemotes =
    if conn.addresses.remote = r ∧ alookup r ix.outRemotes = some ch then none else alookup r ix.outRemotes
  tokens : ∀ k, alookup k ix'.tokens = if conn.resetToken = some k then none else alookup k ix.tokens

theorem Index.remove_spec (h : ix.remove ch conn = some ix') : Removed ix ch conn ix' := by
  unfold Index.remove at h
  split at h
  · cases h
  · rename_i ix1 h1
    obtain ⟨tbl, rfl, e⟩ : ∃ tbl, ix1 = { ix with idsInitial := tbl } ∧ ∀ k, alookup k tbl =
        if conn.side = .server ∧ conn.initCid ≠ [] ∧ conn.initCid = k then none else alookup k ix.idsInitial := by
      split at h1
      · rename_i hsv
        obtain ⟨tbl, rfl, e⟩ := removeInitial_spec h1
        exact ⟨tbl, rfl, fun k => by rw [e k]; simp [hsv]⟩
      · rename_i hsv
        cases h1
        exact ⟨_, rfl, fun k => by simp [hsv]⟩
    have hix' : ix' = {
        idsInitial := tbl,
        ids := eraseAll (conn.locCids.map (fun (e : Nat × Cid) => e.2)) ix.ids,
        inRemotes := if alookup conn.addresses ix.inRemotes = some ch
          then aerase conn.addresses ix.inRemotes else ix.inRemotes,
        outRemotes := if alookup conn.addresses.remote ix.outRemotes = some ch
          then aerase conn.addresses.remote ix.outRemotes else ix.outRemotes,
        tokens := match conn.resetToken with
          | some k => aerase k ix.tokens
          | none => ix.tokens } := by
      cases h
      cases conn.resetToken <;> (dsimp only; split <;> split <;> rfl)
    subst hix'
    refine ⟨e, alookup_eraseAll _ _, alookup_eraseIf _ _ _, alookup_eraseIf _ _ _, fun k => ?_⟩
    cases conn.resetToken with
    | none => simp
    | some k0 => simp only [alookup_aerase, Option.some.injEq]

theorem evDrained_cases (h : evDrained s ch = some s') :
    (s.conns.get ch = none ∧ s' = s) ∨
    ∃ conn conns ix, Upd s.conns.get conns.get ch (some conn) none ∧ conns.next = ch ∧
      Removed s.index ch conn ix ∧ s' = { s with conns := conns, index := ix } := by
  revert h
  fun_cases evDrained s ch
  case case1 => intro h; cases h
  case case2 conn conns htr ix hrem =>
    intro h; cases h
    obtain ⟨u, hn⟩ := Slab.tryRemove_some htr
    exact Or.inr ⟨conn, conns, ix, u, hn, Index.remove_spec hrem, rfl⟩
  case case3 conns htr => intro h; cases h; exact Or.inl ⟨(Slab.tryRemove_none htr).2, rfl⟩

theorem sound_drained (hs : Sound s) (h : evDrained s ch = some s') : Sound s' := by
  obtain ⟨-, rfl⟩ | ⟨conn, conns, ix, u, -, hrem, rfl⟩ := evDrained_cases h
  · exact hs
  · obtain ⟨hc, hi, hin, hout, htok⟩ := sound_iff.mp hs
    exact sound_iff.mpr ⟨hc.remove u hrem.ids, hi.removeConn u hrem.idsInitial,
      hin.lose u hrem.inR fun a hp ha hn => absurd ⟨hp.2, ha⟩ hn,
      hout.lose u hrem.outR fun r hp hr hn => absurd ⟨hp.2, hr⟩ hn,
      htok.lose u hrem.tokens fun k hp _ hn => absurd hp hn⟩

/-- the `ConnectionMeta` that `add_connection` stores -/
def newMeta (initCid locCid : Cid) (addresses : FourTuple) (side : Side) (pref : Option Cid) : Meta :=
  ⟨initCid, (match pref with | some _ => 2 | none => 1),
    (match pref with | some cid => ainsert 1 cid (ainsert 0 locCid []) | none => ainsert 0 locCid []),
    addresses, side, none⟩

theorem newMeta_locCids (initCid locCid : Cid) (addresses : FourTuple) (side : Side) (pref : Option Cid)
    (q : Nat) (c : Cid) :
    alookup q (newMeta initCid locCid addresses side pref).locCids = some c ↔
      ((q = 0 ∧ c = locCid) ∨ (q = 1 ∧ pref = some c)) := by
  cases pref <;> (simp only [newMeta, alookup_ainsert, alookup_nil]; grind)

theorem newMeta_wf (initCid locCid : Cid) (addresses : FourTuple) (side : Side) (pref : Option Cid)
    (hne : ∀ c, pref = some c → c ≠ [] → c ≠ locCid) :
    (newMeta initCid locCid addresses side pref).WF := by
  have lc := newMeta_locCids initCid locCid addresses side pref
  refine ⟨fun q q' c hq hq' hce => ?_, fun q c hq => ?_, ?_⟩
  · rcases (lc q c).mp hq with ⟨rfl, rfl⟩ | ⟨rfl, h1⟩ <;> rcases (lc q' c).mp hq' with ⟨rfl, h2⟩ | ⟨rfl, h2⟩
    · rfl
    · exact absurd rfl (hne c h2 hce)
    · exact absurd h2 (hne c h1 hce)
    · rfl
  · rcases (lc q c).mp hq with ⟨rfl, -⟩ | ⟨rfl, h1⟩
    · cases pref <;> simp [newMeta]
    · subst h1; simp [newMeta]
  · cases pref with
    | none => exact nodup_keys_ainsert (by simp [keys])
    | some p => exact nodup_keys_ainsert (nodup_keys_ainsert (by simp [keys]))

theorem addConnection_spec (h : addConnection s ch initCid locCid addresses side pref = some s') :
    ∃ conns, Upd s.conns.get conns.get ch none (some (newMeta initCid locCid addresses side pref)) ∧
      s' = { s with conns := conns, index := s.index.insertConn addresses locCid ch side } := by
  unfold addConnection at h
  cases pref <;>
  · dsimp only at h
    split at h
    · cases h
    · rename_i id conns hins
      split at h
      · cases h
      · rename_i hid
        cases h
        have hid' : id = ch := by simpa using hid
        subst hid'
        exact ⟨conns, (Slab.insert_spec hins).2, rfl⟩

/-- what `ConnectionIndex::insert_conn(a, loc, ch, side)` leaves in each table -/
structure ConnInserted (ix : Index) (a : FourTuple) (loc : Cid) (ch : Nat) (side : Side) (ix' : Index) : Prop where
  idsInitial : ix'.idsInitial = ix.idsInitial
  tokens : ix'.tokens = ix.tokens
  ids : ∀ c, alookup c ix'.ids = if c ≠ [] ∧ loc = c then some ch else alookup c ix.ids
  inR : ∀ a', alookup a' ix'.inRemotes =
    if loc = [] ∧ side = .server ∧ a = a' then some ch else alookup a' ix.inRemotes
  outR : ∀ r, alookup r ix'.outRemotes =
    if loc = [] ∧ side = .client ∧ a.remote = r then some ch else alookup r ix.outRemotes

theorem insertConn_spec (ix : Index) (a : FourTuple) (loc : Cid) (ch : Nat) (side : Side) :
    ConnInserted ix a loc ch side (ix.insertConn a loc ch side) := by
  unfold Index.insertConn
  by_cases hl : loc = []
  · subst hl; cases side <;> constructor <;> simp [alookup_ainsert, eq_comm]
  · rw [if_neg fun e => hl (List.eq_nil_of_length_eq_zero e)]
    exact ⟨rfl, rfl, alookup_ainsert_nonempty hl ch _, fun _ => (if_neg fun h => hl h.1).symm,
      fun _ => (if_neg fun h => hl h.1).symm⟩

/-- `accept` draws the preferred-address CID, if one is wanted, by a second `new_cid` -/
def PrefDrawn (s1 s2 : State) (ch : Nat) (c1 : List Cid) (pref : Option Cid) : Prop :=
  (pref = none ∧ s2 = s1) ∨ ∃ cid c2, pref = some cid ∧ newCid s1 ch c1 = some (cid, s2, c2)

theorem prefDrawn_of_accept (hp : (if s1.prefAddr then
      match newCid s1 ch c1 with
      | none => none
      | some (cid, s2, c2) => some (some cid, s2, c2)
    else some (none, s1, c1)) = some (pref, s2, c')) : PrefDrawn s1 s2 ch c1 pref := by
  split at hp
  · split at hp
    · cases hp
    · rename_i cid s2' c2' hn2; cases hp; exact Or.inr ⟨cid, _, rfl, hn2⟩
  · cases hp; exact Or.inl ⟨rfl, rfl⟩

/-- connection `ch` has been added to `s`: it enters the vacant slot `ch` and is registered under its non-empty
    CIDs, or else under its address tuple -/
structure Added (s : State) (ch : Nat) (initCid loc : Cid) (a : FourTuple) (side : Side) (pref : Option Cid)
    (s' : State) : Prop where
  zero : loc = [] ↔ s.cidLen = 0
  fresh : ∀ c, (loc = c ∨ pref = some c) → c ≠ [] →
    alookup c s.index.ids = none ∧ (pref = some c → c ≠ loc)
  cidLen : s'.cidLen = s.cidLen
  incoming : s'.incoming = s.incoming
  conns : Upd s.conns.get s'.conns.get ch none (some (newMeta initCid loc a side pref))
  idsInitial : s'.index.idsInitial = s.index.idsInitial
  tokens : s'.index.tokens = s.index.tokens
  ids : ∀ c, alookup c s'.index.ids =
    if c ≠ [] ∧ (loc = c ∨ pref = some c) then some ch else alookup c s.index.ids
  inR : ∀ a', alookup a' s'.index.inRemotes =
    if loc = [] ∧ side = .server ∧ a = a' then some ch else alookup a' s.index.inRemotes
  outR : ∀ r, alookup r s'.index.outRemotes =
    if loc = [] ∧ side = .client ∧ a.remote = r then some ch else alookup r s.index.outRemotes

theorem add_spec (hnew : newCid s ch cands = some (loc, s1, c1))
    (hpref : PrefDrawn s1 s2 ch c1 pref)
    (hadd : addConnection s2 ch initCid loc a side pref = some s3) :
    Added s ch initCid loc a side pref s3 := by
  obtain ⟨hz, hfresh, ids1, rfl, hids1⟩ := newCid_spec hnew
  have hp2 : ∃ ids2, s2 = { s with index := { s.index with ids := ids2 } } ∧
      (∀ c, alookup c ids2 = if c ≠ [] ∧ pref = some c then some ch else alookup c ids1) ∧
      (∀ c, pref = some c → c ≠ [] → alookup c ids1 = none) := by
    rcases hpref with ⟨rfl, rfl⟩ | ⟨cid, c2, rfl, hn2⟩
    · exact ⟨ids1, rfl, fun c => by simp, fun c e => by cases e⟩
    · obtain ⟨-, hfresh2, ids2, e, hids2⟩ := newCid_spec hn2
      refine ⟨ids2, e, fun c => by simp only [hids2, Option.some.injEq], fun c e hne => ?_⟩
      cases e; exact hfresh2 hne
  obtain ⟨ids2, rfl, hids2, hfresh2⟩ := hp2
  obtain ⟨conns, u, rfl⟩ := addConnection_spec hadd
  have hi := insertConn_spec { s.index with ids := ids2 } a loc ch side
  refine ⟨hz, fun c hc hne => ?_, rfl, rfl, u, hi.idsInitial, hi.tokens, fun c => ?_, hi.inR, hi.outR⟩
  · -- the second `new_cid` ran after the first had registered `loc`
    have f2 := fun hp => hfresh2 c hp hne
    rw [hids1] at f2
    rcases hc with rfl | hc
    · exact ⟨hfresh hne, fun hp => by rw [if_pos ⟨hne, rfl⟩] at f2; cases f2 hp⟩
    · by_cases e : loc = c
      · rw [if_pos ⟨hne, e⟩] at f2; cases f2 hc
      · rw [if_neg fun h => e h.2] at f2; exact ⟨f2 hc, fun _ e' => e e'.symm⟩
  · rw [hi.ids c, hids2 c, hids1 c]
    by_cases h0 : c = [] <;> by_cases h1 : loc = c <;> by_cases h2 : pref = some c <;> simp [h0, h1, h2]

/-- `inc`, `tbl`: in `accept` the pending attempt has left `incoming` by then, and `insert_initial` follows -/
theorem sound_add (hs : Sound s) (ha : Added { s with incoming := inc } ch initCid loc a side pref s3)
    (hinit : InitOK (fun d => alookup d tbl) s3.conns.get s3.incoming.get) :
    Sound { s3 with index := { s3.index with idsInitial := tbl } } := by
  obtain ⟨hc, -, hin, hout, htok⟩ := sound_iff.mp hs
  have u := ha.conns
  refine sound_iff.mpr ⟨?_, hinit, hin.gain u ha.inR (fun _ h => ⟨h.2.1, h.2.2⟩) (fun _ _ e => nomatch e),
    hout.gain u ha.outR (fun _ h => ⟨h.2.1, h.2.2⟩) (fun _ _ e => nomatch e), ?_⟩
  · refine hc.gain (K := fun c => loc = c ∨ pref = some c) u
      (newMeta_wf _ _ _ _ _ fun c hp hne => (ha.fresh c (Or.inr hp) hne).2 hp) (fun c => ?_)
      (fun c hc hne => (ha.fresh c hc hne).1) ha.ids
    simp only [Meta.Holds, newMeta_locCids, eq_comm (a := c), reduceCtorEq, false_and, exists_false, or_false]
    exact ⟨fun ⟨q, h⟩ => h.imp (·.2) (·.2),
      fun h => h.elim (fun h => ⟨0, Or.inl ⟨rfl, h⟩⟩) fun h => ⟨1, Or.inr ⟨rfl, h⟩⟩⟩
  · simp only [ha.tokens]
    exact htok.gain (C := fun _ => False) u (fun _ => (if_neg id).symm) (fun _ h => h.elim) fun _ _ e => nomatch e

theorem connect_cases (h : connect s remote initCid tls cands = some (s', res)) :
    (s' = s ∧ ∀ ch, res ≠ .ok ch) ∨
    (∃ ids', s' = { s with index := { s.index with ids := ids' } } ∧
      (∀ c h, alookup c ids' = some h → alookup c s.index.ids = some h) ∧
      (∀ c, c ≠ [] → alookup c ids' = alookup c s.index.ids) ∧ res = .invalidServerName) ∨
    ∃ loc, Added s s.conns.vacantKey initCid loc ⟨remote, none⟩ .client none s' ∧
      res = .ok s.conns.vacantKey := by
  revert h
  fun_cases connect s remote initCid tls cands
  case case1 | case2 => intro h; cases h; exact Or.inl ⟨rfl, fun _ e => by cases e⟩
  case case4 _ _ ch loc s1 c1 hnew _ =>
    -- `start_session` failed: the CID that `new_cid` registered (if it is not empty) is retired again
    intro h; cases h
    obtain ⟨-, hfresh, ids1, rfl, hids⟩ := newCid_spec hnew
    refine Or.inr (Or.inl ⟨aerase loc ids1, rfl, fun c h e => ?_, fun c hne => ?_, rfl⟩)
    · obtain ⟨hlc, e⟩ := alookup_aerase_some e
      rwa [hids, if_neg fun h => hlc h.2] at e
    · rw [alookup_aerase, hids]
      by_cases e : loc = c
      · rw [if_pos e, ← e, hfresh (e ▸ hne)]
      · rw [if_neg e, if_neg fun h => e h.2]
  case case6 _ _ ch loc s1 c1 hnew _ s2 hadd =>
    intro h; cases h; exact Or.inr (Or.inr ⟨loc, add_spec hnew (Or.inl ⟨rfl, rfl⟩) hadd, rfl⟩)
  all_goals intro h; cases h

theorem sound_connect (hs : Sound s) (h : connect s remote initCid tls cands = some (s', res)) : Sound s' := by
  obtain ⟨rfl, -⟩ | ⟨ids', rfl, hsub, heq, -⟩ | ⟨loc, ha, -⟩ := connect_cases h
  · exact hs
  · have hp := sound_iff.mp hs
    exact sound_iff.mpr { hp with cids := ⟨hp.cids.wf, fun c h e => hp.cids.reg.sound c h (hsub c h e),
      fun h m c hm hh hne => (heq c hne).trans (hp.cids.reg.complete h m c hm hh hne)⟩ }
  · refine sound_add (inc := s.incoming) (tbl := s'.index.idsInitial) hs ha ?_
    rw [ha.idsInitial, ha.incoming]
    exact (sound_iff.mp hs).init.same ha.conns.dcidOf_conn rfl

theorem get_none_initial (h : ix.get a ⟨true, dcid, data⟩ = none) : alookup dcid ix.idsInitial = none := by
  unfold Index.get at h
  simp only [if_true] at h
  split at h
  · cases h
  · split at h
    · cases h
    · rename_i h2; exact h2

/-- `insert_initial_incoming` and `insert_initial` -/
theorem insertInitial_spec (ix : Index) (d : Cid) (v : RouteTo) :
    ∃ tbl, (if d.isEmpty then ix else { ix with idsInitial := ainsert d v ix.idsInitial }) =
        { ix with idsInitial := tbl } ∧
      ∀ k, alookup k tbl = if k ≠ [] ∧ d = k then some v else alookup k ix.idsInitial := by
  by_cases he : d = []
  · exact ⟨ix.idsInitial, by simp [he], fun k => (if_neg fun h => h.1 (he ▸ h.2.symm)).symm⟩
  · have : d.isEmpty = false := by simpa using he
    exact ⟨_, by rw [this]; rfl, alookup_ainsert_nonempty he _ _⟩

theorem sound_firstPacket {r : FirstResult}
    (hs : Sound s) (h : firstPacket s a dcid data = some (s', r)) : Sound s' := by
  revert h
  fun_cases firstPacket s a dcid data
  case case1 => intro h; cases h; exact hs
  case case2 => intro h; cases h
  case case3 hget idx inc hins =>
    intro h; cases h
    obtain ⟨tbl, e, htbl⟩ := insertInitial_spec s.index dcid (.incoming idx)
    have hp := sound_iff.mp hs
    rw [Index.insertInitialIncoming, e]
    exact sound_iff.mpr { hp with
      init := hp.init.gain (Slab.insert_spec hins).2.dcidOf_inc (fun _ => get_none_initial hget) htbl }

/-- dropping a pending attempt: `incoming_buffers.remove(idx)` + `index.remove_initial(dst_cid)` -/
theorem sound_drop_pending (hs : Sound s) (hrem : Upd s.incoming.get inc.get idx (some p) none)
    (hri : s.index.removeInitial p.dcid = some ix) : Sound { s with incoming := inc, index := ix } := by
  obtain ⟨tbl, rfl, htbl⟩ := removeInitial_spec hri
  have hp := sound_iff.mp hs
  exact sound_iff.mpr { hp with init := hp.init.lose hrem.dcidOf_inc htbl }

theorem sound_cleanUp (hs : Sound s) (h : cleanUpIncoming s idx = some s') : Sound s' := by
  revert h
  fun_cases cleanUpIncoming s idx
  case case4 p hp ix hri p' inc hrem =>
    intro h; cases h
    have u := Slab.remove_spec hrem
    -- the attempt removed is the one read before
    cases hp.symm.trans u.old
    exact sound_drop_pending hs u hri
  all_goals intro h; cases h

theorem refuse_spec (h : refuse s idx cands = some s') :
    cleanUpIncoming s idx = some s' := by
  revert h
  fun_cases refuse s idx cands
  case case3 s1 h1 _ _ => intro h; cases h; exact h1
  all_goals intro h; cases h

/-- the success path of `Endpoint::accept` up to and including `index.insert_initial`: the pending attempt
    leaves, the connection enters, and the initial DCID passes from the one to the other -/
theorem sound_add_server (hs : Sound s) (hrem : Upd s.incoming.get inc.get idx (some p) none)
    (ha : Added { s with incoming := inc } ch p.dcid loc p.addresses .server pref s3) :
    Sound { s3 with index := s3.index.insertInitial p.dcid ch } := by
  obtain ⟨tbl, e, htbl⟩ := insertInitial_spec s3.index p.dcid (.connection ch)
  rw [Index.insertInitial, e]
  refine sound_add hs ha ?_
  rw [ha.incoming]
  refine ((sound_iff.mp hs).init.lose hrem.dcidOf_inc fun _ => rfl).gain (d := p.dcid) ha.conns.dcidOf_conn
    (fun hne => if_pos ⟨hne, rfl⟩) (fun d => ?_)
  rw [htbl, ha.idsInitial]
  by_cases hd : d ≠ [] ∧ p.dcid = d
  · rw [if_pos hd, if_pos hd]
  · rw [if_neg hd, if_neg hd]
    exact (if_neg fun (h : p.dcid ≠ [] ∧ p.dcid = d) => hd ⟨h.2 ▸ h.1, h.2⟩).symm

theorem accept_cases {r : AcceptResult}
    (h : accept s idx mode cands = some (s', r)) :
    ∃ p inc, Upd s.incoming.get inc.get idx (some p) none ∧
      ((∃ ix, s.index.removeInitial p.dcid = some ix ∧ s' = { s with incoming := inc, index := ix } ∧
          ∀ ch, r ≠ .ok ch) ∨
       ∃ loc pref s3 s4, Added { s with incoming := inc } s.conns.vacantKey p.dcid loc p.addresses .server pref s3 ∧
          s4 = { s3 with index := s3.index.insertInitial p.dcid s.conns.vacantKey } ∧
          ((s' = s4 ∧ r = .ok s.conns.vacantKey) ∨
           (evDrained s4 s.conns.vacantKey = some s' ∧ r = .firstPacketFailed))) := by
  revert h
  -- branches that return: 2 stale, 4 CIDs exhausted, 5 authentication failure (all through `fail`),
  -- 9 first packet rejected (`Drained`), 11 accepted
  fun_cases accept s idx mode cands
  case case2 p inc hrem s0 fail _ | case4 p inc hrem s0 fail _ _ _ _ | case5 p inc hrem s0 fail _ _ _ =>
    intro h; dsimp only [fail] at h; split at h
    · cases h
    · rename_i ix hri; cases h
      exact ⟨p, inc, Slab.remove_spec hrem, Or.inl ⟨ix, hri, rfl, fun _ e => by cases e⟩⟩
  case case9 p inc hrem s0 _ _ _ ch loc s1 c1 hnew pref s2 c2 hp s3 hadd s4 _ s5 _ _ hdr =>
    intro h; cases h
    exact ⟨p, inc, Slab.remove_spec hrem,
      Or.inr ⟨loc, pref, s3, _, add_spec hnew (prefDrawn_of_accept hp) hadd, rfl, Or.inr ⟨hdr, rfl⟩⟩⟩
  case case11 p inc hrem s0 _ _ _ ch loc s1 c1 hnew pref s2 c2 hp s3 hadd s4 _ =>
    intro h
    obtain ⟨h1, h2⟩ := Prod.mk.inj (Option.some.inj h)
    exact ⟨p, inc, Slab.remove_spec hrem,
      Or.inr ⟨loc, pref, s3, s4, add_spec hnew (prefDrawn_of_accept hp) hadd, rfl, Or.inl ⟨h1.symm, h2.symm⟩⟩⟩
  all_goals intro h; cases h

theorem sound_accept {r : AcceptResult}
    (hs : Sound s) (h : accept s idx mode cands = some (s', r)) : Sound s' := by
  obtain ⟨p, inc, hrem, ⟨ix, hri, rfl, -⟩ |
    ⟨loc, pref, s3, s4, ha, rfl, ⟨rfl, -⟩ | ⟨hdr, -⟩⟩⟩ := accept_cases h
  · exact sound_drop_pending hs hrem hri
  · exact sound_add_server hs hrem ha
  · exact sound_drained (sound_add_server hs hrem ha) hdr

end QM.Index
