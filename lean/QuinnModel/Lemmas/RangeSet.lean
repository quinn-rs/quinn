import QuinnModel.Data.RangeSet
/-
`RangeSet` refines finite sets of `Nat`: representation invariant `WF` (sorted, non-empty,
non-adjacent ranges), `insert` = union, `replace` = union that also reports the intersection.
-/
namespace QM.RangeSet

def WF (s : RS) : Prop := s.Pairwise (fun p q => p.2 < q.1) ∧ ∀ p ∈ s, p.1 < p.2

/-- `omega` knows `max`/`min`, not `Nat.max`/`Nat.min` -/
theorem natMax_eq (a b : Nat) : Nat.max a b = max a b := rfl

theorem natMin_eq (a b : Nat) : Nat.min a b = Min.min a b := rfl

theorem WF_nil : WF [] := ⟨List.Pairwise.nil, by simp⟩

theorem WF.tail {p : Nat × Nat} {t : RS} (h : WF (p :: t)) : WF t :=
  ⟨(List.pairwise_cons.mp h.1).2, fun q hq => h.2 q (List.mem_cons_of_mem _ hq)⟩

theorem WF.head_lt {p : Nat × Nat} {t : RS} (h : WF (p :: t)) : p.1 < p.2 :=
  h.2 p (List.mem_cons_self)

theorem WF.head_sep {p : Nat × Nat} {t : RS} (h : WF (p :: t)) : ∀ q ∈ t, p.2 < q.1 :=
  (List.pairwise_cons.mp h.1).1

theorem WF.cons {p : Nat × Nat} {t : RS} (hp : p.1 < p.2) (hs : ∀ q ∈ t, p.2 < q.1) (ht : WF t) :
    WF (p :: t) :=
  ⟨List.pairwise_cons.mpr ⟨hs, ht.1⟩, by
    intro q hq
    rcases List.mem_cons.mp hq with h | h
    · subst h; exact hp
    · exact ht.2 q h⟩

theorem WF.lb {a b : Nat} {t : RS} (hw : WF ((a, b) :: t)) {k : Nat} (hk : k < a) :
    ∀ p ∈ (a, b) :: t, k < p.1 := by
  intro p hp
  rcases List.mem_cons.mp hp with e | e
  · rw [e]; exact hk
  · exact Nat.lt_trans (Nat.lt_trans hk hw.head_lt) (hw.head_sep p e)

/-- well formed, and no range starts below `lo`: what an operation that rebuilds a well-formed list from some
    point on keeps of the rest -/
structure From (lo : Nat) (s : RS) : Prop where
  wf : WF s
  lower : ∀ p ∈ s, lo ≤ p.1

theorem From.nil (lo : Nat) : From lo [] := ⟨WF_nil, nofun⟩

theorem From.mono {lo lo' : Nat} {s : RS} (h : From lo s) (hle : lo' ≤ lo) : From lo' s :=
  ⟨h.wf, fun p hp => Nat.le_trans hle (h.lower p hp)⟩

theorem from_cons {lo a b : Nat} {t : RS} : From lo ((a, b) :: t) ↔ lo ≤ a ∧ a < b ∧ From (b + 1) t :=
  ⟨fun ⟨hw, hl⟩ => ⟨hl _ List.mem_cons_self, hw.head_lt, hw.tail, hw.head_sep⟩,
   fun ⟨h1, h2, hw, hl⟩ => ⟨WF.cons h2 hl hw, List.forall_mem_cons.mpr
     ⟨h1, fun p hp => Nat.le_trans h1 (Nat.le_of_lt (Nat.lt_trans h2 (hl p hp)))⟩⟩⟩

theorem WF.from {s : RS} (h : WF s) : From 0 s := ⟨h, fun _ _ => Nat.zero_le _⟩

theorem from_ite_cons {lo u v : Nat} {c : Prop} [Decidable c] {t : RS} (hu : lo ≤ u) (hc : c → u < v)
    (ht : From (v + 1) t) (ht' : From lo t) : From lo ((if c then [(u, v)] else []) ++ t) := by
  by_cases h : c
  · rw [if_pos h]; exact from_cons.mpr ⟨hu, hc h, ht⟩
  · rw [if_neg h]; exact ht'

theorem mem_nil (x : Nat) : ¬ mem x [] := by
  intro h; rcases h with ⟨p, hp, _⟩; simp at hp

theorem mem_cons (x : Nat) (p : Nat × Nat) (t : RS) :
    mem x (p :: t) ↔ (p.1 ≤ x ∧ x < p.2) ∨ mem x t := by
  simp only [mem, List.mem_cons, or_and_right, exists_or, exists_eq_left]

theorem mem_append (x : Nat) (s t : RS) : mem x (s ++ t) ↔ mem x s ∨ mem x t := by
  simp only [mem, List.mem_append, or_and_right, exists_or]

theorem mem_ite_single (x u v : Nat) (c : Prop) [Decidable c] :
    mem x (if c then [(u, v)] else []) ↔ c ∧ u ≤ x ∧ x < v := by
  by_cases h : c
  · rw [if_pos h, mem_cons]; exact ⟨fun h' => ⟨h, h'.resolve_right (mem_nil x)⟩, fun h' => Or.inl h'.2⟩
  · rw [if_neg h]; exact ⟨fun h' => absurd h' (mem_nil x), fun h' => absurd h'.1 h⟩

theorem not_mem_of_lt (s : RS) (x : Nat) (h : ∀ p ∈ s, x < p.1) : ¬ mem x s := by
  rintro ⟨p, hp, h1, _⟩
  have := h p hp; omega

/-- one-pass insertion of a range into a sorted list of ranges: the specification of `insert` and `replace` -/
def ins : RS → Nat → Nat → RS
  | [], xs, xe => [(xs, xe)]
  | (a, b) :: t, xs, xe =>
    if b < xs then (a, b) :: ins t xs xe
    else if xe < a then (xs, xe) :: (a, b) :: t
    else ins t (Nat.min a xs) (Nat.max b xe)

theorem ins_from (s : RS) (xs xe lo : Nat) (h : From lo s) (hlo : lo ≤ xs) (hx : xs < xe) :
    From lo (ins s xs xe) := by
  fun_induction ins s xs xe generalizing lo with
  | case1 => exact from_cons.mpr ⟨hlo, hx, From.nil _⟩
  | case2 a b t xs xe hb ih =>
    obtain ⟨h1, h2, h3⟩ := from_cons.mp h
    exact from_cons.mpr ⟨h1, h2, ih _ h3 hb hx⟩
  | case3 a b t xs xe _ ha =>
    obtain ⟨_, h2, h3⟩ := from_cons.mp h
    exact from_cons.mpr ⟨hlo, hx, from_cons.mpr ⟨ha, h2, h3⟩⟩
  | case4 a b t xs xe _ _ ih =>
    obtain ⟨h1, h2, h3⟩ := from_cons.mp h
    exact ih _ (h3.mono (Nat.le_succ_of_le (Nat.le_trans h1 (Nat.le_of_lt h2)))) (Nat.le_min.mpr ⟨h1, hlo⟩)
      (Nat.lt_of_le_of_lt (Nat.min_le_right a xs) (Nat.lt_of_lt_of_le hx (Nat.le_max_right b xe)))

theorem ins_WF (s : RS) (xs xe : Nat) (hw : WF s) (h : xs < xe) : WF (ins s xs xe) :=
  (ins_from s xs xe 0 hw.from (Nat.zero_le _) h).wf

theorem ins_mem (s : RS) (xs xe x : Nat) (hne : ∀ p ∈ s, p.1 < p.2) (h : xs < xe) :
    mem x (ins s xs xe) ↔ mem x s ∨ (xs ≤ x ∧ x < xe) := by
  fun_induction ins s xs xe with
  | case1 => simp only [mem_cons, mem_nil, or_false, false_or]
  | case2 a b t xs xe _ ih =>
    rw [mem_cons, mem_cons, ih (List.forall_mem_cons.mp hne).2 h, or_assoc]
  | case3 => rw [mem_cons]; exact or_comm
  | case4 a b t xs xe hb hx ih =>
    obtain ⟨hab, hnt⟩ := List.forall_mem_cons.mp hne
    have key : (Nat.min a xs ≤ x ∧ x < Nat.max b xe) ↔ (a ≤ x ∧ x < b) ∨ (xs ≤ x ∧ x < xe) := by
      simp only [natMin_eq, natMax_eq] at hab ⊢; omega
    rw [ih hnt (Nat.lt_of_le_of_lt (Nat.min_le_right a xs) (Nat.lt_of_lt_of_le h (Nat.le_max_right b xe))),
      mem_cons, key, or_left_comm, or_assoc]

theorem ins_before {a b xs xe : Nat} (t : RS) (hb : xs ≤ b) (hx : xe < a) :
    ins ((a, b) :: t) xs xe = (xs, xe) :: (a, b) :: t := by
  simp only [ins, if_neg (Nat.not_lt.mpr hb), if_pos hx]

theorem ins_absorb {a b xs xe : Nat} (t : RS) (hb : xs ≤ b) (hx : ¬ xe < a) :
    ins ((a, b) :: t) xs xe = ins t (Nat.min a xs) (Nat.max b xe) := by
  simp only [ins, if_neg (Nat.not_lt.mpr hb), if_neg hx]

theorem put_of_lt (t : RS) (k v : Nat) (h : ∀ p ∈ t, k < p.1) : put t k v = (k, v) :: t := by
  cases t with
  | nil => rfl
  | cons q t =>
    obtain ⟨a, b⟩ := q
    simp only [put, if_pos (show k < a from h _ List.mem_cons_self)]

theorem pred_mem (s : RS) (x : Nat) (p : Nat × Nat) (h : pred s x = some p) : p ∈ s ∧ p.1 ≤ x := by
  fun_induction pred s x with
  | case1 => cases h
  | case2 a b t x _ r hr ih => cases h; exact ⟨List.mem_cons_of_mem _ (ih hr).1, (ih hr).2⟩
  | case3 a b t x ha _ _ => cases h; exact ⟨List.mem_cons_self, ha⟩
  | case4 a b t x _ ih => exact ⟨List.mem_cons_of_mem _ (ih h).1, (ih h).2⟩

theorem pred_none_of_gt (s : RS) (x : Nat) (h : ∀ p ∈ s, x < p.1) : pred s x = none := by
  induction s with
  | nil => rfl
  | cons q t ih =>
    obtain ⟨a, b⟩ := q
    have ha : x < a := h (a, b) List.mem_cons_self
    unfold pred
    rw [if_neg (by omega)]
    exact ih (fun p hp => h p (List.mem_cons_of_mem _ hp))

/-- the predecessor of `x` if it reaches `x` (contains `x` or ends at `x`): the range that a new range
    starting at `x` extends -/
def touchingPred (s : RS) (x : Nat) : Option (Nat × Nat) := (pred s x).filter (fun p => x ≤ p.2)

theorem touchingPred_none (s : RS) (x : Nat) (h : ∀ p ∈ s, x < p.1) : touchingPred s x = none := by
  rw [touchingPred, pred_none_of_gt s x h]; rfl

theorem touchingPred_mem {s : RS} {x : Nat} {p : Nat × Nat} (h : touchingPred s x = some p) : p ∈ s ∧ p.1 ≤ x :=
  pred_mem s x p (Option.filter_eq_some_iff.mp h).1

theorem touchingPred_head {a b x : Nat} {t : RS} (hw : WF ((a, b) :: t)) (ha : a ≤ x) (hb : x ≤ b) :
    touchingPred ((a, b) :: t) x = some (a, b) := by
  simp only [touchingPred, pred, if_pos ha,
    pred_none_of_gt t x (fun p hp => Nat.lt_of_le_of_lt hb (hw.head_sep p hp)), Option.filter, decide_eq_true hb,
    if_true]

theorem touchingPred_skip {a b x : Nat} {t : RS} (hw : WF ((a, b) :: t)) (hb : b < x) :
    touchingPred ((a, b) :: t) x = touchingPred t x := by
  simp only [touchingPred, pred, if_pos (Nat.le_of_lt (Nat.lt_trans hw.head_lt hb))]
  cases pred t x with
  | none => simp only [Option.filter, decide_eq_false (Nat.not_le.mpr hb)]; rfl
  | some r => rfl

theorem del_of_ne (t : RS) (k : Nat) (h : ∀ p ∈ t, p.1 ≠ k) : del t k = t := by
  unfold del
  apply List.filter_eq_self.mpr
  intro p hp
  simp [h p hp]

theorem del_head (a b : Nat) (t : RS) (h : ∀ p ∈ t, p.1 ≠ a) : del ((a, b) :: t) a = t := by
  have : del ((a, b) :: t) a = del t a := by simp [del]
  rw [this, del_of_ne t a h]

theorem del_cons_ne (a b k : Nat) (t : RS) (h : a ≠ k) : del ((a, b) :: t) k = (a, b) :: del t k := by
  simp [del, h]

/-- after the predecessor was handled every remaining key is greater than `xs`: the loop + final
    `BTreeMap::insert` is `ins` -/
theorem absorb_put (t : RS) (xs xe : Nat) (hk : ∀ p ∈ t, xs < p.1) (hne : ∀ p ∈ t, p.1 < p.2) :
    put (absorb t xs xe).1 xs (absorb t xs xe).2 = ins t xs xe := by
  fun_induction absorb t xs xe with
  | case1 => rfl
  | case2 a b t xs xe ha => exact absurd (hk (a, b) List.mem_cons_self) (Nat.not_lt.mpr ha)
  | case3 a b t xs xe _ hx =>
    have hb : xs ≤ b := Nat.le_of_lt (Nat.lt_trans (hk (a, b) List.mem_cons_self) (hne (a, b) List.mem_cons_self))
    rw [ins_before t hb hx]
    exact put_of_lt _ xs xe hk
  | case4 a b t xs xe _ hx ih =>
    obtain ⟨ha, hkt⟩ := List.forall_mem_cons.mp hk
    obtain ⟨hab, hnt⟩ := List.forall_mem_cons.mp hne
    rw [ins_absorb t (Nat.le_of_lt (Nat.lt_trans ha hab)) hx,
      show Nat.min a xs = xs from Nat.min_eq_right (Nat.le_of_lt ha)]
    exact ih hkt hnt

theorem ins_self (a b : Nat) (t : RS) (h : WF ((a, b) :: t)) : ins t a b = (a, b) :: t := by
  cases t with
  | nil => rfl
  | cons q t =>
    obtain ⟨c, d⟩ := q
    have h1 : b < c := h.head_sep (c, d) List.mem_cons_self
    have h2 : c < d := h.tail.head_lt
    have h3 : a < b := h.head_lt
    have e1 : ¬ d < a := by omega
    simp only [ins, if_neg e1, if_pos h1]

theorem absorb_skip (a b : Nat) (t : RS) (xs xe : Nat) (h : a ≤ xs) :
    absorb ((a, b) :: t) xs xe = ((a, b) :: (absorb t xs xe).1, (absorb t xs xe).2) := by
  simp only [absorb, if_pos h]

theorem put_skip (a b : Nat) (t : RS) (k v : Nat) (h : a < k) :
    put ((a, b) :: t) k v = (a, b) :: put t k v := by
  have e1 : ¬ k < a := by omega
  have e2 : ¬ k = a := by omega
  simp only [put, if_neg e1, if_neg e2]

/-- the loop of `insert` and the final `BTreeMap::insert`, from the key `k` -/
def insFrom (t : RS) (k e : Nat) : RS := put (absorb t k e).1 k (absorb t k e).2

theorem insFrom_skip (a b : Nat) (t : RS) (k e : Nat) (h : a < k) :
    insFrom ((a, b) :: t) k e = (a, b) :: insFrom t k e := by
  unfold insFrom
  rw [absorb_skip a b t k e (Nat.le_of_lt h)]
  exact put_skip a b _ k _ h

theorem insert_eq (s : RS) (xs xe : Nat) (h : xs < xe) :
    (insert s xs xe).1 = match touchingPred s xs with
      | some (a, b) => if xe ≤ b then s else insFrom (del s a) a xe
      | none => insFrom s xs xe := by
  unfold insert touchingPred insFrom
  rw [if_neg (Nat.not_le.mpr h)]
  cases pred s xs with
  | none => rfl
  | some p =>
    obtain ⟨a, b⟩ := p
    by_cases h1 : xs ≤ b
    · by_cases h2 : xe ≤ b <;> simp [Option.filter, h1, h2]
    · have h2 : ¬ xe ≤ b := fun h2 => h1 (Nat.le_trans (Nat.le_of_lt h) h2)
      simp [Option.filter, h1, h2]

theorem insert_skip (a b : Nat) (t : RS) (xs xe : Nat) (hw : WF ((a, b) :: t)) (hb : b < xs) (h : xs < xe) :
    (insert ((a, b) :: t) xs xe).1 = (a, b) :: (insert t xs xe).1 := by
  have hab : a < b := hw.head_lt
  rw [insert_eq _ _ _ h, insert_eq _ _ _ h, touchingPred_skip hw hb]
  cases hp : touchingPred t xs with
  | none => exact insFrom_skip a b t xs xe (Nat.lt_trans hab hb)
  | some r =>
    obtain ⟨c, d⟩ := r
    have hc : a < c := Nat.lt_trans hab (hw.head_sep _ (touchingPred_mem hp).1)
    simp only
    by_cases h1 : xe ≤ d
    · rw [if_pos h1, if_pos h1]
    · rw [if_neg h1, if_neg h1, del_cons_ne a b c t (Nat.ne_of_lt hc)]
      exact insFrom_skip a b _ c xe hc

theorem insert_eq_ins (s : RS) : ∀ (xs xe : Nat), WF s → xs < xe → (insert s xs xe).1 = ins s xs xe := by
  induction s with
  | nil =>
    intro xs xe _ h
    simp only [insert, if_neg (Nat.not_le.mpr h), pred, absorb, put, ins]
  | cons q t ih =>
    obtain ⟨a, b⟩ := q
    intro xs xe hw h
    have hab : a < b := hw.head_lt
    by_cases hb : b < xs
    · rw [insert_skip a b t xs xe hw hb h, ih xs xe hw.tail h]
      simp only [ins, if_pos hb]
    · have hxb : xs ≤ b := Nat.le_of_not_lt hb
      rw [insert_eq _ _ _ h]
      by_cases ha : a ≤ xs
      · have hgt : ∀ p ∈ t, a < p.1 := fun p hp => Nat.lt_trans hab (hw.head_sep p hp)
        rw [touchingPred_head hw ha hxb, ins_absorb t hxb (Nat.not_lt.mpr (Nat.le_trans ha (Nat.le_of_lt h))),
          show Nat.min a xs = a from Nat.min_eq_left ha]
        simp only
        by_cases h1 : xe ≤ b
        · rw [if_pos h1, show Nat.max b xe = b from Nat.max_eq_left h1, ins_self a b t hw]
        · rw [if_neg h1, show Nat.max b xe = xe from Nat.max_eq_right (Nat.le_of_not_le h1),
            del_head a b t (fun p hp => Nat.ne_of_gt (hgt p hp))]
          exact absorb_put t a xe hgt hw.tail.2
      · have hk := hw.lb (Nat.lt_of_not_le ha)
        rw [touchingPred_none _ xs hk]
        exact absorb_put _ xs xe hk hw.2

theorem insert_empty (s : RS) (xs xe : Nat) (h : xe ≤ xs) : (insert s xs xe).1 = s := by
  unfold insert; rw [if_pos h]

theorem insert_WF (s : RS) (xs xe : Nat) (hw : WF s) : WF (insert s xs xe).1 := by
  by_cases h : xs < xe
  · rw [insert_eq_ins s xs xe hw h]; exact ins_WF s xs xe hw h
  · rw [insert_empty s xs xe (by omega)]; exact hw

theorem insert_mem (s : RS) (xs xe x : Nat) (hw : WF s) :
    mem x (insert s xs xe).1 ↔ mem x s ∨ (xs ≤ x ∧ x < xe) := by
  by_cases h : xs < xe
  · rw [insert_eq_ins s xs xe hw h]; exact ins_mem s xs xe x hw.2 h
  · rw [insert_empty s xs xe (by omega)]
    exact (or_iff_left (by omega)).symm

theorem bounds_of_mem (s : RS) (hw : WF s) (lo hi : Nat) (h : ∀ x, mem x s → lo ≤ x ∧ x < hi) :
    ∀ p ∈ s, lo ≤ p.1 ∧ p.2 ≤ hi := by
  intro p hp
  have hlt := hw.2 p hp
  have h1 := h p.1 ⟨p, hp, Nat.le_refl _, hlt⟩
  have h2 := h (p.2 - 1) ⟨p, hp, by omega, by omega⟩
  omega

theorem mem_bounds (s : RS) (lo hi : Nat) (h : ∀ p ∈ s, lo ≤ p.1 ∧ p.2 ≤ hi) :
    ∀ x, mem x s → lo ≤ x ∧ x < hi := by
  rintro x ⟨p, hp, h1, h2⟩
  have := h p hp
  omega

theorem insert_bounds (s : RS) (xs xe lo hi : Nat) (hw : WF s)
    (h : ∀ p ∈ s, lo ≤ p.1 ∧ p.2 ≤ hi) (h1 : lo ≤ xs) (h2 : xe ≤ hi) :
    ∀ p ∈ (insert s xs xe).1, lo ≤ p.1 ∧ p.2 ≤ hi := by
  apply bounds_of_mem _ (insert_WF s xs xe hw)
  intro x hx
  rcases (insert_mem s xs xe x hw).mp hx with hm | hm
  · exact mem_bounds s lo hi h x hm
  · omega

/-- `s ∩ [lo, hi)` as ascending ranges -/
def cut : RS → Nat → Nat → List (Nat × Nat)
  | [], _, _ => []
  | (a, b) :: t, lo, hi =>
    (if Nat.max a lo < Nat.min b hi then [(Nat.max a lo, Nat.min b hi)] else []) ++ cut t lo hi

theorem cut_from (s : RS) (lo hi k : Nat) (h : From k s) : From k (cut s lo hi) := by
  induction s generalizing k with
  | nil => exact From.nil _
  | cons q t ih =>
    obtain ⟨a, b⟩ := q
    obtain ⟨h1, h2, h3⟩ := from_cons.mp h
    exact from_ite_cons (Nat.le_trans h1 (Nat.le_max_left a lo)) id
      (ih _ (h3.mono (Nat.succ_le_succ (Nat.min_le_left b hi))))
      (ih _ (h3.mono (Nat.le_succ_of_le (Nat.le_trans h1 (Nat.le_of_lt h2)))))

theorem cut_mem (s : RS) (lo hi x : Nat) : mem x (cut s lo hi) ↔ mem x s ∧ lo ≤ x ∧ x < hi := by
  induction s with
  | nil => exact ⟨fun h => absurd h (mem_nil x), fun h => h.1⟩
  | cons p t ih =>
    obtain ⟨a, b⟩ := p
    rw [cut, mem_append, mem_ite_single, ih, mem_cons, or_and_right]
    refine or_congr_left ?_
    simp only [natMax_eq, natMin_eq]; omega

theorem cut_bounds (s : RS) (lo hi : Nat) : ∀ p ∈ cut s lo hi, lo ≤ p.1 ∧ p.2 ≤ hi := by
  induction s with
  | nil => exact nofun
  | cons q t ih =>
    intro p hp
    rw [cut, List.mem_append, List.mem_ite_nil_right, List.mem_singleton] at hp
    rcases hp with ⟨_, rfl⟩ | hp
    · exact ⟨Nat.le_max_right _ _, Nat.min_le_right _ _⟩
    · exact ih p hp

theorem cut_nil (t : RS) (lo hi : Nat) (h : ∀ p ∈ t, hi ≤ Nat.max p.1 lo) : cut t lo hi = [] := by
  induction t with
  | nil => rfl
  | cons q t ih =>
    obtain ⟨a, b⟩ := q
    obtain ⟨ha, ht⟩ := List.forall_mem_cons.mp h
    simp only [cut, if_neg (Nat.not_lt.mpr (Nat.le_trans (Nat.min_le_right b hi) ha)), ih ht, List.append_nil]

theorem cut_nil_of_ge (t : RS) (lo hi : Nat) (h : ∀ p ∈ t, hi ≤ p.1) : cut t lo hi = [] :=
  cut_nil t lo hi (fun p hp => Nat.le_trans (h p hp) (Nat.le_max_left p.1 lo))

theorem drain_skip (a b : Nat) (t : RS) (start e : Nat) (h : a ≤ start) :
    drain ((a, b) :: t) start e =
      ((drain t start e).1, (a, b) :: (drain t start e).2.1, (drain t start e).2.2) := by
  simp only [drain, if_pos h]

theorem drain_noop (t : RS) (start e : Nat) (hk : ∀ p ∈ t, p.1 ≤ start ∨ e < p.1) :
    drain t start e = ([], t, e) := by
  induction t with
  | nil => rfl
  | cons q t ih =>
    obtain ⟨a, b⟩ := q
    by_cases ha : a ≤ start
    · rw [drain_skip a b t start e ha, ih (fun p hp => hk p (List.mem_cons_of_mem _ hp))]
    · have := hk (a, b) List.mem_cons_self
      have hx : a > e := by simp only at this; omega
      simp only [drain, if_neg ha, if_pos hx]

theorem cut_hi_max (t : RS) (lo re b : Nat) (h : ∀ p ∈ t, b < p.1) : cut t lo (Nat.max re b) = cut t lo re := by
  rcases Nat.lt_or_ge b re with hbr | hbr
  · rw [show Nat.max re b = re from Nat.max_eq_left (Nat.le_of_lt hbr)]
  · rw [show Nat.max re b = b from Nat.max_eq_right hbr,
      cut_nil_of_ge t lo b (fun p hp => Nat.le_of_lt (h p hp)),
      cut_nil_of_ge t lo re (fun p hp => Nat.le_trans hbr (Nat.le_of_lt (h p hp)))]

/-- after the predecessor was handled (all remaining keys are greater than `start`): the consumer's
    loop yields `cut`, and the drop glue leaves `ins` -/
theorem drain_cut (t : RS) (start lo re : Nat) (hw : WF t) (hk : ∀ p ∈ t, start < p.1 ∧ lo ≤ p.1) :
    (drain t start re).1 = cut t lo re ∧
    put (drain (drain t start re).2.1 start (drain t start re).2.2).2.1 start
        (drain (drain t start re).2.1 start (drain t start re).2.2).2.2 = ins t start re := by
  fun_induction drain t start re with
  | case1 => exact ⟨rfl, rfl⟩
  | case2 a b t start re ha => exact absurd (hk (a, b) List.mem_cons_self).1 (Nat.not_lt.mpr ha)
  | case3 a b t start re _ hx =>
    have hgt := hw.lb hx
    simp only
    rw [drain_noop _ start re (fun p hp => Or.inr (hgt p hp)),
      cut_nil_of_ge _ lo re (fun p hp => Nat.le_of_lt (hgt p hp)),
      ins_before t (Nat.le_of_lt (Nat.lt_trans (hk (a, b) List.mem_cons_self).1 hw.head_lt)) hx]
    exact ⟨rfl, put_of_lt _ start re (fun p hp => (hk p hp).1)⟩
  | case4 b t start re _ _ =>
    -- adjacent range `(re, b)`: removed without a report, iteration ends; the drop glue finds nothing more
    have h : Nat.min re b < b := hw.head_lt
    have hrb : re < b := by simp only [natMin_eq] at h; omega
    rw [show Nat.min re b = re from Nat.min_eq_left (Nat.le_of_lt hrb)] at hw hk ⊢
    have hsep := hw.head_sep
    have hsr : start < re := (hk (re, b) List.mem_cons_self).1
    simp only
    rw [show Nat.max re b = b from Nat.max_eq_right (Nat.le_of_lt hrb),
      drain_noop t start b (fun p hp => Or.inr (hsep p hp)),
      cut_nil_of_ge _ lo re (List.forall_mem_cons.mpr
        ⟨Nat.le_refl re, fun p hp => Nat.le_of_lt (Nat.lt_trans hrb (hsep p hp))⟩),
      ins_absorb t (Nat.le_of_lt (Nat.lt_trans hsr hrb)) (Nat.lt_irrefl re),
      show Nat.min re start = start from Nat.min_eq_right (Nat.le_of_lt hsr),
      show Nat.max b re = b from Nat.max_eq_left (Nat.le_of_lt hrb),
      ins_self start b t (WF.cons (Nat.lt_trans hsr hrb) hsep hw.tail)]
    exact ⟨rfl, put_of_lt t start b (fun p hp => (hk p (List.mem_cons_of_mem _ hp)).1)⟩
  | case5 a b t start re _ hx hadj ih =>
    obtain ⟨⟨hsa, hla⟩, hkt⟩ := List.forall_mem_cons.mp hk
    have hab : a < b := hw.head_lt
    have hlt : a < Nat.min re b := by simp only [natMin_eq] at hadj ⊢; omega
    obtain ⟨ih1, ih2⟩ := ih hw.tail hkt
    simp only
    rw [ih1, ih2, cut_hi_max t lo re b hw.head_sep, ins_absorb t (Nat.le_of_lt (Nat.lt_trans hsa hab)) hx,
      show Nat.min a start = start from Nat.min_eq_right (Nat.le_of_lt hsa),
      show Nat.max b re = Nat.max re b from Nat.max_comm b re]
    simp only [cut, show Nat.max a lo = a from Nat.max_eq_left hla,
      show Nat.min b re = Nat.min re b from Nat.min_comm b re, if_pos hlt, List.singleton_append, and_self]

/-- the part of `replace` after the predecessor was handled -/
def replaceFrom (s1 : RS) (start e : Nat) (pd : List (Nat × Nat)) : List (Nat × Nat) × RS :=
  (pd ++ (drain s1 start e).1,
   put (drain (drain s1 start e).2.1 start (drain s1 start e).2.2).2.1 start
       (drain (drain s1 start e).2.1 start (drain s1 start e).2.2).2.2)

theorem replace_eq (s : RS) (rs re : Nat) :
    replace s rs re = match touchingPred s rs with
      | some (ps, pe) => replaceFrom (del s ps) (Nat.min rs ps) (Nat.max re pe)
          (if rs ≠ Nat.min re pe then [(rs, Nat.min re pe)] else [])
      | none => replaceFrom s rs re [] := by
  unfold replace replaceFrom touchingPred
  cases pred s rs with
  | none => rfl
  | some p =>
    obtain ⟨ps, pe⟩ := p
    by_cases h : rs ≤ pe <;> simp [Option.filter, h]

theorem replaceFrom_skip (a b : Nat) (t : RS) (start e : Nat) (pd : List (Nat × Nat)) (h : a < start) :
    replaceFrom ((a, b) :: t) start e pd =
      ((replaceFrom t start e pd).1, (a, b) :: (replaceFrom t start e pd).2) := by
  unfold replaceFrom
  rw [drain_skip a b t start e (by omega)]
  simp only
  rw [drain_skip a b _ start _ (by omega)]
  simp only
  rw [put_skip a b _ start _ h]

theorem replaceFrom_cut (t : RS) (start lo e : Nat) (pd : List (Nat × Nat)) (hw : WF t)
    (hk : ∀ p ∈ t, start < p.1 ∧ lo ≤ p.1) :
    replaceFrom t start e pd = (pd ++ cut t lo e, ins t start e) := by
  unfold replaceFrom
  obtain ⟨h1, h2⟩ := drain_cut t start lo e hw hk
  rw [h1, h2]

theorem replace_skip (a b : Nat) (t : RS) (rs re : Nat) (hw : WF ((a, b) :: t)) (hb : b < rs) :
    replace ((a, b) :: t) rs re = ((replace t rs re).1, (a, b) :: (replace t rs re).2) := by
  have hab : a < b := hw.head_lt
  rw [replace_eq, replace_eq t, touchingPred_skip hw hb]
  cases hp : touchingPred t rs with
  | none => exact replaceFrom_skip a b _ rs _ _ (Nat.lt_trans hab hb)
  | some r =>
    obtain ⟨c, d⟩ := r
    have hr := touchingPred_mem hp
    have hc : a < c := Nat.lt_trans hab (hw.head_sep _ hr.1)
    simp only
    rw [del_cons_ne a b c t (Nat.ne_of_lt hc), show Nat.min rs c = c from Nat.min_eq_right hr.2]
    exact replaceFrom_skip a b _ c _ _ hc

theorem replace_eq_cut_ins (s : RS) : ∀ (rs re : Nat), WF s → rs ≤ re →
    replace s rs re = (cut s rs re, ins s rs re) := by
  induction s with
  | nil =>
    intro rs re _ h
    rw [replace_eq]
    exact replaceFrom_cut [] rs rs re [] WF_nil (by simp)
  | cons q t ih =>
    obtain ⟨a, b⟩ := q
    intro rs re hw h
    have hab : a < b := hw.head_lt
    have hsep : ∀ p ∈ t, b < p.1 := hw.head_sep
    by_cases hb : b < rs
    · rw [replace_skip a b t rs re hw hb, ih rs re hw.tail h]
      have ec : ¬ Nat.max a rs < Nat.min b re := Nat.not_lt.mpr
        (Nat.le_trans (Nat.min_le_left b re) (Nat.le_trans (Nat.le_of_lt hb) (Nat.le_max_right a rs)))
      simp only [cut, if_neg ec, List.nil_append, ins, if_pos hb]
    · have hrb : rs ≤ b := Nat.le_of_not_lt hb
      by_cases ha : a ≤ rs
      · have hgt : ∀ p ∈ t, rs < p.1 := fun p hp => Nat.lt_of_le_of_lt hrb (hsep p hp)
        rw [replace_eq, touchingPred_head hw ha hrb]
        simp only
        rw [del_head a b t (fun p hp => Nat.ne_of_gt (Nat.lt_trans hab (hsep p hp))),
          show Nat.min rs a = a from Nat.min_eq_right ha,
          replaceFrom_cut t a rs (Nat.max re b) _ hw.tail
            (fun p hp => ⟨Nat.lt_trans hab (hsep p hp), Nat.le_of_lt (hgt p hp)⟩)]
        have emax : Nat.max a rs = rs := Nat.max_eq_right ha
        have hmin : Nat.min b re = Nat.min re b := Nat.min_comm b re
        have e3 : ¬ re < a := Nat.not_lt.mpr (Nat.le_trans ha h)
        have hm2 : Nat.min a rs = a := Nat.min_eq_left ha
        have hM : Nat.max b re = Nat.max re b := Nat.max_comm b re
        simp only [cut, ins, if_neg hb, if_neg e3, emax, hmin, hm2, hM, cut_hi_max t rs re b hsep]
        congr 1
        have hle : rs ≤ Nat.min re b := Nat.le_min.mpr ⟨h, hrb⟩
        by_cases hne : rs ≠ Nat.min re b
        · rw [if_pos hne, if_pos (Nat.lt_of_le_of_ne hle hne)]
        · rw [if_neg hne, if_neg (fun hlt => hne (Nat.ne_of_lt hlt))]
      · have hk := hw.lb (Nat.lt_of_not_le ha)
        rw [replace_eq, touchingPred_none _ _ hk]
        simp only
        rw [replaceFrom_cut _ rs rs re [] hw (fun p hp => ⟨hk p hp, Nat.le_of_lt (hk p hp)⟩)]
        simp only [List.nil_append]

/-- `replace` of a non-empty range on a well-formed set: the set becomes the union, and what the consumer sees is the
    old set cut to the new range -/
theorem replace_spec (s : RS) (rs re : Nat) (hw : WF s) (h : rs < re) :
    WF (replace s rs re).2 ∧ (∀ x, mem x (replace s rs re).2 ↔ mem x s ∨ (rs ≤ x ∧ x < re)) ∧
    From rs (replace s rs re).1 ∧ (∀ p ∈ (replace s rs re).1, p.2 ≤ re) ∧
    ∀ x, mem x (replace s rs re).1 ↔ mem x s ∧ rs ≤ x ∧ x < re := by
  rw [replace_eq_cut_ins s rs re hw (Nat.le_of_lt h)]
  exact ⟨ins_WF s rs re hw h, fun x => ins_mem s rs re x hw.2 h,
    ⟨(cut_from s rs re 0 hw.from).wf, fun p hp => (cut_bounds s rs re p hp).1⟩,
    fun p hp => (cut_bounds s rs re p hp).2, cut_mem s rs re⟩

theorem ins_inside (s : RS) (xs xe ps pe : Nat) (hw : WF s) (hp : pred s xs = some (ps, pe)) (hge : xs ≤ pe)
    (he : xe = xs) : ins s xs xe = s := by
  fun_induction ins s xs xe with
  | case1 => cases hp
  | case2 a b t xs xe hb ih =>
    rw [ih hw.tail ?_ hge he]
    unfold pred at hp
    rw [if_pos (Nat.le_of_lt (Nat.lt_trans hw.head_lt hb))] at hp
    cases hpt : pred t xs with
    | none => rw [hpt] at hp; cases hp; exact absurd hb (Nat.not_lt.mpr hge)
    | some r => rw [hpt] at hp; exact hp
  | case3 a b t xs xe _ hx =>
    rw [pred_none_of_gt _ _ (hw.lb (he ▸ hx))] at hp; cases hp
  | case4 a b t xs xe hb hx _ =>
    subst he
    rw [show Nat.min a xe = a from Nat.min_eq_left (Nat.le_of_not_lt hx),
      show Nat.max b xe = b from Nat.max_eq_left (Nat.le_of_not_lt hb)]
    exact ins_self a b t hw

theorem replace_empty_inside (s : RS) (o ps pe : Nat) (hw : WF s) (hp : pred s o = some (ps, pe))
    (hge : pe ≥ o) : replace s o o = ([], s) := by
  rw [replace_eq_cut_ins s o o hw (Nat.le_refl o), cut_nil s o o (fun p _ => Nat.le_max_right p.1 o),
    ins_inside s o o ps pe hw hp hge rfl]

end QM.RangeSet
