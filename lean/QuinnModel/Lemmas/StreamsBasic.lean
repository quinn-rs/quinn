import QuinnModel.Streams.State
/-
Stream-id arithmetic and the laws of the association lists that hold the sending and receiving halves.
-/
namespace QM.Streams

theorem ite_keeps {α β} (f : α → β) {c : Prop} [Decidable c] {a b : α} {v : β} (ha : f a = v) (hb : f b = v) :
    f (if c then a else b) = v := by split <;> assumption

theorem natMax_eq (a b : Nat) : Nat.max a b = max a b := rfl
theorem natMin_eq (a b : Nat) : Nat.min a b = min a b := rfl

theorem subU_eq {a b c : Nat} (h : subU a b = some c) : c = a - b ∧ b ≤ a := by
  unfold subU at h
  split at h
  · simp only [Option.some.injEq] at h; exact ⟨h.symm, ‹_›⟩
  · contradiction

theorem Two.get_set {α} (t : Two α) (d d' : Dir) (v : α) :
    (t.set d v).get d' = if d = d' then v else t.get d' := by
  cases d <;> cases d' <;> rfl

-- an id is `index * 4 + dir * 2 + initiator` with both codes below 2, so `/` and `%` recover the parts
theorem Side.toNat_lt (sd : Side) : sd.toNat < 2 := by cases sd <;> decide
theorem Dir.toNat_lt (d : Dir) : d.toNat < 2 := by cases d <;> decide

theorem Side.toNat_inj {a b : Side} (h : a.toNat = b.toNat) : a = b := by
  cases a <;> cases b <;> first | rfl | cases h

theorem Dir.toNat_inj {a b : Dir} (h : a.toNat = b.toNat) : a = b := by
  cases a <;> cases b <;> first | rfl | cases h

theorem sidInitiator_toNat (k : Nat) : (sidInitiator k).toNat = k % 2 := by
  unfold sidInitiator; split <;> simp only [Side.toNat] <;> omega

theorem sidDir_toNat (k : Nat) : (sidDir k).toNat = k / 2 % 2 := by
  unfold sidDir; split <;> simp only [Dir.toNat] <;> omega

theorem sidInitiator_sidNew (sd : Side) (d : Dir) (j : Nat) : sidInitiator (sidNew sd d j) = sd := by
  apply Side.toNat_inj
  have := sd.toNat_lt
  rw [sidInitiator_toNat, sidNew]; omega

theorem sidDir_sidNew (sd : Side) (d : Dir) (j : Nat) : sidDir (sidNew sd d j) = d := by
  apply Dir.toNat_inj
  have := sd.toNat_lt; have := d.toNat_lt
  rw [sidDir_toNat, sidNew]; omega

theorem sidIndex_sidNew (sd : Side) (d : Dir) (j : Nat) : sidIndex (sidNew sd d j) = j := by
  have := sd.toNat_lt; have := d.toNat_lt
  rw [sidIndex, sidNew]; omega

theorem sidNew_inj {sd sd' : Side} {d d' : Dir} {i j : Nat} (h : sidNew sd d i = sidNew sd' d' j) :
    sd = sd' ∧ d = d' ∧ i = j :=
  ⟨by simpa only [sidInitiator_sidNew] using congrArg sidInitiator h,
   by simpa only [sidDir_sidNew] using congrArg sidDir h,
   by simpa only [sidIndex_sidNew] using congrArg sidIndex h⟩

theorem sidNew_components (k : Nat) : sidNew (sidInitiator k) (sidDir k) (sidIndex k) = k := by
  rw [sidNew, sidInitiator_toNat, sidDir_toNat, sidIndex]; omega

@[simp] theorem Map.find?_nil {α} (k : Nat) : Map.find? ([] : Map α) k = none := rfl

theorem Map.find?_cons {α} (m : Map α) (a k : Nat) (b : α) :
    Map.find? ((a, b) :: m) k = if a = k then some b else Map.find? m k := rfl

theorem Map.find?_set {α} (m : Map α) (k k' : Nat) (v : α) :
    (m.set k v).find? k' = if k' = k then (if m.contains k then some v else none) else m.find? k' := by
  induction m with
  | nil => simp [Map.set, Map.find?, Map.contains]
  | cons hd tl ih =>
    obtain ⟨a, b⟩ := hd
    grind [Map.set, Map.contains, Map.find?]

theorem Map.find?_set_self {α} (m : Map α) (k : Nat) (v w : α) (h : m.find? k = some w) :
    (m.set k v).find? k = some v := by
  rw [Map.find?_set]; simp [Map.contains, h]

theorem Map.find?_set_ne {α} (m : Map α) (k k' : Nat) (v : α) (h : k' ≠ k) :
    (m.set k v).find? k' = m.find? k' := by
  rw [Map.find?_set]; simp [h]

theorem Map.find?_erase_ne {α} (m : Map α) (k k' : Nat) (h : k' ≠ k) :
    (m.erase k).find? k' = m.find? k' := by
  induction m with
  | nil => rfl
  | cons hd tl ih =>
    obtain ⟨a, b⟩ := hd
    grind [Map.erase, Map.find?]

theorem Map.find?_erase_self {α} (m : Map α) (k : Nat) : (m.erase k).find? k = none := by
  induction m with
  | nil => rfl
  | cons hd tl ih =>
    obtain ⟨a, b⟩ := hd
    grind [Map.erase, Map.find?]

theorem Map.insertNew_some {α} {m m' : Map α} {k : Nat} {v : α} (h : m.insertNew k v = some m') :
    m.find? k = none ∧ ∀ k', m'.find? k' = if k = k' then some v else m.find? k' := by
  unfold Map.insertNew at h
  split at h
  · simp at h
  · next hc =>
    simp only [Option.some.injEq] at h; subst h
    exact ⟨by simpa [Map.contains] using hc, fun _ => rfl⟩

theorem Map.contains_set {α} (m : Map α) (k k' : Nat) (v : α) : (m.set k v).contains k' = m.contains k' := by
  unfold Map.contains; rw [Map.find?_set]
  by_cases h : k' = k
  · subst h; simp only [↓reduceIte]; unfold Map.contains; cases m.find? k' <;> simp
  · simp [h]

theorem Map.contains_erase_self {α} (m : Map α) (id : Nat) : (m.erase id).contains id = false := by
  simp only [Map.contains, Map.find?_erase_self]; rfl

theorem Map.contains_erase_ne {α} (m : Map α) {id k : Nat} (h : k ≠ id) : (m.erase id).contains k = m.contains k := by
  simp only [Map.contains, Map.find?_erase_ne _ _ _ h]

theorem Map.contains_cons {α} (m : Map α) (id k : Nat) (v : α) :
    Map.contains ((id, v) :: m) k = (decide (id = k) || m.contains k) := by
  simp only [Map.contains, Map.find?_cons]
  by_cases h : id = k <;> simp [h]

theorem Map.keys_set {α} (m : Map α) (k : Nat) (v : α) : (m.set k v).map Prod.fst = m.map Prod.fst := by
  induction m with
  | nil => rfl
  | cons hd tl ih =>
    obtain ⟨a, b⟩ := hd
    simp only [Map.set]
    split
    · rename_i h; simp [h]
    · simp [ih]

theorem Map.keys_erase {α} (m : Map α) (k x : Nat) (h : x ∈ (m.erase k).map Prod.fst) :
    x ∈ m.map Prod.fst := by
  induction m with
  | nil => simp [Map.erase] at h
  | cons hd tl ih =>
    obtain ⟨a, b⟩ := hd
    simp only [Map.erase] at h
    split at h
    · exact List.mem_cons_of_mem _ (ih h)
    · simp only [List.map_cons, List.mem_cons] at h ⊢
      rcases h with h | h
      · exact Or.inl h
      · exact Or.inr (ih h)

theorem Map.find_mem {α} (m : Map α) (k : Nat) (v : α) (h : m.find? k = some v) : k ∈ m.map Prod.fst := by
  induction m with
  | nil => simp at h
  | cons hd tl ih =>
    obtain ⟨a, b⟩ := hd
    simp only [Map.find?] at h
    split at h
    · rename_i e; simp [e]
    · exact List.mem_cons_of_mem _ (ih h)

theorem Map.mem_find {α} (m : Map α) (k : Nat) (h : k ∈ m.map Prod.fst) : ∃ v, m.find? k = some v := by
  induction m with
  | nil => cases h
  | cons hd tl ih =>
    obtain ⟨a, v⟩ := hd
    rw [Map.find?_cons]
    by_cases e : a = k
    · exact ⟨v, if_pos e⟩
    · rw [if_neg e]; exact ih ((List.mem_cons.mp h).resolve_left fun h' => e h'.symm)

end QM.Streams
