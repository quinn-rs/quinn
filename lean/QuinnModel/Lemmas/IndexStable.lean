import QuinnModel.Lemmas.IndexTuple
/-
What the repaired `ConnectionIndex::remove` guarantees for ALL histories (no side condition):
draining a connection changes no table entry of another connection, and the address-tuple entry of a
connection stays in place from the moment the connection is established until it drains or a newer
connection is established on the same key.
-/
namespace QM.Index

variable {s s' : State} {ch : Nat} {a : FourTuple}

theorem drained_lookups (hs : Sound s) (h : evDrained s ch = some s') :
    (∀ a, alookup a s.index.inRemotes ≠ some ch → alookup a s'.index.inRemotes = alookup a s.index.inRemotes) ∧
    (∀ r, alookup r s.index.outRemotes ≠ some ch →
      alookup r s'.index.outRemotes = alookup r s.index.outRemotes) ∧
    (∀ c, c ≠ [] → alookup c s.index.ids ≠ some ch → alookup c s'.index.ids = alookup c s.index.ids) ∧
    (∀ d, alookup d s.index.idsInitial ≠ some (.connection ch) →
      alookup d s'.index.idsInitial = alookup d s.index.idsInitial) := by
  obtain ⟨-, rfl⟩ | ⟨conn, conns, ix, u, -, hrem, rfl⟩ := evDrained_cases h
  · exact ⟨fun _ _ => rfl, fun _ _ => rfl, fun _ _ _ => rfl, fun _ _ => rfl⟩
  · have g0 := u.old
    refine ⟨fun a hl => ?_, fun r hl => ?_, fun c hce hl => ?_, fun d hl => ?_⟩
    · rw [hrem.inR, if_neg (fun hc => hl hc.2)]
    · rw [hrem.outR, if_neg (fun hc => hl hc.2)]
    · rw [hrem.ids, if_neg]
      intro hmem
      obtain ⟨q, hq⟩ := exists_alookup_of_mem_vals (hs.loc_nodup _ _ g0) hmem
      exact hl (hs.ids_complete ch conn q c g0 hq hce)
    · rw [hrem.idsInitial, if_neg]
      intro hc
      exact hl (hc.2.2 ▸ hs.conn_init ch conn g0 hc.1 hc.2.1)

theorem in_entry_stable {h : Nat} {ops : List Op} {s0 : State} (hs : Sound s0)
    (hl : alookup a s0.index.inRemotes = some h) (hk : Along (KeepsIn a h) s0 ops)
    (hr : runFrom s0 ops = some s) : alookup a s.index.inRemotes = some h :=
  (inv_runFrom (Inv := fun s => Sound s ∧ alookup a s.index.inRemotes = some h)
    (fun _ _ _ hi hp hst => ⟨sound_step hi.1 hst,
      (hi.1.in_sound a h hi.2).elim fun m g => (tuple_step hst).inR a h m hi.2 g.1 hp⟩)
    ⟨hs, hl⟩ hk hr).2

theorem out_entry_stable {r : Addr} {h : Nat} {ops : List Op} {s0 : State} (hs : Sound s0)
    (hl : alookup r s0.index.outRemotes = some h) (hk : Along (KeepsOut r h) s0 ops)
    (hr : runFrom s0 ops = some s) : alookup r s.index.outRemotes = some h :=
  (inv_runFrom (Inv := fun s => Sound s ∧ alookup r s.index.outRemotes = some h)
    (fun _ _ _ hi hp hst => ⟨sound_step hi.1 hst,
      (hi.1.out_sound r h hi.2).elim fun m g => (tuple_step hst).outR r h m hi.2 g.1 hp⟩)
    ⟨hs, hl⟩ hk hr).2

theorem hit_stays {ν : Type} {x y : Option ν} {v w : ν} (h : x ≠ some w → y = x) (hx : x = some v)
    (hne : v ≠ w) : y = some v := by
  rw [h (by rw [hx]; exact fun e => hne (Option.some.inj e)), hx]

end QM.Index
