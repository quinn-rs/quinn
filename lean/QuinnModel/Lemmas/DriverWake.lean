import QuinnModel.Async.DriverWake
/-
Proofs about the driver-wake protocol (C18): the table read from the source covers the proto contract, and with
a covering table no interleaving leaves frames behind a sleeping, unarmed driver.
-/
namespace QM.DriverWake

/-- a wake table covers the contract: whenever the call may have queued frames, the wake is made -/
def Covers (W : Op → Bool → Bool → Bool → Bool) : Prop :=
  ∀ op r u1 u2, mayQueue op r = true → W op r u1 u2 = true

theorem wakes_covers : Covers wakes := by
  -- a finite table: per entry point, the 8 valuations of the atoms are evaluated
  intro op; cases op <;> decide

theorem safe_step (W : Op → Bool → Bool → Bool → Bool) (hW : Covers W) (s : St) (e : Ev) (hs : Safe s) :
    Safe (step W s e) := by
  cases e with
  | app op r u1 u2 queued =>
    by_cases hw : W op r u1 u2 = true
    · simp [Safe, step, hw]
    · have hm : mayQueue op r = false := by
        cases hm : mayQueue op r
        · rfl
        · exact absurd (hW op r u1 u2 hm) hw
      simpa [Safe, step, hw, hm] using hs
  | driverPoll out =>
    cases hd : s.drv with
    | asleep => simpa [Safe, step, hd] using hs
    | runnable => cases out <;> simp [Safe, step, hd]
  | ext => simp [Safe, step]

theorem safe_run (W : Op → Bool → Bool → Bool → Bool) (hW : Covers W) :
    ∀ (evs : List Ev) (s : St), Safe s → Safe (run W s evs) := by
  intro evs
  induction evs with
  | nil => intro s h; simpa [run] using h
  | cons e es ih => intro s h; exact ih _ (safe_step W hW s e h)

theorem safe_init : Safe init := by
  unfold Safe init
  simp

theorem app_leaves_runnable (W : Op → Bool → Bool → Bool → Bool) (hW : Covers W) (s : St) (op : Op)
    (r u1 u2 queued : Bool) (hq : mayQueue op r = true) :
    (step W s (.app op r u1 u2 queued)).drv = .runnable := by
  simp [step, hW op r u1 u2 hq]

end QM.DriverWake
