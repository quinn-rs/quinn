import QuinnModel.Lemmas.Reader
import QuinnModel.Wire.Frame
/-
Proofs about the frame model: round trip for every kind, totality / suffix property of the decoder,
absence of decoder panics, termination of the iteration, close truncation, size bounds.
-/
namespace QM.Wire.Frame
open QM QM.Wire QM.Wire.P

def RT (f : Frame) : Prop :=
  ∀ r : Bytes, ∃ e, encode f = some e ∧ decodeOne (e ++ r) = .ok (f, r)

/-- round trip of `f` followed by `r`, under a length flag and a close budget -/
def RTW (wl : Bool) (m : Nat) (f : Frame) (r : Bytes) : Prop :=
  ∃ e, encodeWith wl m f = some e ∧ decodeOne (e ++ r) = .ok (f, r)

theorem decodeOne_enc {ty : Nat} (h : ty < 2^62) (bs : Bytes) : decodeOne (encB ty ++ bs) = decodeBody ty bs :=
  bind_ok (getVar_enc E h bs)

/-- Round trip of one kind: the encoder wrote the type code and then `c`, and the arm of `decodeBody` for that
    code (found by evaluating the dispatch) reads the frame back from `c`. -/
theorem RTW.of {wl : Bool} {m : Nat} {f : Frame} {ty : Nat} {c : Bytes} (r : Bytes)
    (henc : encodeWith wl m f = some (encB ty ++ c)) (hty : ty < 2^62) (hdec : Reads (decodeBody ty) c f r) : RTW wl m f r :=
  ⟨_, henc, by rw [List.append_assoc, decodeOne_enc hty]; exact hdec⟩

theorem takeLen_reads {d r : Bytes} (h : d.length < 2^62) : Reads takeLen (encB d.length ++ d) d r :=
  .bind (.getVar E h) (.takeN E d)

theorem takeGuarded_reads {c n : Nat} {tok r : Bytes} (h : tok.length = n) (hc : c ≤ n) :
    Reads (takeGuarded c n) tok tok r :=
  .remaining (.if_neg (by rw [List.length_append]; omega) (h ▸ .takeN _ tok))

/-- the payload of STREAM and DATAGRAM: behind its length, or without one as the last thing of the packet -/
theorem payload_reads {wl : Bool} {d r : Bytes} (hd : wl = true → d.length < 2^62) (hr : wl = false → r = []) :
    Reads (if wl then takeLen else takeAll) ((if wl then encB d.length else []) ++ d) d r := by
  cases wl
  · rw [hr rfl]; exact .takeAll
  · exact takeLen_reads (hd rfl)

theorem payload_write (wl : Bool) (d b : Bytes) (hd : wl = true → d.length < 2^62) :
    wBytes d (if wl then wVar d.length (some b) else some b) = some (b ++ ((if wl then encB d.length else []) ++ d)) := by
  cases wl
  · simp only [Bool.false_eq_true, if_false, wBytes_some, List.nil_append]
  · simp only [if_true, wVar_some (hd rfl), wBytes_some, List.append_assoc]

theorem datagramTy_lt_64 (wl : Bool) : datagramTy wl < 64 := by cases wl <;> decide

theorem decodeBody_datagram (wl : Bool) :
    decodeBody (datagramTy wl) = (if wl then takeLen else takeAll) >>= fun data => pure (.datagram data) := by
  cases wl <;> rfl

theorem optVar_write (c : Prop) [Decidable c] {x : Nat} (h : x < 2^62) (b : Bytes) :
    (if c then wVar x (some b) else some b) = some (b ++ if c then encB x else []) := by
  split
  · exact wVar_some h b
  · rw [List.append_nil]

theorem optOffset_reads {off : Nat} (h : off < 2^62) {r : Bytes} :
    Reads (if decide (off ≠ 0) then getVar E else pure 0) (if off ≠ 0 then encB off else []) off r := by
  by_cases h0 : off = 0
  · subst h0; rfl
  · simp only [ne_eq, h0, not_false_eq_true, decide_true, if_true]; exact .getVar E h

theorem streamTy_lt_64 (off : Nat) (wl fin : Bool) : streamTy off wl fin < 64 := by
  unfold streamTy; cases wl <;> cases fin <;> split <;> decide

/-- only whether the offset is zero enters the type byte -/
theorem streamTy_eq (off : Nat) (wl fin : Bool) : streamTy off wl fin = streamTy (decide (off ≠ 0)).toNat wl fin := by
  by_cases h0 : off = 0
  · subst h0; rfl
  · simp only [streamTy, ne_eq, h0, not_false_eq_true, decide_true, Bool.toNat_true, Nat.succ_ne_self, if_true]

theorem decodeBody_stream (o wl fin : Bool) : decodeBody (streamTy o.toNat wl fin) =
    getVar E >>= fun id => (if o then getVar E else pure 0) >>= fun offset =>
      (if wl then takeLen else takeAll) >>= fun data => pure (.stream id offset fin data) := by
  cases o <;> cases wl <;> cases fin <;> rfl

theorem sizeOf62_eq {x : Nat} (h : x < 2^62) : sizeOf62 x = some (encB x).length := by
  simp only [sizeOf62, VarInt.fromU64, Gen.varintFromU64Bound, h, if_true, size_eq_length h]

theorem closeBudget_eq (m o s : Nat) : closeBudget m o s = if o + s ≤ m then some (m - (o + s)) else none := by
  unfold closeBudget
  by_cases h : o + s ≤ m
  · rw [if_pos h, if_neg (Nat.not_lt.mpr h), Nat.sub_sub]
  · rw [if_neg h, if_pos (Nat.lt_of_not_le h)]

theorem codeBudget_off (code : Nat) : codeBudget 0 code = some 0 := rfl

theorem codeBudget_on {code : Nat} (h : code < 2^62) : codeBudget 1 code = some (encB code).length :=
  size_eq_length h

/-- bytes `ConnectionClose::encode` reserves besides the reason: type + (2 for the code) + frame type + length -/
def connFixed (ty : Nat) (reason : Bytes) : Nat := 3 + ((encB ty).length + (encB reason.length).length)

/-- bytes `ApplicationClose::encode` reserves besides the reason: type + error code + length -/
def appFixed (code : Nat) (reason : Bytes) : Nat := 1 + ((encB code).length + (encB reason.length).length)

/-- number of reason bytes `ConnectionClose::encode` keeps under `max_len` -/
def connKeep (maxLen : Nat) (ty : Nat) (reason : Bytes) : Nat :=
  min reason.length (maxLen - connFixed ty reason)

/-- number of reason bytes `ApplicationClose::encode` keeps under `max_len` -/
def appKeep (maxLen code : Nat) (reason : Bytes) : Nat :=
  min reason.length (maxLen - appFixed code reason)

theorem ftRaw_lt (ft : Option Nat) (hft : ∀ x, ft = some x → x < 2^62 ∧ x ≠ 0) : ftRaw ft < 2^62 := by
  cases ft with
  | none => decide
  | some x => exact (hft x rfl).1

theorem takeLen_reads_take {reason r : Bytes} {k : Nat} (hk : k ≤ reason.length) (hl : reason.length < 2^62) :
    Reads takeLen (encB k ++ reason.take k) (reason.take k) r := by
  have := takeLen_reads (d := reason.take k) (r := r)
  rw [List.length_take, Nat.min_eq_left hk] at this
  exact this (by omega)

section close
variable (wl : Bool) (m code : Nat) (reason : Bytes) (hc : code < 2^62) (hl : reason.length < 2^62)
include hc hl

/-- what `ConnectionClose::encode` does: a panic when `max_len` is below what it reserves, else the reason cut to
    what is left -/
theorem closeConn_enc (ft : Option Nat) (hty : ftRaw ft < 2^62) :
    encodeWith wl m (.closeConn code ft reason) =
      if connFixed (ftRaw ft) reason ≤ m then
        some (encB Gen.ftConnectionClose ++ (encB code ++ (encB (ftRaw ft) ++
          (encB (connKeep m (ftRaw ft) reason) ++ reason.take (connKeep m (ftRaw ft) reason)))))
      else none := by
  have hk : connKeep m (ftRaw ft) reason < 2^62 := Nat.lt_of_le_of_lt (Nat.min_le_left _ _) hl
  unfold connKeep connFixed at *
  simp only [encodeWith, Gen.closeConnBudgetsCodeSize, codeBudget_off, sizeOf62_eq hty, sizeOf62_eq hl,
    Gen.closeConnOverhead, closeBudget_eq, Nat.zero_add]
  by_cases hm : 3 + ((encB (ftRaw ft)).length + (encB reason.length).length) ≤ m
  · simp only [if_pos hm, wVar_nil (show Gen.ftConnectionClose < 2^62 by decide), wVar_some hc, wVar_some hty,
      wVar_some hk, wBytes_some, List.append_assoc]
  · simp only [if_neg hm]

theorem closeApp_enc :
    encodeWith wl m (.closeApp code reason) =
      if appFixed code reason ≤ m then
        some (encB Gen.ftApplicationClose ++ (encB code ++
          (encB (appKeep m code reason) ++ reason.take (appKeep m code reason))))
      else none := by
  have hk : appKeep m code reason < 2^62 := Nat.lt_of_le_of_lt (Nat.min_le_left _ _) hl
  unfold appKeep appFixed at *
  simp only [encodeWith, Gen.closeAppBudgetsCodeSize, codeBudget_on hc, sizeOf62_eq hl, Gen.closeAppOverhead,
    closeBudget_eq]
  by_cases hm : 1 + ((encB code).length + (encB reason.length).length) ≤ m
  · simp only [if_pos hm, wVar_nil (show Gen.ftApplicationClose < 2^62 by decide), wVar_some hc, wVar_some hk,
      wBytes_some, List.append_assoc]
  · simp only [if_neg hm]

theorem closeConn_trunc (ft : Option Nat) (hft : ∀ x, ft = some x → x < 2^62 ∧ x ≠ 0)
    (hm : connFixed (ftRaw ft) reason ≤ m) (r : Bytes) :
    ∃ e, encodeWith wl m (.closeConn code ft reason) = some e ∧
      decodeOne (e ++ r) = .ok (.closeConn code ft (reason.take (connKeep m (ftRaw ft) reason)), r) := by
  have hty := ftRaw_lt ft hft
  have hnone : (if ftRaw ft = 0 then none else some (ftRaw ft)) = ft := by
    cases ft with
    | none => rfl
    | some x => exact if_neg (hft x rfl).2
  have hd : Reads (decodeBody Gen.ftConnectionClose) _ _ r :=
    .bind (.getVar E hc) (.bind (.getVar E hty)
      (.map (takeLen_reads_take (k := connKeep m (ftRaw ft) reason) (Nat.min_le_left _ _) hl) _))
  rw [hnone] at hd
  exact ⟨_, (closeConn_enc wl m code reason hc hl ft hty).trans (if_pos hm),
    by rw [List.append_assoc, decodeOne_enc (by decide)]; exact hd⟩

theorem closeApp_trunc (hm : appFixed code reason ≤ m) (r : Bytes) :
    ∃ e, encodeWith wl m (.closeApp code reason) = some e ∧
      decodeOne (e ++ r) = .ok (.closeApp code (reason.take (appKeep m code reason)), r) :=
  have hd : Reads (decodeBody Gen.ftApplicationClose) _ _ r :=
    .bind (.getVar E hc) (.map (takeLen_reads_take (k := appKeep m code reason) (Nat.min_le_left _ _) hl) _)
  ⟨_, (closeApp_enc wl m code reason hc hl).trans (if_pos hm), by rw [List.append_assoc, decodeOne_enc (by decide)]; exact hd⟩

theorem closeConn_rt (ft : Option Nat) (hft : ∀ x, ft = some x → x < 2^62 ∧ x ≠ 0)
    (hm : connFixed (ftRaw ft) reason + reason.length ≤ m) (r : Bytes) : RTW wl m (.closeConn code ft reason) r := by
  obtain ⟨e, he, hd⟩ := closeConn_trunc wl m code reason hc hl ft hft (by omega) r
  rw [show connKeep m (ftRaw ft) reason = reason.length by unfold connKeep; omega, List.take_length] at hd
  exact ⟨e, he, hd⟩

theorem closeApp_rt (hm : appFixed code reason + reason.length ≤ m) (r : Bytes) : RTW wl m (.closeApp code reason) r := by
  obtain ⟨e, he, hd⟩ := closeApp_trunc wl m code reason hc hl (by omega) r
  rw [show appKeep m code reason = reason.length by unfold appKeep; omega, List.take_length] at hd
  exact ⟨e, he, hd⟩

/-- APPLICATION_CLOSE written under `max_len` occupies at most `max_len` bytes (the budget accounts for
    the real size of the error code) -/
theorem closeApp_fits (e : Bytes) (he : encodeWith wl m (.closeApp code reason) = some e) : e.length ≤ m := by
  rw [closeApp_enc wl m code reason hc hl] at he
  split at he
  · cases he
    -- `appFixed` reserves the length field of the whole reason; that of the kept prefix is at most as long
    have hk : appKeep m code reason ≤ m - appFixed code reason := Nat.min_le_right _ _
    have := encB_length_mono hl (show appKeep m code reason ≤ reason.length from Nat.min_le_left _ _)
    simp only [List.length_append, encB_length_one (show Gen.ftApplicationClose < 64 by decide), List.length_take]
    unfold appFixed at *
    omega
  · cases he

end close

/-- CONNECTION_CLOSE written under `max_len` occupies at most `max_len` bytes when the transport error code
    needs at most two bytes (the constant 3 of the budget = type byte + 2 for the code) -/
theorem closeConn_fits (wl : Bool) (m code : Nat) (ft : Option Nat) (reason e : Bytes)
    (hc : code < 2^14) (hl : reason.length < 2^62) (hft : ∀ x, ft = some x → x < 2^62 ∧ x ≠ 0)
    (he : encodeWith wl m (.closeConn code ft reason) = some e) : e.length ≤ m := by
  have hc' : code < 2^62 := by omega
  rw [closeConn_enc wl m code reason hc' hl ft (ftRaw_lt ft hft)] at he
  split at he
  · cases he
    have hk : connKeep m (ftRaw ft) reason ≤ m - connFixed (ftRaw ft) reason := Nat.min_le_right _ _
    have := encB_length_mono hl (show connKeep m (ftRaw ft) reason ≤ reason.length from Nat.min_le_left _ _)
    have : (encB code).length ≤ 2 := by
      rw [encB_length_eq hc']
      split
      · decide
      · exact Nat.le_refl _
    simp only [List.length_append, encB_length_one (show Gen.ftConnectionClose < 64 by decide), List.length_take]
    unfold connFixed at *
    omega
  · cases he

/-- what the budget reserves is within SIZE_BOUND, so the caller's check `buf.len() + SIZE_BOUND < max_size`
    guarantees that it cannot underflow -/
theorem appFixed_le {code : Nat} {reason : Bytes} (hc : code < 2^62) (hl : reason.length < 2^62) :
    appFixed code reason ≤ Gen.sizeBoundApplicationClose := by
  have := (encB_length hc).2; have := (encB_length hl).2
  unfold appFixed Gen.sizeBoundApplicationClose; omega

theorem connFixed_le {ty : Nat} {reason : Bytes} (hty : ty < 2^62) (hl : reason.length < 2^62) :
    connFixed ty reason ≤ Gen.sizeBoundConnectionClose := by
  have := (encB_length hty).2; have := (encB_length hl).2
  unfold connFixed Gen.sizeBoundConnectionClose; omega

def encBlocks : List (Nat × Nat) → Bytes
  | [] => []
  | (g, l) :: rest => encB g ++ (encB l ++ encBlocks rest)

theorem wAckBlocks_some (bl : List (Nat × Nat)) : ∀ (s : Nat) (b : Bytes), ackChain s bl →
    wAckBlocks bl (some b) = some (b ++ encBlocks bl) := by
  induction bl with
  | nil => intro s b _; rw [wAckBlocks, encBlocks, List.append_nil]
  | cons p rest ih =>
    intro s b ⟨hg, hl, _, hrest⟩
    rw [wAckBlocks, wVar_some hg, wVar_some hl, ih _ _ hrest, encBlocks, List.append_assoc, List.append_assoc]

theorem scanBlocks_reads {r : Bytes} (bl : List (Nat × Nat)) : ∀ (s : Nat), ackChain s bl →
    Reads (scanBlocks bl.length s) (encBlocks bl) bl r := by
  induction bl with
  | nil => intro s _; exact .pure _
  | cons p rest ih =>
    intro s ⟨hg, hl, hs, hrest⟩
    exact .bind (.getVar E hg) (.if_neg (by omega) (.bind (.getVar E hl) (.if_neg (by omega)
      (.map (ih _ hrest) _))))

theorem V.lt {x : Nat} (h : V x) : x < 2^62 := h

theorem ack_rt (wl : Bool) (m : Nat) {largest delay first : Nat} {bl : List (Nat × Nat)} {ecn : Option (Nat × Nat × Nat)}
    (hw : wellFormed (.ack largest delay first bl ecn)) (r : Bytes) : RTW wl m (.ack largest delay first bl ecn) r := by
  obtain ⟨h1, h2, h3, h4, h5, h6, h7⟩ := hw
  have hscan : ∀ {r}, Reads (scanAck largest bl.length) (encB first ++ encBlocks bl) (first, bl) r :=
    .bind (.getVar E h3) (.if_neg (by omega) (.map (scanBlocks_reads bl _ h6) _))
  cases ecn with
  | none =>
    have hty : Gen.ftAck < 2^62 := by decide
    exact RTW.of r
      (by simp only [encodeWith, Option.isSome_none, Bool.false_eq_true, if_false, wVar_nil hty, wVar_some,
        h1.lt, h2.lt, h3.lt, h5.lt, wAckBlocks_some bl _ _ h6, List.append_assoc, List.append_nil]) hty
      (.bind (.getVar E h1) (.bind (.getVar E h2) (.bind (.getVar E h5) (.bind hscan (.if_pos (by decide) (.pure _))))))
  | some e =>
    obtain ⟨a, b, c⟩ := e
    obtain ⟨ha, hb, hc⟩ := h7 _ rfl
    have hty : Gen.ftAckEcn < 2^62 := by decide
    exact RTW.of r
      (by simp only [encodeWith, Option.isSome_some, if_true, wVar_nil hty, wVar_some, wEcn,
        h1.lt, h2.lt, h3.lt, h5.lt, ha.lt, hb.lt, hc.lt, wAckBlocks_some bl _ _ h6, List.append_assoc]) hty
      (.bind (.getVar E h1) (.bind (.getVar E h2) (.bind (.getVar E h5) (.bind hscan (.if_neg (by decide)
        (.bind (.getVar E ha) (.bind (.getVar E hb) (.map (.getVar E hc) _))))))))

/-- every kind, with the length flag of STREAM / DATAGRAM a variable: without a length the frame must come last -/
theorem roundtrip_with (wl : Bool) (r : Bytes) (hr : wl = false → r = []) :
    ∀ f : Frame, wellFormed f → RTW wl usizeMax f r
  | .padding, _ => RTW.of r (wVar0 (ty := Gen.ftPadding) (by decide)) (by decide) (.pure _)
  | .ping, _ => RTW.of r (wVar0 (ty := Gen.ftPing) (by decide)) (by decide) (.pure _)
  | .immediateAck, _ => RTW.of r (wVar0 (ty := Gen.ftImmediateAck) (by decide)) (by decide) (.pure _)
  | .handshakeDone, _ => RTW.of r (wVar0 (ty := Gen.ftHandshakeDone) (by decide)) (by decide) (.pure _)
  | .maxData _, h | .maxStreams false _, h | .maxStreams true _, h | .dataBlocked _, h | .streamsBlocked false _, h
  | .streamsBlocked true _, h | .retireConnectionId _, h => RTW.of r (wVar1 (by decide) h) (by decide) (.var1 E h _)
  | .stopSending .., ⟨h1, h2⟩ | .maxStreamData .., ⟨h1, h2⟩ | .streamDataBlocked .., ⟨h1, h2⟩ =>
    RTW.of r (wVar2 (by decide) h1 h2) (by decide) (.var2 E h1 h2 _)
  | .ack .., h => ack_rt wl _ h r
  | .resetStream .., ⟨h1, h2, h3⟩ =>
    have hty : Gen.ftResetStream < 2^62 := by decide
    RTW.of r (by simp only [encodeWith, wVar_nil hty, wVar_some, h1.lt, h2.lt, h3.lt, List.append_assoc]) hty
      (.bind (.getVar E h1) (.bind (.getVar E h2) (.map (.getVar E h3) _)))
  | .crypto .., ⟨h1, h2⟩ =>
    have hty : Gen.ftCrypto < 2^62 := by decide
    RTW.of r (by simp only [encodeWith, wVar_nil hty, wVar_some, wBytes_some, h1.lt, h2.lt, List.append_assoc]) hty
      (.bind (.getVar E h1) (.map (takeLen_reads h2) _))
  | .newToken _, h =>
    have hty : Gen.ftNewToken < 2^62 := by decide
    RTW.of r (by simp only [encodeWith, wVar_nil hty, wVar_some, wBytes_some, h.lt, List.append_assoc])
      hty (.map (takeLen_reads h) _)
  | .stream _ off fin d, ⟨h1, h2, h3⟩ =>
    have hty : streamTy off wl fin < 2^62 := Nat.lt_trans (streamTy_lt_64 off wl fin) (by decide)
    RTW.of r (by rw [encodeWith, wVar_nil hty, wVar_some h1, optVar_write _ h2, payload_write wl d _ fun _ => h3,
        List.append_assoc, List.append_assoc]) hty
      (by rw [streamTy_eq, decodeBody_stream]
          exact .bind (.getVar E h1) (.bind (optOffset_reads h2) (.map (payload_reads (fun _ => h3) hr) _)))
  | .newConnectionId _ retire id _, ⟨h1, h2, h3, h4, h5⟩ =>
    have hty : Gen.ftNewConnectionId < 2^62 := by decide
    have hr : retire < 2^62 := Nat.lt_of_le_of_lt h2 h1
    have hm : id.length % 256 = id.length := by omega
    have hc : ¬ (id.length > Gen.wireMaxCidSize ∨ id.length = 0) := by unfold Gen.wireMaxCidSize; omega
    RTW.of r (by simp only [encodeWith, wVar_nil hty, wVar_some, h1.lt, hr, wU8_some, hm, wBytes_some,
      List.append_assoc]) hty
      (.bind (.getVar E h1) (.bind (.getVar E hr) (.if_neg (Nat.not_lt.mpr h2)
        (.bind (.getU8 E id.length) (.if_neg hc (.bind (.takeN E id) (.map (takeGuarded_reads h5 (by decide)) _)))))))
  | .pathChallenge _, h =>
    have hty : Gen.ftPathChallenge < 2^62 := by decide
    RTW.of r (by simp only [encodeWith, wVar_nil hty, wU64_some]) hty (.map (.getU64 E h) _)
  | .pathResponse _, h =>
    have hty : Gen.ftPathResponse < 2^62 := by decide
    RTW.of r (by simp only [encodeWith, wVar_nil hty, wU64_some]) hty (.map (.getU64 E h) _)
  | .closeConn _ ft reason, ⟨h1, h2, h3⟩ =>
    closeConn_rt wl _ _ reason h1 h2 ft h3 (by
      have := connFixed_le (ftRaw_lt ft h3) h2
      unfold Gen.sizeBoundConnectionClose usizeMax V at *; omega) r
  | .closeApp _ reason, ⟨h1, h2⟩ =>
    closeApp_rt wl _ _ reason h1 h2 (by
      have := appFixed_le h1 h2
      unfold Gen.sizeBoundApplicationClose usizeMax V at *; omega) r
  | .datagram d, h =>
    have hty : datagramTy wl < 2^62 := Nat.lt_trans (datagramTy_lt_64 wl) (by decide)
    RTW.of r (by rw [encodeWith, wVar_nil hty]; exact payload_write wl d _ fun _ => h) hty
      (by rw [decodeBody_datagram]; exact .map (payload_reads (fun _ => h) hr) _)
  | .ackFrequency .., ⟨h1, h2, h3, h4⟩ =>
    have hty : Gen.ftAckFrequency < 2^62 := by decide
    RTW.of r (by simp only [encodeWith, wVar_nil hty, wVar_some, h1.lt, h2.lt, h3.lt, h4.lt, List.append_assoc]) hty
      (.bind (.getVar E h1) (.bind (.getVar E h2) (.bind (.getVar E h3) (.map (.getVar E h4) _))))

theorem roundtrip (f : Frame) (h : wellFormed f) : RT f :=
  fun r => roundtrip_with true r (fun h => by cases h) f h

/-- what the frame decoder must never report -/
abbrev isPanic (e : FrameErr) : Prop := e = .panic

theorem scanBlocks_good : ∀ (n s : Nat) (bs : Bytes), Good isPanic 0 (scanBlocks n s) bs
  | 0, _, _ => .pure _
  | n + 1, _, _ =>
    (Good.getVar (by decide)).bind fun _ => .ite (fun _ => .fail (by decide)) fun _ =>
      (Good.getVar (by decide)).bind fun _ => .ite (fun _ => .fail (by decide)) fun _ =>
        (scanBlocks_good n _ _).bind fun _ => .pure _

theorem decodeBody_good (ty : Nat) (bs : Bytes) : Good isPanic 0 (decodeBody ty) bs := by
  have v : ∀ {bs}, Good isPanic 0 (getVar E) bs := .getVar (by decide)
  have len : ∀ {bs}, Good isPanic 0 takeLen bs := v.bind fun _ => .takeN (.inl (by decide))
  have v1 : ∀ {bs} (k : Nat → Frame), Good isPanic 0 (getVar E >>= fun a => pure (k a)) bs :=
    fun _ => v.bind fun _ => .pure _
  have v2 : ∀ {bs} (k : Nat → Nat → Frame), Good isPanic 0 (getVar E >>= fun a => getVar E >>= fun b => pure (k a b)) bs :=
    fun _ => v.bind fun _ => v1 _
  have l1 : ∀ {bs} (k : Bytes → Frame), Good isPanic 0 (takeLen >>= fun d => pure (k d)) bs :=
    fun _ => len.bind fun _ => .pure _
  have u64 : ∀ {bs} (k : Nat → Frame), Good isPanic 0 (getU64 E >>= fun a => pure (k a)) bs :=
    fun _ => (Good.getU64 (by decide)).bind fun _ => .pure _
  have all : ∀ {bs} (k : Bytes → Frame), Good isPanic 0 (takeAll >>= fun d => pure (k d)) bs :=
    fun _ => Good.takeAll.bind fun _ => .pure _
  -- one case per arm of the dispatch, in the order of the definition
  fun_cases decodeBody ty
  · exact .pure _
  · exact v.bind fun _ => v2 _
  · exact v.bind fun _ => v.bind fun _ => l1 _
  · exact v.bind fun _ => l1 _
  · exact v1 _
  · exact v2 _
  · exact v1 _
  · exact v1 _
  · exact .pure _
  · exact v1 _
  · exact v2 _
  · exact v1 _
  · exact v1 _
  · exact v2 _
  · exact v1 _
  · -- ACK, ACK_ECN
    exact v.bind fun _ => v.bind fun _ => v.bind fun _ =>
      Good.bind (v.bind fun _ => .ite (fun _ => .fail (by decide)) fun _ =>
        (scanBlocks_good _ _ _).bind fun _ => .pure _) fun _ =>
      .ite (fun _ => .pure _) fun _ => v.bind fun _ => v2 _
  · exact u64 _
  · exact u64 _
  · -- NEW_CONNECTION_ID: the test in front of the unchecked `copy_to_slice` is strong enough
    exact v.bind fun _ => v.bind fun _ => .ite (fun _ => .fail (by decide)) fun _ =>
      (Good.getU8 (by decide)).bind fun _ => .ite (fun _ => .fail (by decide)) fun _ =>
        (Good.takeN (.inl (by decide))).bind fun _ =>
          Good.bind (.remaining (.ite (fun _ => .fail (by decide)) fun h => .takeN (.inr (Nat.le_of_not_lt h))))
            fun _ => .pure _
  · exact v.bind fun _ => l1 _
  · exact l1 _
  · exact .pure _
  · exact v.bind fun _ => v.bind fun _ => v2 _
  · exact .pure _
  · -- STREAM
    exact v.bind fun _ => .ite (fun _ => v.bind fun _ => .ite (fun _ => l1 _) fun _ => all _)
      fun _ => (Good.pure _).bind fun _ => .ite (fun _ => l1 _) fun _ => all _
  · -- DATAGRAM with a length, without
    exact l1 _
  · exact all _
  · exact .fail (by decide)

/-- `Iter::try_next` on any input: an error other than the panic, or a frame and a strictly shorter suffix -/
theorem decodeOne_good (bs : Bytes) : Good isPanic 1 decodeOne bs :=
  (Good.getVar (by decide)).bind fun _ => decodeBody_good _ _

theorem iter_fuel_suffices (fuel : Nat) (bs : Bytes) (h : bs.length ≤ fuel) : (iterFuel fuel bs).outOfFuel = false := by
  fun_induction iterFuel fuel bs
  · simp [List.eq_nil_of_length_eq_zero (Nat.le_zero.mp h)]
  · rfl
  · rfl
  · rename_i hd _ ih
    -- a decoded frame takes at least one byte, so the rest fits in the remaining fuel
    exact ih (by have := ((decodeOne_good _).suffix hd).2; omega)

/-- `Never .panic` for the frame readers -/
structure NoPanic {α} (p : P FrameErr α) : Prop where
  np : ∀ bs, p bs ≠ .error .panic

theorem NoPanic.remaining : NoPanic (remaining : P FrameErr Nat) := ⟨fun _ => nofun⟩

/-- the bound of each kind is the sum over its writes; only NEW_CONNECTION_ID needs the frame to be well formed
    (the lengths of the connection id and the token) -/
theorem encoded_size_le_bound (f : Frame) (wl : Bool) (m : Nat) (e : Bytes) (b : Nat) (hw : wellFormed f)
    (he : encodeWith wl m f = some e) (hb : sizeBound f = some b) : e.length ≤ b + payloadLen f := by
  cases f <;> cases hb
  case resetStream => exact (((LenLe.ty (by decide)).var _).var _).var _ e he
  case stopSending => exact ((LenLe.ty (by decide)).var _).var _ e he
  case crypto => exact (((LenLe.ty (by decide)).var _).var _).bytes _ e he
  case stream id off fin d =>
    exact ((((LenLe.ty (streamTy_lt_64 off wl fin)).var _).optVar _ _).optVar _ _).bytes _ e he
  case retireConnectionId => exact (LenLe.ty (by decide)).var _ e he
  case datagram d =>
    exact ((LenLe.ty (datagramTy_lt_64 wl)).optVar _ _).bytes _ e he
  case newConnectionId seq retire id tok =>
    have := (((((LenLe.ty (by decide)).var _).var _).bytes _).bytes _).bytes _ e he
    obtain ⟨_, _, _, _, _⟩ := hw
    simp only [List.length_singleton] at this
    show e.length ≤ Gen.sizeBoundNewConnectionId + 0
    unfold Gen.sizeBoundNewConnectionId
    omega
  case closeConn code ft reason =>
    have hbuf := ((LenLe.ty (show Gen.ftConnectionClose < 64 by decide)).var code).var (ftRaw ft)
    simp only [encodeWith] at he
    split at he
    · split at he
      · cases he
      · exact ((hbuf.var _).bytes _).mono (Nat.add_le_add_left (List.length_take_le' _ _) _) e he
    · cases he
  case closeApp code reason =>
    have hbuf := (LenLe.ty (show Gen.ftApplicationClose < 64 by decide)).var code
    simp only [encodeWith] at he
    split at he
    · split at he
      · cases he
      · exact ((hbuf.var _).bytes _).mono (Nat.add_le_add_left (List.length_take_le' _ _) _) e he
    · cases he

end QM.Wire.Frame
