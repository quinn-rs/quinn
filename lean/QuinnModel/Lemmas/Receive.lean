import QuinnModel.Conn.Receive
import QuinnModel.Lemmas.Dedup
namespace QM.Receive

theorem step_reset (c : C) (p : Pkt) (hr : isStatelessReset p = true) : step c p = (c, .statelessReset) := by
  simp only [step, hr, if_true, ite_self]

/-- the arms of `step`, with what each outcome presupposes and what it does to the duplicate filter -/
theorem step_elim {P : C × Out → Prop} (c : C) (p : Pkt)
    (reset : isStatelessReset p = true → P (c, .statelessReset))
    (dropped : ∀ c' : C, c'.dedup = c.dedup ∨ c'.dedup = (Dedup.insert c.dedup p.pn).1 → P (c', .dropped))
    (processed : p.kind = .protectedPkt → p.authentic = true → (Dedup.insert c.dedup p.pn).2 = false →
      ∀ c' : C, c'.dedup = (Dedup.insert c.dedup p.pn).1 → P (c', .processed p.pn))
    (retry : p.kind = .retry → c.handshake = true ∧ c.server = false ∧ c.authed = 0 ∧ 16 < p.retryPayloadLen ∧
      p.authentic = true → P ({ c with authed := c.authed + 1 }, .retryFollowed))
    (mismatch : p.kind = .versionNegotiation → c.handshake = true ∧ c.authed = 0 ∧ p.vnListsOurVersion = false →
      P (c, .versionMismatch)) : P (step c p) := by
  -- branches in source order: 1-3 header / reset tests, 4 forged, 5 duplicate, 6-7 state filters, 8 processed,
  -- 9-12 Retry, 13-16 Version Negotiation
  fun_cases step c p
  case case1 h => exact reset h
  case case3 h => exact reset h
  case case5 x => exact dropped _ (.inr (by rw [x]))
  case case6 x _ _ _ => exact dropped _ (.inr (by rw [x]))
  case case7 x _ _ _ _ => exact dropped _ (.inr (by rw [x]))
  case case8 hk ha d dup x c1 hd _ _ c2 =>
    refine processed hk (by simpa using ha) (by rw [x]; simpa using hd) c2 ?_
    rw [x]
    exact iteInduction (motive := fun c' : C => c'.dedup = d) (fun _ => rfl) fun _ => rfl
  case case12 hk hh hs h =>
    have ⟨⟨h0, hl⟩, ha⟩ : (c.authed = 0 ∧ 16 < p.retryPayloadLen) ∧ p.authentic = true := by simpa using h
    exact retry hk ⟨by simpa using hh, by simpa using hs, h0, hl, ha⟩
  case case16 hk hh ha hv =>
    exact mismatch hk ⟨by simpa using hh, by simpa using ha, by simpa using hv⟩
  all_goals exact dropped _ (.inl rfl)

theorem processedPns_cons_not (p : Pkt) (o : Out) (rest : List (Pkt × Out)) (h : ∀ n, o ≠ .processed n) :
    processedPns ((p, o) :: rest) = processedPns rest := by
  unfold processedPns
  cases o <;> simp_all

theorem processedPns_cons_proc (p : Pkt) (n : Nat) (rest : List (Pkt × Out)) :
    processedPns ((p, .processed n) :: rest) = n :: processedPns rest := by
  simp [processedPns]

theorem processed_fresh (ps : List Pkt) : ∀ (c : C) (seen : Nat → Prop), Dedup.Inv c.dedup seen →
    (processedPns (run c ps)).Nodup ∧ ∀ q ∈ processedPns (run c ps), ¬ seen q := by
  induction ps with
  | nil => intro c seen _; simp [run, processedPns]
  | cons p ps ih =>
    intro c seen h
    have hI := Dedup.insert_preserves c.dedup seen h p.pn
    have skip : ∀ (c' : C) (o : Out), (∀ n, o ≠ .processed n) →
        c'.dedup = c.dedup ∨ c'.dedup = (Dedup.insert c.dedup p.pn).1 →
        (processedPns ((p, o) :: run c' ps)).Nodup ∧ ∀ q ∈ processedPns ((p, o) :: run c' ps), ¬ seen q := fun c' o hn hd => by
      rw [processedPns_cons_not p _ _ hn]
      rcases hd with hd | hd
      · exact ih c' seen (by rw [hd]; exact h)
      · exact fresh_mono (ih c' (fun q => seen q ∨ q = p.pn) (by rw [hd]; exact hI)) fun _ => Or.inl
    refine step_elim (P := fun r => (processedPns ((p, r.2) :: run r.1 ps)).Nodup ∧
        ∀ q ∈ processedPns ((p, r.2) :: run r.1 ps), ¬ seen q) c p (fun _ => skip c _ nofun (.inl rfl))
      (fun c' hd => skip c' _ nofun hd) (fun _ _ hfresh c' hd => ?_) (fun _ _ => skip _ _ nofun (.inl rfl))
      fun _ _ => skip c _ nofun (.inl rfl)
    rw [processedPns_cons_proc]
    exact fresh_cons (ih c' (fun q => seen q ∨ q = p.pn) (by rw [hd]; exact hI)) (fun _ => Or.inl) (Or.inr rfl)
      (Dedup.insert_not_dup_fresh c.dedup seen h p.pn hfresh)

theorem forged_no_effect (c : C) (p : Pkt) (hk : p.kind = .protectedPkt) (ha : p.authentic = false)
    (hh : p.headerOk = true) (hr : isStatelessReset p = false) :
    step c p = ({ c with authFailures := c.authFailures + 1 }, .dropped) := by
  unfold step
  simp [hh, hr, hk, ha]

theorem retry_followed_iff (c : C) (p : Pkt) (hk : p.kind = .retry) (hh : p.headerOk = true)
    (hr : isStatelessReset p = false) :
    (step c p).2 = .retryFollowed ↔
      (c.handshake = true ∧ c.server = false ∧ c.authed = 0 ∧ 16 < p.retryPayloadLen ∧ p.authentic = true) :=
  ⟨step_elim (P := fun r => r.2 = .retryFollowed → _) c p (fun _ => nofun) (fun _ _ => nofun) (fun _ _ _ _ _ => nofun)
      (fun _ h _ => h) (fun _ _ => nofun),
    fun ⟨h1, h2, h3, h4, h5⟩ => by simp [step, hh, hr, hk, h1, h2, h3, Nat.not_le.2 h4, h5]⟩

theorem retry_followed_authed (c : C) (p : Pkt) (h : (step c p).2 = .retryFollowed) :
    c.authed = 0 ∧ (step c p).1.authed = 1 :=
  step_elim (P := fun r => r.2 = .retryFollowed → c.authed = 0 ∧ r.1.authed = 1) c p (fun _ => nofun) (fun _ _ => nofun)
    (fun _ _ _ _ _ => nofun) (fun _ ⟨_, _, first, _⟩ _ => ⟨first, congrArg (· + 1) first⟩) (fun _ _ => nofun) h

end QM.Receive

namespace QM.Receive.Closed

/-- a transport error raised in a closed state is dropped (`Gen.closedIgnoresLateErrors`) -/
theorem errTail_eq (c : CC) (p : CPkt) : errTail c p = okTail c p := rfl

theorem okTail_error (c : CC) (p : CPkt) : (okTail c p).error = c.error := by
  fun_cases okTail c p <;> rfl

theorem process_error (c : CC) (p : CPkt) : (process c p).error = c.error := by
  fun_cases process c p
  case case1 => exact okTail_error c p
  case case3 => exact okTail_error c p
  all_goals rfl

theorem okTail_draining {c : CC} (p : CPkt) (hs : c.st = .draining) : okTail c p = c := by
  unfold okTail; rw [hs]

theorem process_draining {c : CC} (p : CPkt) (hs : c.st = .draining) : process c p = c := by
  unfold process; rw [hs]

end QM.Receive.Closed
