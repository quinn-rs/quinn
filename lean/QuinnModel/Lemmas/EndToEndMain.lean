import QuinnModel.Lemmas.EndToEndRecv
/-
C01 end to end: the invariant holds in every reachable state; two consequences the property theorems use.
-/
namespace QM.E2E
open QM QM.RangeSet
open QM.Assembler (stream delivered)

theorem step_inv {g : Nat → Nat} {s s' : St} {ev : Ev} (i : Inv g s) (h : step s ev = some s')
    (hp : Pre g s'.sys.w) : Inv g s' := by
  cases ev with
  | write d limit => exact inv_write i h hp
  | finish => exact inv_finish i h
  | reset code => exact inv_reset i h
  | maxStreamData v => exact inv_maxStreamData i h
  | transmit n => exact inv_transmit i h
  | transmitReset => exact inv_transmitReset i h
  | ack a e fin => exact inv_ack i h
  | lose a e fin => exact inv_lose i h
  | ackReset => exact inv_ackReset i h
  | stopSending => exact inv_stopSending i h
  | deliver f r m al tm => exact inv_deliver i h
  | read max ordered obs => exact inv_read i h
  | openRead ordered => exact inv_openRead i h
  | stop code => exact inv_stop i h

theorem step_w {s s' : St} {ev : Ev} (h : step s ev = some s') : ∃ d, s'.sys.w = s.sys.w ++ d := by
  revert h
  fun_cases step s ev
  case' case1 d l => fun_cases write s d l
  case' case2 => fun_cases finish s
  case' case3 c => fun_cases reset s c
  case' case4 v => fun_cases maxStreamData s v
  case' case5 n => fun_cases transmit s n
  case' case6 => fun_cases transmitReset s
  case' case7 a e fin => fun_cases ack s a e fin
  case' case8 a e fin => fun_cases lose s a e fin
  case' case9 => fun_cases ackReset s
  case' case10 => fun_cases stopSending s
  case' case11 f r m al tm => fun_cases deliver s f r m al tm
  case' case12 m o obs => fun_cases read s m o obs
  case' case13 o => fun_cases openRead s o
  case' case14 c => fun_cases stop s c
  -- every branch is `none`, leaves `sys` or at least `sys.w` alone, or makes a step of the content buffer
  all_goals intro h; cases h
  all_goals first | exact ⟨[], (List.append_nil _).symm⟩ | exact sb_step_w ‹_›

theorem run_w {evs : List Ev} {s s' : St} (h : run s evs = some s') : ∃ d, s'.sys.w = s.sys.w ++ d := by
  revert h
  fun_induction run s evs with
  | case1 s => intro h; cases h; exact ⟨[], (List.append_nil _).symm⟩
  | case2 s ev evs s1 hs ih =>
    intro h
    obtain ⟨d1, h1⟩ := step_w hs
    obtain ⟨d2, h2⟩ := ih h
    exact ⟨d1 ++ d2, by rw [h2, h1, List.append_assoc]⟩
  | case3 => intro h; cases h

theorem run_inv {g : Nat → Nat} {evs : List Ev} {s s' : St} (i : Inv g s) (h : run s evs = some s')
    (hp : Pre g s'.sys.w) : Inv g s' := by
  revert h
  fun_induction run s evs with
  | case1 s => intro h; cases h; exact i
  | case2 s ev evs s1 hs ih =>
    intro h
    obtain ⟨d, hd⟩ := run_w h
    exact ih (step_inv i hs (hd ▸ hp).of_append) h
  | case3 => intro h; cases h

theorem reach_inv {maxData window : Nat} {evs : List Ev} {s : St}
    (h : run (St.init maxData window) evs = some s) : Inv (ground s.sys.w) s :=
  run_inv (inv_init _ _ _) h (pre_ground _)

theorem out_prefix {g : Nat → Nat} {s : St} (i : Inv g s) : s.asm.out <+: s.sys.w := by
  have h1 := i.R.asmO.out_eq
  have h2 : s.asm.out.length ≤ s.sys.w.length := Nat.le_trans i.R.out_le i.R.rv_end
  have h3 := i.S.wg.sub 0 s.asm.out.length (by omega)
  rw [h3, List.drop_zero] at h1
  rw [h1]
  exact List.take_prefix _ _

theorem no_final_size_conflict {g : Nat → Nat} {s : St} (i : Inv g s) (f : Frame) (hf : f ∈ s.net) :
    match f with
    | .stream off bytes fin => ¬ s.rv.finalSizeConflict (off + bytes.length) fin
    | .reset _ fs => (∀ fo, s.rv.finalOffset = some fo → fo = fs) ∧ s.rv.end_ ≤ fs := by
  have hfinal : ∀ fo, s.rv.finalOffset = some fo → fo = s.sys.w.length := by
    intro fo hfo
    unfold Streams.Recv.finalOffset at hfo
    split at hfo
    · rename_i sz hst
      subst hfo
      exact (i.S.fin_at _ (i.R.rv_size _ hst)).1
    · rename_i sz c hst
      simp only [Option.some.injEq] at hfo
      subst hfo
      exact (i.R.rv_reset _ _ hst).2
  cases f with
  | stream off bytes fin =>
    obtain ⟨b1, b2, b3⟩ := i.S.netS off bytes fin hf
    have hre := i.R.rv_end
    simp only
    intro hc
    have hfe : fin = true → off + bytes.length = s.sys.w.length := fun h => (i.S.fin_at _ (b3 h)).1
    rcases hc with ⟨fo, hfo, h⟩ | ⟨hfin, hlt⟩
    · have := hfinal fo hfo
      rcases h with h | ⟨hfin, hne⟩
      · omega
      · have := hfe hfin; omega
    · have := hfe hfin; omega
  | reset code fs =>
    obtain ⟨_, rfl⟩ := i.S.netR code fs hf
    exact ⟨hfinal, i.R.rv_end⟩

end QM.E2E
