import QuinnModel.Wire.VarInt
import QuinnModel.Lemmas.BigEndian
namespace QM.VarInt
open QM

def WF (bs : Bytes) : Prop := ∀ b ∈ bs, b < 256

/-- how many bytes follow the first one, by its two tag bits (the `remaining() < 1`, `3`, `7` tests of `Codec::decode`) -/
def extra (tag : Nat) : Nat := if tag = 0 then 0 else if tag = 1 then 1 else if tag = 2 then 3 else 7

theorem extra_le (tag : Nat) : extra tag ≤ 7 := by
  unfold extra; repeat' split
  all_goals omega

theorem decode_cons (b0 : Nat) (rest : Bytes) : decode (b0 :: rest) =
    if rest.length < extra (b0 / 64) then none
    else some (beVal (b0 % 64 :: rest.take (extra (b0 / 64))), rest.drop (extra (b0 / 64))) := by
  simp only [decode, extra]
  by_cases h0 : b0 / 64 = 0
  · simp only [h0, if_true, Nat.not_lt_zero, if_false, List.take_zero, List.drop_zero, beVal, List.foldl_cons,
      List.foldl_nil, Nat.zero_mul, Nat.zero_add]
  · by_cases h1 : b0 / 64 = 1
    · simp only [h1, if_true, Nat.one_ne_zero, if_false]
    · by_cases h2 : b0 / 64 = 2
      · simp only [h2, if_true, if_false, show (2 : Nat) ≠ 0 by decide, show (2 : Nat) ≠ 1 by decide]
      · simp only [h0, h1, h2, if_false]

theorem decode_eq_some {bs : Bytes} {v : Nat} {r : Bytes} (h : decode bs = some (v, r)) :
    ∃ b0 rest, bs = b0 :: rest ∧ extra (b0 / 64) ≤ rest.length ∧
      v = beVal (b0 % 64 :: rest.take (extra (b0 / 64))) ∧ r = rest.drop (extra (b0 / 64)) := by
  cases bs with
  | nil => simp [decode] at h
  | cons b0 rest =>
    rw [decode_cons] at h
    split at h
    · cases h
    · simp only [Option.some.injEq, Prod.mk.injEq] at h
      exact ⟨b0, rest, rfl, by omega, h.1.symm, h.2.symm⟩

theorem decode_append {bs : Bytes} {v : Nat} {r : Bytes} (h : decode bs = some (v, r)) :
    ∃ c, bs = c ++ r ∧ ∀ r', decode (c ++ r') = some (v, r') := by
  obtain ⟨b0, rest, rfl, hlen, rfl, rfl⟩ := decode_eq_some h
  refine ⟨b0 :: rest.take (extra (b0 / 64)), by rw [List.cons_append, List.take_append_drop], fun r' => ?_⟩
  have hl : (rest.take (extra (b0 / 64))).length = extra (b0 / 64) := by rw [List.length_take]; omega
  rw [List.cons_append, decode_cons, if_neg (by rw [List.length_append, hl]; omega), List.take_left' hl,
    List.drop_left' hl]

/-- `k + 1` bytes holding the tag `t` in the two top bits and `x` in the other `6 + 8k` decode to `x` -/
theorem decode_tagged (t k x : Nat) (r : Bytes) (ht : t < 4) (hk : extra t = k) (hx : x < 256 ^ k * 64) :
    decode (beBytes (k + 1) (256 ^ k * (t * 64) + x) ++ r) = some (x, r) := by
  have hpos : 0 < 256 ^ k := Nat.pow_pos (by decide)
  have hq : x / 256 ^ k < 64 := Nat.div_lt_of_lt_mul hx
  have hl := beBytes_length k (256 ^ k * (t * 64) + x)
  have hb : ∀ q, q < 64 → (t * 64 + q) % 256 = t * 64 + q ∧ (t * 64 + q) / 64 = t ∧ (t * 64 + q) % 64 = q :=
    fun q _ => by omega
  obtain ⟨h0, h1, h2⟩ := hb _ hq
  rw [beBytes, Nat.mul_add_div hpos, h0, List.cons_append, decode_cons, h1, h2, hk,
    if_neg (by rw [List.length_append, hl]; omega), List.take_left' hl, List.drop_left' hl,
    beVal_cons, hl, beVal_beBytes, Nat.mul_add_mod, Nat.div_add_mod']

/-- each arm of `encode` (and of `size`) is an instance of `decode_tagged`: tag `t`, `k` further bytes -/
theorem encode_arm {x : Nat} (h : x < 2^62) : ∃ t k, t < 4 ∧ extra t = k ∧ x < 256 ^ k * 64 ∧
    encode x = some (beBytes (k + 1) (256 ^ k * (t * 64) + x)) ∧ size x = some (k + 1) := by
  unfold encode size
  simp only [Gen.varintT1, Gen.varintT2, Gen.varintT4, Gen.varintT8, Gen.varintSizeT1, Gen.varintSizeT2,
    Gen.varintSizeT4, Gen.varintSizeT8, Gen.varintTag2, Gen.varintTag4, Gen.varintTag8]
  by_cases h1 : x < 2^6
  · simp only [h1, if_true]
    exact ⟨0, 0, by decide, rfl, by omega, by simp, rfl⟩
  · by_cases h2 : x < 2^14
    · simp only [h1, h2, if_true, if_false]
      exact ⟨1, 1, by decide, rfl, by omega, rfl, rfl⟩
    · by_cases h4 : x < 2^30
      · simp only [h1, h2, h4, if_true, if_false]
        exact ⟨2, 3, by decide, rfl, by omega, rfl, rfl⟩
      · simp only [h1, h2, h4, h, if_true, if_false]
        exact ⟨3, 7, by decide, rfl, by omega, rfl, rfl⟩

theorem encode_decodes {x : Nat} (h : x < 2^62) : ∃ e, encode x = some e ∧ ∀ r, decode (e ++ r) = some (x, r) := by
  obtain ⟨t, k, ht, hk, hx, he, _⟩ := encode_arm h
  exact ⟨_, he, fun r => decode_tagged t k x r ht hk hx⟩

theorem size_eq_encode_length (x : Nat) (h : x < 2^62) :
    ∃ e s, encode x = some e ∧ size x = some s ∧ e.length = s := by
  obtain ⟨t, k, _, _, _, he, hs⟩ := encode_arm h
  exact ⟨_, _, he, hs, beBytes_length _ _⟩

theorem encode_length_le {x : Nat} {e : Bytes} : encode x = some e → e.length ≤ 8 := by
  fun_cases encode x
  all_goals
    intro h
    cases h
  all_goals
    rw [beBytes_length]
    decide

end QM.VarInt
