import QuinnModel.Lemmas.SendGate
/-
C12 — the congestion gate of `Connection::poll_transmit` over ALL runs of its loop.

Clause: "An endpoint does not send ack-eliciting data while the bytes it has in flight would reach its congestion
controller's window, the only exceptions being at most two probe packets per probe timeout, ... and the closing packet".
`Conn/SendGate.lean` is the skeleton of the loop (guards pinned by T1 shape anchors); a run is any list of
`poll_transmit` calls, each any list of iterations with arbitrary in-flight / window values.
-/
namespace QM.Props.C12_gate
open QM QM.SendGate

/-- "covered": the packet travels in a datagram charged to a loss probe, or a congestion test passed for its datagram -/
def Covered : Out → Prop
  | .pkt _ true probe tested => probe = true ∨ tested = true
  | _ => True

/-- FULL statement: every ack-eliciting packet (by the sender's own estimate; closing packets are never ack-eliciting
    in this sense) of every packet number space is covered -/
def non_exempt_packet_below_window_statement : Prop :=
  ∀ (s : St) (cs : List (List Offer)), ∀ o ∈ (calls s cs).2, Covered o

/-- the datagram-local invariant: `datagram_congestion_checked` implies tested-or-probe -/
def Inv (s : St) : Prop := s.checked = true → (s.tested = true ∨ s.isProbe = true)

/-- credits outstanding plus probe datagrams already sent -/
def budget (s : St) : Nat := s.lp0 + s.lp1 + s.lp2 + s.probeDatagrams

theorem lpDec_budget (s : St) (i : Nat) (h : lp s i ≠ 0) :
    (lpDec s i).lp0 + (lpDec s i).lp1 + (lpDec s i).lp2 + (s.probeDatagrams + 1) = budget s := by
  unfold budget
  rw [Nat.add_comm s.probeDatagrams 1, ← Nat.add_assoc]
  congr 1
  match i, h with
  | 0, h =>
    have h : s.lp0 ≠ 0 := h
    show s.lp0 - 1 + s.lp1 + s.lp2 + 1 = _
    rw [Nat.add_right_comm _ _ 1, Nat.add_right_comm _ _ 1, Nat.sub_one_add_one h]
  | 1, h =>
    have h : s.lp1 ≠ 0 := h
    show s.lp0 + (s.lp1 - 1) + s.lp2 + 1 = _
    rw [Nat.add_right_comm _ _ 1, Nat.add_assoc _ _ 1, Nat.sub_one_add_one h]
  | _ + 2, h =>
    have h : s.lp2 ≠ 0 := h
    show s.lp0 + s.lp1 + (s.lp2 - 1) + 1 = _
    rw [Nat.add_assoc _ _ 1, Nat.sub_one_add_one h]

/-- an ack-eliciting packet of the Data space is covered -/
def DataCovered : Out → Prop
  | .blocked => True
  | .pkt sp ae p t => ae = true → sp = 2 → p = true ∨ t = true

theorem step_good (s : St) (o : Offer) (h : Inv s) :
    Inv (step s o).1 ∧ budget (step s o).1 = budget s ∧ DataCovered (step s o).2 := by
  -- the outcomes in the order of `step`: a new datagram (blocked, plain, charged to a probe), then coalescing
  -- (blocked, the datagram becomes a probe, plain)
  fun_cases step s o with
  | case1 | case4 => exact ⟨h, rfl, trivial⟩
  | case2 => exact ⟨Or.inl, rfl, fun h _ => Or.inr h⟩
  | case3 _ _ hl => exact ⟨fun _ => Or.inr rfl, lpDec_budget s o.space (mt beq_iff_eq.2 hl), fun _ _ => Or.inl rfl⟩
  | case5 _ _ _ _ _ hp =>
    exact ⟨fun _ => Or.inr rfl, lpDec_budget s o.space (bne_iff_ne.1 (Bool.and_eq_true_iff.1 hp).1), fun _ _ => Or.inl rfl⟩
  | case6 _ needs _ checked' tested' hp =>
    -- newly checked: either the test was needed and has passed, or a credit is pending and the datagram is a probe already
    have hi : checked' = true → tested' = true ∨ s.isProbe = true := fun hc => by
      by_cases h1 : s.checked = true
      · exact (h h1).imp (fun ht => Bool.or_eq_true_iff.2 (Or.inl ht)) id
      · by_cases h0 : lp s o.space = 0
        · have := (Bool.or_eq_true_iff.1 hc).resolve_left h1
          exact Or.inl (by simp [tested', needs, this, h1, h0])
        · exact Or.inr (by simpa [h0] using hp)
    -- the flags of the packet are those of the datagram, which is marked as checked
    exact ⟨hi, rfl, fun h1 h2 => (hi (by simp [checked', h1, h2])).symm⟩

/-- what `tested` means: it is only ever set by a congestion test that was evaluated and not blocked, i.e.
    `in_flight + bytes_to_send < window` at that evaluation (`Gen.congestionBlocked` is the generated test) -/
theorem tested_means_below_window (s : St) (o : Offer) (h0 : s.tested = false ∨ (!o.coalesce || !s.dgram) = true)
    (h1 : (step s o).1.tested = true) (hne : (step s o).2 ≠ .blocked) :
    o.inFlight + o.bytes < o.window := by
  have passed : ∀ {b : Bool}, ¬ (b && Gen.congestionBlocked o.inFlight o.bytes o.window) = true → b = true →
      o.inFlight + o.bytes < o.window := fun hnb hb => by
    simpa [hb, Gen.congestionBlocked] using hnb
  revert h1 hne
  fun_cases step s o with
  | case1 | case4 => exact fun _ hne => absurd rfl hne
  | case2 _ hnb hl => exact fun h1 _ => passed hnb (Bool.and_eq_true_iff.2 ⟨h1, hl⟩)
  | case3 => exact nofun
  | case5 hco needs hnb _ tested' | case6 hco needs hnb _ tested' =>
    -- coalescing: `tested` was not set before, so it is set now because the test was needed
    exact fun h1 _ => passed hnb (by simpa [tested', h0.resolve_right hco] using h1)

theorem calls_good (cs : List (List Offer)) (s : St) :
    budget (calls s cs).1 = budget s ∧ ∀ o ∈ (calls s cs).2, DataCovered o := by
  fun_induction calls s cs with
  | case1 => exact ⟨rfl, fun _ => nofun⟩
  | case2 s c _ _ _ ih =>
    -- a new call knows nothing of the flags: `Inv` holds of `newCall s` whatever `s` is
    obtain ⟨⟨_, hb⟩, hc⟩ := call_inv (I := fun t => Inv t ∧ budget t = budget s)
      (fun t o h _ => have ⟨hi, hb, hc⟩ := step_good t o h.1; ⟨⟨hi, hb.trans h.2⟩, hc⟩) (newCall s) c ⟨nofun, rfl⟩
    exact ⟨ih.1.trans hb, List.forall_mem_append.2 ⟨hc, ih.2⟩⟩

/-- PARTIAL (what the code guarantees): every ack-eliciting packet of the APPLICATION DATA space (0-RTT and 1-RTT) is
    covered: it travels in a datagram charged to a loss probe or in one for which a congestion test passed -/
theorem non_exempt_packet_below_window (cs : List (List Offer)) :
    ∀ (s : St) p t, Out.pkt 2 true p t ∈ (calls s cs).2 → p = true ∨ t = true :=
  fun s _ _ hm => (calls_good cs s).2 _ hm rfl rfl

/-- the witness against the full statement: an Initial packet that only acknowledges opens the datagram, a Handshake
    packet with CRYPTO data is coalesced behind it while `in_flight + bytes >= window` (finding
    `cwnd-handshake-packet-coalesced-beyond-window`: deliberate — holding the client's Finished back behind
    unacknowledgeable 0-RTT data stalls the handshake, test `zero_rtt_incoming_buffer_size`) -/
def witness : List (List Offer) :=
  [[{ space := 0, ae := false, coalesce := false, inFlight := 12000, bytes := 1200, window := 12000 },
    { space := 1, ae := true, coalesce := true, inFlight := 12000, bytes := 1200, window := 12000 }]]

theorem non_exempt_packet_below_window_counterexample : ¬ non_exempt_packet_below_window_statement := by
  intro h
  have := h ⟨0, 0, 0, false, false, false, false, 0, 0, 0, 0⟩ witness (.pkt 1 true false false) (by decide)
  simp [Covered] at this

/-- the credit update of `on_loss_detection_timeout` -/
def setLp (t : St) (i n : Nat) : St :=
  match i with | 0 => { t with lp0 := n } | 1 => { t with lp1 := n } | _ => { t with lp2 := n }

theorem budget_setLp_le (t : St) (i n : Nat) : budget (setLp t i n) ≤ n + budget t := by
  unfold budget setLp
  split <;> dsimp only <;> omega

/-- A probe timeout grants at most two credits and resets the count of probe datagrams; that the earlier space is
    another one than `space` is not needed for the bound. -/
theorem onPto_budget (s : St) (space : Nat) (n : Bool) (earlier : Option Nat) : budget (onPto s space n earlier) ≤ 2 := by
  have hc : (if n = true then 1 else Gen.sgPtoProbeCount) ≤ 2 := by cases n <;> decide
  cases earlier with
  | none => exact Nat.le_trans (budget_setLp_le _ space _) hc
  | some e =>
    exact Nat.le_trans (budget_setLp_le _ space _)
      (Nat.add_le_add (Nat.max_le.2 ⟨Nat.sub_le_sub_right hc 1, Nat.le_refl 1⟩) (budget_setLp_le _ e 1))

/-- at most two datagrams are charged to loss probes (i.e. may go beyond the window) between a probe timeout and
    the next one, over every sequence of `poll_transmit` calls and iterations -/
theorem probes_per_pto_le_two (s : St) (space : Nat) (n : Bool) (earlier : Option Nat)
    (he : ∀ e, earlier = some e → e < space ∧ e < 2) (cs : List (List Offer)) :
    (calls (onPto s space n earlier) cs).1.probeDatagrams ≤ 2 :=
  Nat.le_of_add_left_le (le_of_eq_of_le (calls_good cs _).1 (onPto_budget s space n earlier))

/-- non-vacuity: a Data-space timeout with Handshake data pending sends exactly two probe datagrams
    (Handshake probe with the Data packet coalesced, then the Data probe) and then blocks -/
example :
    let s := onPto ⟨0, 0, 0, false, false, false, false, 0, 0, 0, 0⟩ 2 false (some 1)
    let r := calls s [[{ space := 1, ae := true, coalesce := false, inFlight := 12000, bytes := 1200, window := 12000 },
                       { space := 2, ae := true, coalesce := true, inFlight := 12000, bytes := 1200, window := 12000 },
                       { space := 2, ae := true, coalesce := false, inFlight := 13200, bytes := 1200, window := 12000 },
                       { space := 2, ae := true, coalesce := false, inFlight := 14400, bytes := 1200, window := 12000 }]]
    r.2 = [.pkt 1 true true false, .pkt 2 true true false, .pkt 2 true true false, .blocked] ∧ r.1.probeDatagrams = 2 := by
  decide

end QM.Props.C12_gate
