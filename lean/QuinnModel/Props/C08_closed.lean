import QuinnModel.Lemmas.Receive
import QuinnModel.Lemmas.Runs
/-
C08 — a connection that has ended reports its reason once: packets that arrive afterwards cannot set another
one, and a draining connection stays silent.
Model: `Receive.Closed.step` (Conn/Receive.lean); `Gen.closedIgnoresLateErrors`, `Gen.closedDiscardsUnprotected`
are regenerated from `handle_packet` on every run. The stateless reset is the recorded exception (known findings
`lost-after-local-close:reset`, `lost-reported-twice:*+Reset`: tests::client_stateless_reset requires the report).
-/
namespace QM.Props.C08_closed
open QM QM.Receive QM.Receive.Closed

/-- Whatever reaches a closed, draining or drained connection — authentic packets with illegal reserved bits, a
    key-update error or an empty payload, unprotected packets, forgeries, duplicates — the reason `poll()` reports is
    not set again: only a stateless reset does that. (After a local close `error = false`: nothing is ever reported.) -/
theorem closed_reports_nothing_more (c : CC) (p : CPkt) (hr : p.reset = false) : (step c p).error = c.error := by
  -- branches of `step` in source order: 1 reset, 2 forged, 3 decryption error, 4 duplicate, 5 processed,
  -- 6-9 unprotected (7, 9: not discarded, excluded by `Gen.closedDiscardsUnprotected`)
  fun_cases Closed.step c p
  case case1 h => rw [hr] at h; cases h
  case case3 => exact okTail_error c p
  case case5 => exact process_error _ p
  case case7 h => exact absurd rfl h
  case case9 h => exact absurd rfl h
  all_goals rfl

/-- Over any sequence of such packets -/
theorem closed_reports_nothing_more_run (ps : List CPkt) (hr : ∀ p ∈ ps, p.reset = false) (c : CC) :
    (ps.foldl step c).error = c.error :=
  foldl_inv_of (P := fun t => t.error = c.error) (fun t p hp h => (closed_reports_nothing_more t p hp).trans h)
    ps c hr rfl

/-- A draining connection stays draining and never owes a CONNECTION_CLOSE (RFC 9000 10.2.2), whatever arrives. -/
theorem draining_stays_silent (c : CC) (p : CPkt) (hs : c.st = .draining) (hr : p.reset = false) :
    (step c p).st = .draining ∧ (step c p).close = c.close := by
  fun_cases Closed.step c p
  case case1 h => rw [hr] at h; cases h
  case case3 => rw [errTail_eq, okTail_draining p hs]; exact ⟨hs, rfl⟩
  case case5 d _ _ c' _ => rw [process_draining (c := c') p hs]; exact ⟨hs, rfl⟩
  case case7 h => exact absurd rfl h
  case case9 h => exact absurd rfl h
  all_goals exact ⟨hs, rfl⟩

-- an authentic packet with reserved bits set, after a local close and while draining
example : step ⟨.closed, false, false, Dedup.init, 0, 0⟩ ⟨.protectedPkt, 9, true, false, false, false, true, false⟩
    = ⟨.closed, false, true, Dedup.init, 0, 0⟩ := by decide
example : step ⟨.draining, false, false, Dedup.init, 0, 0⟩ ⟨.protectedPkt, 9, true, false, false, false, true, false⟩
    = ⟨.draining, false, false, Dedup.init, 0, 0⟩ := by decide

end QM.Props.C08_closed
