import QuinnModel.Lemmas.SendBuffer
import QuinnModel.Lemmas.Assembler
/-
C01 — Stream data is delivered reliably, in order and exactly once.

Sender side: `SendBuffer` with the multiset `F` of frames in flight and the ghost stream `w` of written
bytes; runs = all lists of calls in which a frame is acknowledged / declared lost only while in flight.
Receiver side: `Assembler` under the hypothesis that every inserted frame carries the bytes of the
ground stream `g` at its offset; runs = all lists of calls with any allowed choice of chunk boundaries.
The exactly-once theorem holds of assembler.rs with the fixes of findings A1, A2 (`defragment` starts at
the read index in ordered mode, `insert` ignores empty frames).
One statement is false of the code as a component (the unguarded 0-RTT reset): it is kept as
`…_statement` and refuted by `…_counterexample`; `sbuf_partition` carries the guard.
-/
namespace QM.Props.C01
open QM QM.RangeSet

section sender
open QM.SendBuffer

/-- DESIGN 5.1 partition: every written offset is in exactly one of
    acked / queued for retransmission / in flight / unsent -/
theorem sbuf_partition (ops : List Op) (s : Sys) (h : run Sys.init ops = some s)
    (x : Nat) (hx : x < s.sb.offset) :
    (acked s.sb x ∨ mem x s.sb.retransmits ∨ mem x s.F ∨ s.sb.unsent ≤ x) ∧
    ¬ (acked s.sb x ∧ mem x s.sb.retransmits) ∧ ¬ (acked s.sb x ∧ mem x s.F) ∧
    ¬ (acked s.sb x ∧ s.sb.unsent ≤ x) ∧ ¬ (mem x s.sb.retransmits ∧ mem x s.F) ∧
    ¬ (mem x s.sb.retransmits ∧ s.sb.unsent ≤ x) ∧ ¬ (mem x s.F ∧ s.sb.unsent ≤ x) :=
  partition s (run_inv ops _ _ inv_init h) x hx

/-- frames in flight never overlap each other -/
theorem sbuf_inflight_disjoint (ops : List Op) (s : Sys) (h : run Sys.init ops = some s) :
    s.F.Pairwise disj :=
  (run_inv ops _ _ inv_init h).dFF

/-- `poll_transmit` returns a range of buffered, written, not yet acknowledged data, and makes
    progress whenever something is pending (the caller always offers at least 17 bytes) -/
theorem sbuf_poll_within (ops : List Op) (s : Sys) (h : run Sys.init ops = some s)
    (n : Nat) (sb : SendBuffer) (r : Nat × Nat) (enc : Bool)
    (hp : pollTransmit s.sb n = some (sb, r, enc)) :
    base s.sb ≤ r.1 ∧ r.1 ≤ r.2 ∧ r.2 ≤ s.sb.offset ∧ (∀ x, r.1 ≤ x → x < r.2 → ¬ acked s.sb x) ∧
    (17 ≤ n → hasUnsentData s.sb = true → r.1 < r.2) :=
  poll_spec s (run_inv ops _ _ inv_init h) n sb r enc hp

/-- `get(a..b)` returns a non-empty prefix of exactly the bytes written at `a..` -/
theorem sbuf_get_correct (ops : List Op) (s : Sys) (h : run Sys.init ops = some s)
    (a b : Nat) (h1 : base s.sb ≤ a) (h2 : a < b) (h3 : a < s.sb.offset) :
    ∃ k, 0 < k ∧ k ≤ b - a ∧ get s.sb a b = some ((s.w.drop a).take k) :=
  get_spec s (run_inv ops _ _ inv_init h) a b h1 h2 h3

/-- the copy loop of `write_stream_frames` terminates within `len` iterations for every frame in
    flight (in particular the one just polled) and copies exactly the written bytes -/
theorem write_stream_frames_copy_terminates (ops : List Op) (s : Sys) (h : run Sys.init ops = some s)
    (r : Nat × Nat) (hr : r ∈ s.F) :
    copyLoop s.sb (r.2 - r.1) r.1 r.2 = some ((s.w.drop r.1).take (r.2 - r.1)) :=
  copyLoop_inflight s (run_inv ops _ _ inv_init h) r hr

/-- `is_fully_acked` exactly when every written byte is acknowledged -/
theorem sbuf_fully_acked_iff (ops : List Op) (s : Sys) (h : run Sys.init ops = some s) :
    isFullyAcked s.sb = true ↔ ∀ x, x < s.sb.offset → acked s.sb x :=
  fully_acked_iff s (run_inv ops _ _ inv_init h)

/-- `ack` discards only acknowledged bytes: what the buffer holds is exactly the written stream from
    the first offset not discarded, and every discarded offset lies in an acknowledged frame
    (more generally "acked" = covered by a frame that was acknowledged) -/
theorem sbuf_ack_discards_only_acked (ops : List Op) (s : Sys) (h : run Sys.init ops = some s) :
    s.sb.segs.flatten = s.w.drop (base s.sb) ∧ (∀ x, acked s.sb x ↔ mem x s.ackd) :=
  ⟨(run_inv ops _ _ inv_init h).segs, (run_inv ops _ _ inv_init h).ackedIff⟩

/-- the calls `Connection` makes on a stream's buffer never panic: acknowledging or losing a frame in
    flight, `unacked()`, and `poll_transmit` offered at least 16 bytes while offsets stay below 2^62 -/
theorem sbuf_calls_never_panic (ops : List Op) (s : Sys) (h : run Sys.init ops = some s) :
    (∀ r ∈ s.F, (∃ sb, ack s.sb r.1 r.2 = some sb) ∧ (∃ sb, retransmit s.sb r.1 r.2 = some sb)) ∧
    (∃ n, unacked s.sb = some n ∧ n ≤ s.sb.unackedLen) ∧
    (∀ n, 16 ≤ n → s.sb.offset < 2^62 → ∃ sb r enc, pollTransmit s.sb n = some (sb, r, enc)) :=
  ⟨fun r hr => ack_lose_total s (run_inv ops _ _ inv_init h) r hr,
   unacked_total s (run_inv ops _ _ inv_init h),
   fun n hn ho => poll_total s (run_inv ops _ _ inv_init h) n hn ho⟩

/-- full statement with `retransmit_all_for_0rtt` allowed at any time -/
def sbuf_partition_unguarded_statement : Prop :=
  ∀ (ops : List Op) (s : Sys), runU Sys.init ops = some s →
    ∀ x, x < s.sb.offset → ¬ (acked s.sb x ∧ s.sb.unsent ≤ x)

/-- false: a 0-RTT reset after an acknowledgement marks acknowledged data as unsent. (`Connection`
    cannot do this: 0-RTT packets are neither acknowledged nor declared lost before the rejection is
    known. `sbuf_partition` carries exactly that guard.) -/
theorem sbuf_partition_unguarded_counterexample : ¬ sbuf_partition_unguarded_statement := by
  intro hst
  have he := zeroRttOps_eval
  cases hr : runU Sys.init zeroRttOps with
  | none => rw [hr] at he; cases he
  | some s =>
    rw [hr] at he
    simp only [Option.map_some, Option.some.injEq, Prod.mk.injEq] at he
    obtain ⟨h1, h2, h3⟩ := he
    apply hst zeroRttOps s hr 8 (by omega)
    refine ⟨Or.inr ⟨(8, 10), by rw [h1]; exact List.mem_cons_self, by decide, by decide⟩, by omega⟩

-- non-vacuity: write 13 bytes in two segments, send two frames, lose the first, acknowledge the second
example : ∃ s, run Sys.init [.write [1, 2, 3, 4, 5], .write [6, 7, 8, 9, 10, 11, 12, 13], .poll 19, .poll 19,
    .lose (0, 11), .ack (11, 13), .poll 17] = some s ∧ s.F = [(0, 9)] ∧ s.sb.retransmits = [(9, 11)]
    ∧ s.sb.acks = [(11, 13)] ∧ get s.sb 3 9 = some [4, 5] := ⟨_, rfl, rfl, rfl, rfl, rfl⟩

end sender

section receiver
open QM.Assembler

/-- ordered mode: the concatenation of all ordered reads is the ground stream from offset 0 — a
    gap-free prefix, nothing lost, duplicated, reordered or altered — and its length is `bytes_read` -/
theorem asm_ordered_prefix (g : Nat → Nat) (ops : List Op) (s : Sys)
    (hc : ∀ op ∈ ops, op.consistent g) (h : run Sys.init ops = some s) :
    s.out = stream g 0 s.out.length ∧ (s.a.unordered = false → s.out.length = s.a.bytesRead) :=
  ⟨(reach_inv g ops s hc h).O.out_eq, (reach_inv g ops s hc h).O.out_len⟩

/-- every chunk returned by any read (ordered or unordered) equals the ground stream at its offset -/
theorem asm_chunk_content (g : Nat → Nat) (ops : List Op) (s : Sys)
    (hc : ∀ op ∈ ops, op.consistent g) (h : run Sys.init ops = some s) :
    ∀ c ∈ s.chunks, c.2.2 = stream g c.2.1 c.2.2.length :=
  (reach_inv g ops s hc h).O.content

/-- ordered mode: a byte that arrived (since the last `clear`) at or after the read index is still
    buffered -/
theorem asm_no_loss (g : Nat → Nat) (ops : List Op) (s : Sys)
    (hc : ∀ op ∈ ops, op.consistent g) (h : run Sys.init ops = some s) (hu : s.a.unordered = false) :
    ∀ x, mem x s.ins → s.a.bytesRead ≤ x → mem x s.a.cov :=
  (reach_inv g ops s hc h).O.noloss hu

/-- an ordered read after an unordered one is refused and changes nothing -/
theorem asm_illegal_ordered_after_unordered (s : Sys) (hu : s.a.unordered = true)
    (max : Nat) (obs : Obs) :
    (ensureOrdering s.a true).2 = false ∧ step s (.read max true obs) = some s := by
  have h1 : ensureOrdering s.a true = (s.a, false) := by
    unfold ensureOrdering; simp [hu]
  exact ⟨by rw [h1], by simp only [step, h1]⟩

/-- exactly once: on every run — any interleaving of insert (including empty and FIN-only frames,
    duplicates, overlaps, any order), ordered and unordered reads with any chunking, the switch from
    ordered to unordered mode, clear — no offset is handed to the application twice: all returned
    chunks, ordered and unordered, before and after the switch, are pairwise disjoint -/
theorem asm_exactly_once (g : Nat → Nat) (ops : List Op) (s : Sys)
    (hc : ∀ op ∈ ops, op.consistent g) (h : run Sys.init ops = some s) :
    (delivered s).Pairwise disj :=
  (reach_inv g ops s hc h).X.px

/-- the application never obtains more bytes than the highest offset received, so the subtraction
    `self.end - self.bytes_read` in `Assembler::insert` cannot underflow, and `insert` of a frame with
    `len ≤ allocation_size`, `offset + len < 2^64` never panics (it did after a re-delivery, A1) -/
theorem asm_insert_never_panics (g : Nat → Nat) (ops : List Op) (s : Sys)
    (hc : ∀ op ∈ ops, op.consistent g) (h : run Sys.init ops = some s) :
    s.a.bytesRead ≤ s.a.end_ ∧
    ∀ (off : Nat) (bytes : Bytes) (alloc : Nat) (tm : Bool), bytes = stream g off bytes.length →
      bytes.length ≤ alloc → off + bytes.length < 2^64 → (insert s.a off bytes alloc tm).2 ≠ .panic := by
  obtain ⟨ho, hx, hb⟩ := reach_inv g ops s hc h
  -- the chunks handed out are pairwise disjoint and lie below `end`, and `bytes_read` is their total length
  have hle : s.a.bytesRead ≤ s.a.end_ := hb.sumEq ▸ lenSum_le _ _ hx.px hb.delB
  exact ⟨hle, fun off bytes alloc tm _ h1 h2 => insert_no_panic s.a ho.wfc hx.wfr hle off bytes alloc tm h1 h2⟩

-- non-vacuity: out-of-order, overlapping frames; ordered reads, then the switch, then unordered reads,
-- an empty frame in unordered mode far from received data, a late overlapping retransmission
example : (run Sys.init
    [.insert 3 (stream gId 3 3) 3 false, .insert 0 (stream gId 0 4) 4 false,
     .read 2 true (.chunk 0 2), .read 100 true (.chunk 2 2),
     .insert 8 (stream gId 8 2) 40000 false, .insert 1 (stream gId 1 2) 2 false, .read 1 false (.chunk 4 1),
     .insert 20 [] 0 false, .insert 4 (stream gId 4 6) 6 false, .read 100 false (.chunk 5 1),
     .read 100 false (.chunk 6 2), .read 100 false (.chunk 8 2), .insert 7 (stream gId 7 16) 16 false,
     .read 100 false (.chunk 10 13),
     .read 5 true (.chunk 23 1)]).map (fun s => (s.out, delivered s, s.a.recvd))
    = some ([0, 1, 2, 3], [(10, 23), (8, 10), (6, 8), (5, 6), (4, 5), (2, 4), (0, 2)], [(0, 23)]) := by decide

-- regression: the call sequences of findings A1, A2
example : (run Sys.init formerA1).map delivered = some [(0, 10)] := formerA1_delivered
example : (run Sys.init formerA2).map delivered = some [(15, 25), (25, 30)] := formerA2_delivered

end receiver

end QM.Props.C01
