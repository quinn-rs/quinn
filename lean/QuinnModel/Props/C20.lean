import QuinnModel.Lemmas.Timers
import QuinnModel.Recovery.Pacing
import QuinnModel.Gen.Entropy
/-
C20 — The protocol core is deterministic and driven only by its inputs.   (PARTIAL)
A Lean model is a function of its inputs, so determinism of the MODEL is vacuous; what is proved here are the
algebraic facts the property names — time-translation equivariance of everything modelled that reads or
writes instants, spurious timeout calls being no-ops, one timeout call settling the modelled timers (a
drained connection being silent is `C08.no_output_after_drain`).  Absence of hidden inputs in the Rust (clock, entropy) is not a theorem about
behaviour: it is checked (a) STATICALLY: the T1 plugin `tools/gen.d/entropy.py` lists every construct of
quinn-proto's production code that reads a clock, OS entropy, the environment, a thread, or iterates a randomly
keyed std HashMap/HashSet (`Gen.hiddenInputs`), and `hidden_inputs_are_the_allowlisted_ones` equates that list with
the committed, individually justified allowlist (configuration constructors, pluggable CID generators, the
default TimeSource, qlog, lookup-only hash maps); (b) differentially by the simulator (`determ`: replay, shifted
replay, spurious calls; `determcc`: the controller-visible state of every congestion controller across replays).
-/
namespace QM.Props.C20
open QM

/-- timer table: shifting every deadline and `now` by `d` shifts `next_timeout` by `d` … -/
theorem timer_next_shift (d : Nat) (t : Timers.Table) :
    Timers.nextTimeout (Timers.shift d t) = (Timers.nextTimeout t).map (· + d) := by
  induction t with
  | nil => rfl
  | cons x xs ih =>
    simp only [Timers.nextTimeout, Timers.shift, List.map_cons, List.foldr_cons] at *
    rw [ih]
    exact Timers.optMin_shift d x _

/-- … fires exactly the same timers … -/
theorem timer_expired_shift (d : Nat) (t : Timers.Table) (now : Nat) :
    Timers.expired (Timers.shift d t) (now + d) = Timers.expired t now := by
  simp only [Timers.expired, Timers.shift, List.length_map]
  congr 1
  funext i
  simpa [Timers.shift] using Timers.isExpired_shift d t i now

/-- … and `set` commutes with the shift -/
theorem timer_set_shift (d : Nat) (t : Timers.Table) (i x : Nat) :
    Timers.set (Timers.shift d t) i (x + d) = Timers.shift d (Timers.set t i x) := by
  simp [Timers.set, Timers.shift, List.map_set]

/-- lifecycle (close / idle timers, every event carrying an instant): shifting every supplied instant by a
    constant shifts every stored instant by the same constant and changes nothing else, over whole histories -/
theorem lifecycle_shift_equivariant (d : Nat) (evs : List Life.Ev) (l : Life.L) :
    Life.run (Life.shiftL d l) (evs.map (Life.shiftEv d)) = Life.shiftL d (Life.run l evs) := by
  induction evs generalizing l with
  | nil => rfl
  | cons e rest ih => simp only [Life.run, List.map_cons, List.foldl_cons] at *; rw [Life.step_shift]; exact ih _

/-- an extra `handle_timeout` before any deadline is a no-op (timer table: nothing fires) -/
theorem spurious_timeout_fires_nothing (t : Timers.Table) (now : Nat)
    (h : ∀ i x, Timers.get t i = some x → now < x) : Timers.expired t now = [] := by
  simp only [Timers.expired, List.filter_eq_nil_iff]
  intro i _
  simp only [Timers.isExpired]
  cases hg : Timers.get t i with
  | none => simp
  | some x => have := h i x hg; simp; omega

/-- … and leaves the lifecycle state untouched -/
theorem spurious_timeout_noop (l : Life.L) (now : Nat)
    (hc : ∀ t, l.closeTimer = some t → now < t) (hi : ∀ t, l.idleTimer = some t → now < t) :
    Life.step l (.timeout now) = l :=
  Life.timeout_cases (P := fun l' => l' = l) l now (fun _ _ => rfl) (fun t ht hn => absurd hn (Nat.not_le.2 (hi t ht)))
    fun _ t ht hn => absurd hn (Nat.not_le.2 (hc t ht))

/-- servicing the timeout once at `now` leaves every modelled deadline strictly in the future -/
theorem timeout_settles (l : Life.L) (now : Nat) :
    (∀ t, (Life.step l (.timeout now)).closeTimer = some t → now < t) ∧
    (∀ t, (Life.step l (.timeout now)).idleTimer = some t → now < t) :=
  Life.timeout_settles l now

/-- the pacer never asks to be called again at the instant it was called: a wake-up it returns lies strictly
    in the future, for every RTT, token deficit and window (so the Pacing timer cannot re-arm at `now`) -/
theorem pacing_wakeup_strictly_future (now rtt deficit window t : Nat)
    (h : Pacing.tail now rtt deficit window = some t) : now < t := by
  revert h
  fun_cases Pacing.tail now rtt deficit window
  · nofun
  · intro h; cases h; omega

/-- … and it is translation equivariant in `now` -/
theorem pacing_shift_equivariant (d now rtt deficit window : Nat) :
    Pacing.tail (now + d) rtt deficit window = (Pacing.tail now rtt deficit window).map (· + d) := by
  unfold Pacing.tail
  simp only
  split
  · simp
  · simp only [Option.map_some, Option.some.injEq]; omega

/-- what the repair (fix ecb8a58) removed: before it, a small RTT made the pacer return `now` itself — with
    smoothed RTT 45.2 µs, one missing token and a window of 12000 bytes the delay rounds to 0 ns -/
theorem pacing_old_tail_could_return_now : Pacing.tailOld 5046188 45200 1 12000 = some 5046188 := by decide

/-- the constructs of quinn-proto's production code that read a clock, OS entropy, the environment or a thread,
    or expose the order of a randomly keyed hash table, are EXACTLY the allowlisted ones (each justified in
    `tools/gen.d/entropy.py`: none is reachable from `Connection` / `Endpoint` methods once the configuration
    objects are built with explicit seeds, keys, CID generator and TimeSource) -/
theorem hidden_inputs_are_the_allowlisted_ones : Gen.hiddenInputs = Gen.hiddenInputsAllowed := rfl

/-- the files that contain such a construct at all: configuration, pluggable CID generators, token stores, the
    endpoint constructor, and BBR's public stand-alone constructor — no file of the connection state machine
    (`quinn-proto/src/connection/**`), no frame / packet / transport-parameter / token codec -/
theorem hidden_input_files :
    (Gen.hiddenInputs.map (·.1)).eraseDups =
      ["quinn-proto/src/bloom_token_log.rs", "quinn-proto/src/cid_generator.rs", "quinn-proto/src/config/mod.rs",
       "quinn-proto/src/config/transport.rs", "quinn-proto/src/congestion/bbr/mod.rs", "quinn-proto/src/endpoint.rs",
       "quinn-proto/src/token_memory_cache.rs"] := by decide +kernel

/-- the only construct inside a congestion controller is the public constructor `Bbr::new`, which connections do
    not reach: `PathData::new` / `PathData::reset` build controllers with `ControllerFactory::build_seeded` and a
    value drawn from `Connection.rng` (T1 anchor `Gen.bbrSeededShapeChecked`) -/
theorem controllers_seeded_from_the_connection_rng :
    Gen.hiddenInputs.filter (fun x => x.1 == "quinn-proto/src/congestion/bbr/mod.rs")
      = [("quinn-proto/src/congestion/bbr/mod.rs", "Bbr::new", "rand::rng(")]
    ∧ Gen.bbrSeededShapeChecked = 1 := by decide +kernel

example : Gen.hiddenInputs.length = 13 := by decide
example : Pacing.tail 1000 1000000 600 12000 = some 41000 := by decide
example : Pacing.tail 5046188 45200 1 12000 = none := by decide
example : Timers.nextTimeout (Timers.set (Timers.set Timers.empty 1 500) 2 300) = some 300 := by decide
example : Timers.expired (Timers.set (Timers.set Timers.empty 1 500) 2 300) 400 = [2] := by decide
example : Life.run (Life.shiftL 7 Life.init) ([.established, .authed 5 100, .close 10 30, .timeout 40].map (Life.shiftEv 7))
    = Life.shiftL 7 (Life.run Life.init [.established, .authed 5 100, .close 10 30, .timeout 40]) := by decide

end QM.Props.C20
