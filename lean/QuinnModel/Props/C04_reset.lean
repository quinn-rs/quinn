import QuinnModel.Lemmas.ResetTokens
/-!
C04, stateless-reset clause at connection level: "The only unauthenticated inputs that may end ... a connection are a
stateless reset carrying exactly the token the peer issued for the connection ID in use".

Model: Conn/ResetTokens.lean — where `peer_params.stateless_reset_token` (the only token `unprotect_header` compares
with) comes from: remembered (0-RTT) parameters through `init_0rtt`, the peer's parameters through `handle_peer_params`,
`set_reset_token` after `CidQueue::insert` / `CidQueue::next`. Histories are arbitrary lists of those events, interleaved
with reset-shaped datagrams (`accepts` is a read-only test, so it may be asked after every prefix).
`issued es` is the property's ledger: the tokens the PEER put into its transport parameters and NEW_CONNECTION_ID frames
IN THIS CONNECTION (written from the property text, it does not look at the queue or at the honoured token).
-/
namespace QM.Props.C04_reset
open QM QM.CidQueue QM.ResetTokens

/-- Over ALL histories of (resumption with remembered parameters, peer parameters, NEW_CONNECTION_ID, CID switch): a
reset-shaped datagram ends the connection only if it is at least 21 bytes long and its last 16 bytes are a token the
peer issued for THIS connection (transport parameters of this handshake or a NEW_CONNECTION_ID frame of this
connection). Tokens of earlier connections, remembered parameters, the endpoint's own tokens, random suffixes: never. -/
theorem reset_only_with_token_issued_for_this_connection (server : Bool) (remCid : Bytes) (es : List Ev) (len : Nat) (t : Bytes)
    (h : accepts (run (init server remCid) es) len t = true) :
    len ≥ 21 ∧ t ∈ issued es := by
  have hi := run_inv es (init server remCid) (· ∈ issued es) rfl (init_inv server remCid _) (fun _ h => h)
  obtain ⟨hl, ht⟩ := (accepts_iff _ _ _).mp h
  exact ⟨hl, hi.1 t ht⟩

/-- "in particular remembered (0-RTT) parameters contribute no token": a client that resumes a session with ANY
remembered parameters honours no token at all until the peer has issued one in the new connection — whatever else
happens (CID switches, parameters without token, refused frames). -/
theorem remembered_parameters_contribute_no_token (remCid : Bytes) (remembered : Option Bytes) (es : List Ev)
    (hnone : issued es = []) (len : Nat) (t : Bytes) :
    accepts (run (init false remCid) (.resume remembered :: es)) len t = false := by
  cases h : accepts (run (init false remCid) (.resume remembered :: es)) len t with
  | false => rfl
  | true =>
    have := (reset_only_with_token_issued_for_this_connection false remCid (.resume remembered :: es) len t h).2
    simp [issued, hnone] at this

/-- NEW_CONNECTION_ID retiring the CID in use (client side): the token honoured afterwards is the one the peer issued
with the CID that is in use afterwards (glue `set_reset_token` around `CidQueue::insert`). -/
theorem new_cid_switch_honours_token_of_cid_in_use (s : St) (hs : s.server = false) (seq rpt : Nat) (cid tok : Bytes)
    (q' : CidQueue) (a z : Nat) (t : Bytes) (hr : rpt ≤ seq) (h : CidQueue.insert s.q seq rpt cid tok = (q', .retired a z t)) :
    let s' := onNewCid s seq rpt cid tok
    s'.tok = some t ∧ s'.q = q' ∧ ∃ e, activeEntry s'.q = some e ∧ e.token = some t := by
  have hn : ¬ rpt > seq := by omega
  simp only [onNewCid, hn, if_false, h, setResetToken, hs, Bool.false_and, Bool.false_eq_true]
  exact ⟨trivial, trivial, insert_token s.q seq rpt cid tok q' a z t h⟩

/-- Local switch (`update_rem_cid`: local_address_changed, migration): same. -/
theorem switch_honours_token_of_cid_in_use (s : St) (q' : CidQueue) (t : Bytes) (a z : Nat)
    (h : CidQueue.next s.q = (q', .ok t a z)) :
    let s' := updateRemCid s
    s'.tok = some t ∧ s'.q = q' ∧ ∃ e, activeEntry s'.q = some e ∧ e.token = some t := by
  simp only [updateRemCid, h, setResetToken]
  exact ⟨trivial, trivial, next_token s.q q' t a z h⟩

/-- The converse reading "the token honoured is always the one stored with the CID in use" does NOT hold for every
history: a NEW_CONNECTION_ID frame that repeats the sequence number IN USE with other contents replaces the CID (and
token) stored for the CID in use (cid_queue.rs `self.buffer[index] = Some(..)`), while the token honoured stays what it
was (`insert` reports no retirement, so `set_reset_token` is not called). Only a misbehaving AUTHENTICATED peer can do
that (RFC 9000 19.15 allows PROTOCOL_VIOLATION); the token honoured is still one this peer issued earlier, so
`reset_only_with_token_issued_for_this_connection` is unaffected. Recorded as an observation, not as a C04 violation. -/
def honoured_token_is_stored_token_statement : Prop :=
  ∀ es : List Ev, ∀ e t, activeEntry (run (init false [1]) es).q = some e → e.token = some t →
    (run (init false [1]) es).tok = some t

def repeatedSeqWitness : List Ev := [.newCid 0 0 [9] [7]]

theorem honoured_token_is_stored_token_counterexample : ¬ honoured_token_is_stored_token_statement := by
  intro h
  have := h repeatedSeqWitness ⟨[9], some [7]⟩ [7] (by decide) rfl
  revert this
  decide

/-- a resumed client whose ticket remembered token [5]; the server's parameters of the NEW connection carry [6]; then
NEW_CONNECTION_ID seq 1 (token [7]) and seq 2 (token [9]) retiring everything below 2: honoured are exactly
none → [6] → [6] → [9]; the remembered [5] and the skipped [7] never. -/
example :
    let h0 : List Ev := [.resume (some [5])]
    let h1 := h0 ++ [.params (some [6])]
    let h2 := h1 ++ [.newCid 1 0 [2] [7]]
    let h3 := h2 ++ [.newCid 2 2 [3] [9]]
    (run (init false [1]) h0).tok = none ∧ accepts (run (init false [1]) h0) 40 [5] = false
    ∧ (run (init false [1]) h1).tok = some [6] ∧ accepts (run (init false [1]) h1) 40 [5] = false
    ∧ accepts (run (init false [1]) h1) 21 [6] = true ∧ accepts (run (init false [1]) h1) 20 [6] = false
    ∧ (run (init false [1]) h2).tok = some [6]
    ∧ (run (init false [1]) h3).tok = some [9] ∧ accepts (run (init false [1]) h3) 40 [7] = false
    ∧ accepts (run (init false [1]) h3) 40 [6] = false ∧ issued h3 = [[6], [7], [9]] := by decide

/-- a server switches to the client's first NEW_CONNECTION_ID at once and then honours its token -/
example : (run (init true [1]) [.params none, .newCid 1 0 [2] [7]]).tok = some [7] := by decide

/-- local switch with a spare CID: the spare's token becomes the honoured one -/
example : (run (init false [1]) [.params (some [6]), .newCid 1 0 [2] [7], .switch]).tok = some [7] := by decide

end QM.Props.C04_reset
