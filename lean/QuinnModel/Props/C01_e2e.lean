import QuinnModel.Lemmas.EndToEndMain
import QuinnModel.Lemmas.EndToEndFinalSize
/-
C01 — Stream data is delivered reliably, in order and exactly once: END TO END.

`Streams/EndToEnd.lean` composes, for one stream, the component models that the micro-differentials `sbuf`, `asm`
and `streams` tie to the code: sender = `SendBuffer` with the frames in flight under the `Send` state machine
(`write` with any chunking and any flow-control limit, `finish`, `reset(code)`, STOP_SENDING, `poll_transmit` with
any room and the copy loop of `write_stream_frames`, acknowledgement / loss of any frame in flight in any order);
network = every STREAM / RESET_STREAM frame ever transmitted may be delivered at any time, any number of times, in
any order, or never; receiver = `Recv::ingest` / `Recv::reset` / `Recv::stop` and the end-of-stream test of
`Chunks::next` over the `Assembler` (ordered and unordered reads with any `max_length` and any allowed chunk
boundaries, the switch to unordered mode, `clear`). A run is ANY list of such events from the initial state
(`run (St.init maxData window) evs = some s`; no bound on its length); `s.sys.w` is the ghost list of all bytes the
sending application wrote, `s.asm.chunks` every chunk a read returned, `s.asm.out` the concatenation of the ordered
reads, `s.net` every frame ever transmitted.
-/
namespace QM.Props.C01_e2e
open QM QM.RangeSet QM.E2E
open QM.Assembler (delivered)

/-- "the bytes the receiving application obtains are exactly the bytes the sending application wrote at those
    offsets": every chunk any read ever returned equals the written bytes at its offset (and lies inside what was
    written); "ordered reads yield a gap-free prefix of the written byte sequence": the concatenation of all
    ordered reads is a prefix of the written sequence; "unordered reads yield non-overlapping chunks": all
    chunks are pairwise disjoint -/
theorem delivered_is_written (maxData window : Nat) (evs : List Ev) (s : St)
    (h : run (St.init maxData window) evs = some s) :
    (∀ c ∈ s.asm.chunks, c.2.2 = (s.sys.w.drop c.2.1).take c.2.2.length ∧
      (c.2.2 ≠ [] → c.2.1 + c.2.2.length ≤ s.sys.w.length)) ∧
    s.asm.out <+: s.sys.w ∧
    (delivered s.asm).Pairwise Assembler.disj := by
  have i := reach_inv h
  refine ⟨fun c hc => ?_, out_prefix i, i.R.asmX.px⟩
  by_cases he : c.2.2 = []
  · exact ⟨by rw [he]; rfl, fun h => absurd he h⟩
  · -- a non-empty chunk lies below the assembler's `end`, hence inside what was written
    have hr : Assembler.rangeOf c ∈ delivered s.asm := List.mem_map_of_mem hc
    have h1 : c.2.1 + c.2.2.length ≤ s.asm.a.end_ :=
      i.R.asmB.delB _ hr (Nat.lt_add_of_pos_right (List.length_pos_iff.mpr he))
    have hle := Nat.le_trans h1 (Nat.le_trans i.R.aend i.R.rv_end)
    exact ⟨by rw [← i.S.wg.sub _ _ hle]; exact i.R.asmO.content c hc, fun _ => hle⟩

/-- "no byte is ever … duplicated": no stream offset is handed to the application twice, whatever the network
    duplicates or the sender retransmits, ordered and unordered reads mixed, across the mode switch -/
theorem no_duplicate_delivery (maxData window : Nat) (evs : List Ev) (s : St)
    (h : run (St.init maxData window) evs = some s)
    (c d : Bool × Nat × Bytes) (x : Nat) (hcd : List.Sublist [c, d] s.asm.chunks)
    (hc : c.2.1 ≤ x ∧ x < c.2.1 + c.2.2.length) (hd : d.2.1 ≤ x ∧ x < d.2.1 + d.2.2.length) : False := by
  have hp := (reach_inv h).R.asmX.px
  have hsub : List.Sublist [Assembler.rangeOf c, Assembler.rangeOf d] (delivered s.asm) := by
    have := hcd.map Assembler.rangeOf
    simpa [Assembler.delivered] using this
  have h2 := hp.sublist hsub
  simp only [List.pairwise_cons, List.mem_cons, List.mem_nil_iff, or_false, forall_eq] at h2
  exact h2.1 x ⟨hc.1, hc.2, hd.1, hd.2⟩

/-- "End-of-stream is reported only after every byte written before finish() has been delivered": if a read
    reported end-of-stream then `finish()` was called, after exactly the bytes in `w`, and every offset below
    that final size was handed to the application (with the written content, by `delivered_is_written`); a
    reader that only made ordered reads has obtained exactly `w` -/
theorem fin_only_after_all (maxData window : Nat) (evs : List Ev) (s : St)
    (h : run (St.init maxData window) evs = some s) (he : s.eos = true) :
    s.finishedAt = some s.sys.w.length ∧ (∀ x, x < s.sys.w.length → mem x (delivered s.asm)) ∧
    (s.asm.a.unordered = false → s.asm.out = s.sys.w) := by
  have i := reach_inv h
  obtain ⟨n, h1, h2⟩ := i.R.eos_ok he
  obtain rfl := (i.S.fin_at n h1).1
  refine ⟨h1, h2, fun hu => (out_prefix i).eq_of_length_le ?_⟩
  -- an ordered reader that stopped short of the final size would have its read index in a delivered chunk
  rw [i.R.asmO.out_len hu]
  exact Nat.le_of_not_lt fun hlt => Nat.lt_irrefl _ (i.R.asmX.ord hu _ (h2 _ hlt))

/-- "a reset is reported with the sender's error code" -/
theorem reset_code_is_senders (maxData window : Nat) (evs : List Ev) (s : St)
    (h : run (St.init maxData window) evs = some s) (c : Nat) (hr : s.sawReset = some c) :
    s.appReset = some c :=
  (reach_inv h).R.saw_ok c hr

/-- every frame the sender ever emits — first transmission or retransmission after any pattern of loss and
    partial acknowledgement — carries exactly the written bytes at its offset and nothing beyond what was
    written; a FIN is sent only after `finish()` and at offset = total written; a RESET_STREAM carries the
    application's code and final size = total written -/
theorem frames_within_written (maxData window : Nat) (evs : List Ev) (s : St)
    (h : run (St.init maxData window) evs = some s) (f : Frame) (hf : f ∈ s.net) :
    match f with
    | .stream off bytes fin =>
      bytes = (s.sys.w.drop off).take bytes.length ∧ off + bytes.length ≤ s.sys.w.length ∧
      (fin = true → s.finishedAt = some s.sys.w.length ∧ off + bytes.length = s.sys.w.length)
    | .reset code fs => s.appReset = some code ∧ fs = s.sys.w.length := by
  have i := reach_inv h
  cases f with
  | stream off bytes fin =>
    obtain ⟨b1, b2, b3⟩ := i.S.netS off bytes fin hf
    refine ⟨by rw [← i.S.wg.sub _ _ b2]; exact b1, b2, fun hfin => ?_⟩
    have h1 := b3 hfin
    have h2 := (i.S.fin_at _ h1).1
    exact ⟨by rw [h1, h2], h2⟩
  | reset code fs => exact i.S.netR code fs hf

/-- "no byte is ever lost" (the safety half of "reliably"): at all times every written byte is acknowledged, or
    queued for retransmission, or in flight, or not yet sent — no loss report, partial acknowledgement or
    re-chunking forgets it; a byte counts as acknowledged only if the receiver was handed a frame containing it;
    a byte queued for (re)transmission keeps the stream pending (`Send::is_pending`); and while the stream is
    finished, not reset, and its FIN unacknowledged, the FIN is queued (and the stream pending) or in flight -/
theorem nothing_forgotten (maxData window : Nat) (evs : List Ev) (s : St)
    (h : run (St.init maxData window) evs = some s) :
    (∀ x, x < s.sys.w.length →
      (SendBuffer.acked s.sys.sb x ∨ mem x s.sys.sb.retransmits ∨ mem x s.sys.F ∨ s.sys.sb.unsent ≤ x) ∧
      (SendBuffer.acked s.sys.sb x → ∃ off bytes fin, Frame.stream off bytes fin ∈ s.got ∧
        off ≤ x ∧ x < off + bytes.length) ∧
      (mem x s.sys.sb.retransmits ∨ s.sys.sb.unsent ≤ x → s.half.isPending = true)) ∧
    (s.live = true → s.half.state = .dataSent false →
      (s.half.finPending = true ∧ s.half.isPending = true) ∨ ∃ t ∈ s.T, t.2.2 = true) := by
  have i := reach_inv h
  refine ⟨fun x hx => ⟨(SendBuffer.partition s.sys i.S.sb x (i.S.sb.wlen ▸ hx)).1, fun ha => ?_, fun hq => ?_⟩,
    fun hl hst => ?_⟩
  · obtain ⟨r, hr, h1, h2⟩ := (i.S.sb.ackedIff x).mp ha
    obtain ⟨b, fin, hb, hl⟩ := i.G r hr
    exact ⟨r.1, b, fin, hb, h1, by omega⟩
  · simp only [Streams.Send.isPending, i.S.pend, proj, Streams.SendBuf.hasUnsentData, Bool.or_eq_true,
      bne_iff_ne, ne_eq, Bool.not_eq_true', List.isEmpty_eq_false_iff]
    rcases hq with ⟨p, hp, _⟩ | hq
    · left; right; intro he; rw [he] at hp; cases hp
    · left; left; have := i.S.sb.wlen; omega
  · rcases i.S.finLive hl hst with h | h
    · left; exact ⟨h, by simp [Streams.Send.isPending, h]⟩
    · exact Or.inr h

/-- whatever the network does, a frame of the honest sender never meets a final-size conflict at the receiver:
    `Recv::ingest` does not answer it with FINAL_SIZE_ERROR, nor does `Recv::reset` -/
theorem honest_frames_no_final_size_error (maxData window : Nat) (evs : List Ev) (s : St)
    (h : run (St.init maxData window) evs = some s) (f : Frame) (hf : f ∈ s.net) (received md : Nat) :
    match f with
    | .stream off bytes fin => s.rv.ingest off bytes.length fin received md ≠ some (.error (.finalSize ""))
    | .reset code fs => ∀ reason, s.rv.reset code fs received md ≠ some (.error (.finalSize reason)) := by
  have hk := no_final_size_conflict (reach_inv h) f hf
  cases f with
  | stream off bytes fin =>
    simp only at hk ⊢
    intro hi
    rcases Streams.ingest_cases hi with ⟨_, he⟩ | ⟨_, hc, _⟩ | ⟨_, _, _, he⟩ | ⟨_, _, _, _, _, he, _⟩
    · cases he
    · exact hk hc
    · cases he
    · cases he
  | reset code fs =>
    simp only at hk ⊢
    intro reason hi
    rcases Streams.reset_cases hi with ⟨fo, h1, h2, _⟩ | ⟨h1, h2, _⟩ | ⟨_, _, he⟩ | ⟨_, _, _, hr⟩
    · exact h2 (hk.1 fo h1)
    · exact Nat.not_le_of_gt h2 hk.2
    · cases he
    · rcases hr with ⟨_, _, _, he⟩ | ⟨_, _, he⟩ <;> cases he

/-- the `Recv` fin/reset logic over ALL frame sequences (any peer): once the final size of a stream is known
    (FIN or RESET_STREAM accepted) no later STREAM / RESET_STREAM frame or `stop` changes it, the high-water mark
    `end` never decreases and never passes the final size -/
theorem final_size_monotone (window : Nat) (ops1 ops2 : List RecvOp) :
    let r1 := ops1.foldl rstep (Streams.Recv.new window)
    let r2 := ops2.foldl rstep r1
    (∀ fo, r1.finalOffset = some fo → r2.finalOffset = some fo) ∧ r1.end_ ≤ r2.end_ ∧
    (∀ fo, r2.finalOffset = some fo → r2.end_ ≤ fo) := by
  intro r1 r2
  have h0 : FinLe (Streams.Recv.new window) := fun fo h => nomatch h
  have h1 := (rrun_final ops1 _ h0).2.2
  exact rrun_final ops2 r1 h1

/-- non-vacuity: 15 bytes written in two calls; the first frame (0..12) is lost and, after `finish()`, retransmitted in two
    pieces (0..8, 8..12); the FIN travels with 12..15. The receiver gets the frames out of order and duplicated
    (including the "lost" one), reads 2 bytes in order, switches to unordered reads, and is told end-of-stream
    once all 15 bytes were handed out; the acknowledgements retire the stream -/
def demo : List Ev :=
  [.write [10, 11, 12, 13, 14, 15, 16, 17, 18, 19, 20, 21] 100, .transmit 21, .write [22, 23, 24] 100,
   .lose 0 12 false, .finish, .transmit 16, .transmit 40, .transmit 40,
   .deliver (.stream 12 [22, 23, 24] true) 0 1000 3 false,
   .deliver (.stream 0 [10, 11, 12, 13, 14, 15, 16, 17, 18, 19, 20, 21] false) 3 1000 12 false,
   .read 2 true (.chunk 0 2),
   .deliver (.stream 8 [18, 19, 20, 21] false) 15 1000 4 false,
   .deliver (.stream 0 [10, 11, 12, 13, 14, 15, 16, 17] false) 15 1000 8 false,
   .deliver (.stream 12 [22, 23, 24] true) 15 1000 3 false,
   .read 100 false (.chunk 2 10), .read 1 false (.chunk 12 1), .read 100 false (.chunk 13 2),
   .read 100 false .none,
   .ack 12 15 true, .ack 0 8 false, .ack 8 12 false]

example : (run (St.init 1000 1000) demo).map (fun s => (s.net.length, s.asm.out, s.eos)) =
    some (4, [10, 11], true) := by decide
example : (run (St.init 1000 1000) demo).map (fun s => s.asm.chunks) =
    some [(false, 13, [23, 24]), (false, 12, [22]), (false, 2, [12, 13, 14, 15, 16, 17, 18, 19, 20, 21]),
      (true, 0, [10, 11])] := by decide
example : (run (St.init 1000 1000) demo).map (fun s => (s.finishedAt, s.live, s.sys.F)) =
    some (some 15, false, []) := by decide

/-- reset: 3 bytes written, one frame delivered, reset(9); RESET_STREAM delivered twice; the reader sees code 9 -/
def demoReset : List Ev :=
  [.write [1, 2, 3] 100, .transmit 30, .deliver (.stream 0 [1, 2, 3] false) 0 1000 3 false,
   .reset 9, .transmitReset, .deliver (.reset 9 3) 3 1000 0 false, .deliver (.reset 9 3) 3 1000 0 false,
   .read 10 true .none, .ackReset]

example : (run (St.init 1000 1000) demoReset).map (fun s => (s.sawReset, s.appReset, s.eos, s.live, s.rlive)) =
    some (some 9, some 9, false, false, false) := by decide

example : ((([RecvOp.stream 0 5 false 0 100, .stream 5 2 true 5 100, .stream 0 9 false 7 100, .reset 1 8 7 100,
    .stream 2 3 false 7 100, .stop]).foldl rstep (Streams.Recv.new 50)).finalOffset,
    (([RecvOp.stream 0 5 false 0 100, .stream 5 2 true 5 100, .stream 0 9 false 7 100, .reset 1 8 7 100,
    .stream 2 3 false 7 100, .stop]).foldl rstep (Streams.Recv.new 50)).end_) = (some 7, 7) := by decide

end QM.Props.C01_e2e
