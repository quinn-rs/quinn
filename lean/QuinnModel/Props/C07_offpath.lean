import QuinnModel.Lemmas.Amplification
import QuinnModel.Endpoint.FirstPacket
/-
C07 — bytes that reach an unvalidated address OUTSIDE the gated datagram loop: off-path PATH_RESPONSE, Version
Negotiation, and the first-packet decision for short Initials.
`Gen.offPathPadFactor`, `Gen.vnReplyBounded`, `Gen.firstPacketSizeCheckFirst` are regenerated from the source.
-/
namespace QM.Props.C07_offpath
open QM

/-- Over ANY sequence of PATH_CHALLENGE-bearing datagrams from an address that is not the connection's path (any
    sizes, any number), the bytes sent to that address in off-path PATH_RESPONSE datagrams never exceed three times
    the bytes received from it. -/
theorem off_path_response_bound (evs : List Amp.OffPath.Ev) (hw : ∀ e ∈ evs, e.wf) :
    (Amp.OffPath.run ⟨0, 0⟩ evs).sent ≤ 3 * (Amp.OffPath.run ⟨0, 0⟩ evs).recvd :=
  Amp.OffPath.run_inv evs ⟨0, 0⟩ hw (by simp)

/-- the well-formedness hypothesis holds for every packet layout: unpadded response vs. the smallest datagram that
    can carry a PATH_CHALLENGE -/
theorem off_path_wf_layout (rcid pnLen lcid pnLen' extra : Nat) (hr : rcid ≤ 20) (hp : pnLen ≤ 4) (hp' : 1 ≤ pnLen') :
    1 + rcid + pnLen + 9 + 16 ≤ 3 * (1 + lcid + pnLen' + 9 + extra + 16) :=
  by omega

/-- A Version Negotiation packet is never more than three times the datagram that provoked it, and sending it
    changes no endpoint state. -/
theorem vn_reply_le_3x (e e' : FirstPacket.Ep) (d : FirstPacket.Dg) (k : FirstPacket.Checks) (n : Nat)
    (h : FirstPacket.handle e d k = (e', .versionNegotiation n)) : n ≤ 3 * d.len ∧ e' = e := by
  revert h
  -- case 4 is the only arm that replies, case 8 hands a routed-nowhere Initial to `firstPacket`
  fun_cases FirstPacket.handle e d k
  case case4 m _ _ hb =>
    intro h; cases h
    exact ⟨Nat.not_lt.1 fun hm => hb (by rw [show Gen.vnReplyBounded = true from rfl, decide_eq_true hm]; rfl), rfl⟩
  case case8 => fun_cases FirstPacket.firstPacket e d k <;> nofun
  all_goals nofun

/-- A server creates no state for, and sends no reply to, a supported-version Initial carried in a datagram shorter
    than 1200 bytes that belongs to no connection or pending attempt — whatever its contents (all cryptographic and
    policy checks are free inputs). -/
theorem short_initial_no_state (e : FirstPacket.Ep) (d : FirstPacket.Dg) (k : FirstPacket.Checks)
    (hs : e.server = true) (hi : d.decode = .initial) (hr : d.route = .nowhere)
    (hl : d.len < Gen.libMinInitialSize) : FirstPacket.handle e d k = (e, .nothing) := by
  unfold FirstPacket.handle
  simp only [hi, hr]
  unfold FirstPacket.firstPacket
  simp [hs, Gen.firstPacketSizeCheckFirst, hl]

/-- the literal clause, without the routing hypothesis -/
def short_initial_no_state_statement : Prop :=
  ∀ (e : FirstPacket.Ep) (d : FirstPacket.Dg) (k : FirstPacket.Checks), e.server = true → d.decode = .initial →
    d.len < Gen.libMinInitialSize → FirstPacket.handle e d k = (e, .nothing)

def shortInitialBufferedWitness : FirstPacket.Ep × FirstPacket.Dg × FirstPacket.Checks :=
  (⟨true, 1, 0, false⟩, ⟨50, .initial, .incoming true⟩, ⟨true, true, true, true⟩)

/-- it does not hold literally: a short Initial whose DCID matches an attempt that is still waiting for
    accept / retry / refuse is buffered (bounded by `incoming_buffer_size`), one that matches a connection is handed
    to it (low severity; RFC 9000 14.1 asks for a discard) -/
theorem short_initial_no_state_counterexample : ¬ short_initial_no_state_statement := by
  intro h
  have := h shortInitialBufferedWitness.1 shortInitialBufferedWitness.2.1 shortInitialBufferedWitness.2.2 rfl rfl (by decide)
  revert this
  decide

example : (Amp.OffPath.run ⟨0, 0⟩ [⟨36, 20, 38⟩, ⟨36, 20, 38⟩, ⟨1200, 1184, 38⟩]).sent = 60 + 60 + 1200 := by decide
example : FirstPacket.handle ⟨true, 0, 0, false⟩ ⟨1200, .initial, .nowhere⟩ ⟨true, true, true, true⟩ = (⟨true, 1, 0, false⟩, .newIncoming) := by decide
example : FirstPacket.handle ⟨true, 0, 0, false⟩ ⟨1199, .initial, .nowhere⟩ ⟨true, true, true, true⟩ = (⟨true, 0, 0, false⟩, .nothing) := by decide
example : FirstPacket.handle ⟨true, 0, 0, false⟩ ⟨16, .unsupportedVersion 47, .nowhere⟩ ⟨true, true, true, true⟩ = (⟨true, 0, 0, false⟩, .versionNegotiation 47) := by decide
example : FirstPacket.handle ⟨true, 0, 0, false⟩ ⟨8, .unsupportedVersion 39, .nowhere⟩ ⟨true, true, true, true⟩ = (⟨true, 0, 0, false⟩, .nothing) := by decide

end QM.Props.C07_offpath
