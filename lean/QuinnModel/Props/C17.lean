import QuinnModel.Lemmas.StreamsC05Main
/-
C17 — 0-RTT data is delivered once if accepted and vanishes if rejected: the stream-layer part.

`zero_rtt_rejected` followed by `set_params p` leaves the sender-visible state (`State.proj`:
stream numbering, stream-count and data credit, send-window accounting, blocked flags, queues)
exactly as `StreamsState::new` followed by `set_params p` does; after a Retry, `retransmit_all_for_0rtt` must
leave nothing marked as sent.
-/
namespace QM.Props.C17
open QM QM.Streams

/-- after a rejection the connection behaves like a fresh one: for EVERY state, `zero_rtt_rejected` +
    `set_params p` give the sender-visible projection (stream numbering, stream-count credit, initial
    stream limits, max_data, data_sent, unacked_data, send_streams, blocked lists and flags, pending
    queue) of `StreamsState::new` + `set_params p`, whatever was remembered or written before -/
theorem rejected_is_fresh {c : Config} {s s1 s0 : State} (p : Params)
    (hr : s.zeroRttRejected = some s1) (h0 : State.new c = some s0) :
    (s1.setParams p).proj = (s0.setParams p).proj := by
  obtain ⟨z1, z2, z3, z4, z5, z6, z7, _⟩ := zeroRttRejected_scalars hr
  have zp : s1.pending.streams = [] ∧ s1.pending.next = none := by
    obtain ⟨_, _, _, _, rfl⟩ := zeroRttRejected_cases hr
    exact ⟨rfl, rfl⟩
  rw [fresh_proj h0 p]
  simp only [State.proj, State.setParams, State.receivedMaxData, z1, z2, z3, z4, z5, z6, z7, zp.1, zp.2,
    natMax_eq, Nat.zero_max]

/-- none of the streams opened during the rejected 0-RTT phase survives in the send map -/
theorem rejected_no_local_streams {s s' : State} (h : s.zeroRttRejected = some s') (d : Dir) (j : Nat)
    (hj : j < s.next.get d) : s'.send.find? (sidNew s.side d j) = none :=
  (zeroRttRejected_send h).1 d j hj

/-- and in a real 0-RTT history (only early operations before the rejection) nothing at all is left
    of the sending side: the whole sender view — core accounting and the set of instantiated sending
    halves with their offsets and limits — is that of a fresh state with the new parameters -/
theorem rejected_sender_view_is_fresh {c : Config} {h : Hist} {s s1 s0 : State} (r : Reach c h s)
    (he : EarlyHist c.side h) (hz : s.zeroRttRejected = some s1) (h0 : State.new c = some s0) (p : Params) :
    (({ s1 with rtx := {} } : State).setParams p).vw = (s0.setParams p).vw := by
  obtain ⟨i, hside⟩ := early_inv r he
  rw [rejected_vw i hz p, fresh_vw h0 p, hside]

/-- the history of findings F10/F11 (remembered max_data 1 000 000, 13 bytes written in 0-RTT, rejected,
    new max_data 2 000): the state is the fresh one -/
theorem rejected_regression_F10_F11 :
    (runOps State.initial [] [.new ⟨.client, 0, 0, 1000000, 1000000, 1000000⟩,
        .params ⟨100000, 100000, 100000, 10, 10, 1000000⟩, .open_ .bi, .write 0 13, .rejected,
        .params ⟨100000, 100000, 100000, 10, 10, 2000⟩]).map (fun r => r.1.proj) =
    (runOps State.initial [] [.new ⟨.client, 0, 0, 1000000, 1000000, 1000000⟩,
        .params ⟨100000, 100000, 100000, 10, 10, 2000⟩]).map (fun r => r.1.proj) := by decide

/-- after `retransmit_all_for_0rtt` (Retry), for EVERY stream the client opened, no hypothesis on its
    contents: every byte that is not acknowledged is scheduled again from offset 0 (`unsent = 0`, or
    nothing is outstanding), and if the stream was finished and its FIN is not acknowledged the FIN is
    queued again — also for an empty stream, which has no data that would carry it -/
theorem retry_retransmits_all {s s' : State} (h : s.retransmitAllFor0rtt = some s') (d : Dir) (j : Nat)
    (hj : j < s.next.get d) (x' : Send) (hf : s'.send.find? (sidNew .client d j) = some (some x')) :
    (x'.pending.unsent = 0 ∨ x'.pending.isFullyAcked = true) ∧
    (x'.state = .dataSent false → x'.finPending = true) := by
  obtain ⟨h1, h2⟩ := rtx0_resent h d j hj x' hf
  refine ⟨?_, h2⟩
  cases hfa : x'.pending.isFullyAcked
  · exact Or.inl (h1 (by simp [hfa]))
  · exact Or.inr rfl

/-- the empty-finished-stream history (corpus/streams/retry-empty-fin.ops): a stream opened and
    finished in 0-RTT with no data, its FIN transmitted; after the Retry the FIN is sent again -/
def retryEmptyFin : Option (State × Hist) :=
  runOps State.initial [] [.new ⟨.client, 0, 0, 1000, 1000, 1000⟩, .params ⟨100, 100, 100, 10, 10, 1000⟩,
    .open_ .uni, .finish 2, .transmit 1200 true, .rtx0, .transmit 1200 true]

example : (retryEmptyFin.map fun r => (r.2.take 3).reverse.map (·.2)) =
    some [.xmit 3 [⟨2, 0, 0, true⟩], .ok, .xmit 3 [⟨2, 0, 0, true⟩]] := by decide

/-- SHAPE tripwire (not a behavioural theorem; the Connection-level Retry branch is outside the streams
    model): the Retry branch re-queues the non-STREAM retransmittable frames (RESET_STREAM, STOP_SENDING,
    MAX_*) recorded for the discarded 0-RTT packets (`pending |= info.retransmits`) before it calls
    `retransmit_all_for_0rtt`, which re-queues STREAM data and FINs only. The anchor is `false` when that
    line is gone, and this then fails. -/
theorem retry_requeues_sent_control_frames : Gen.retryRequeuesSentControlFrames = true := by decide

/-- a 0-RTT history with 13 bytes in flight -/
def retryWitness : Option State :=
  (runOps State.initial [] [.new ⟨.client, 0, 0, 1000, 1000, 1000⟩,
    .params ⟨100, 100, 100, 10, 10, 1000⟩, .open_ .bi, .write 0 13, .transmit 1200 true]).map (·.1)

-- non-vacuity: before the Retry 13 bytes are marked as sent, afterwards none
example : (retryWitness.bind fun s => (s.send.find? 0).map fun x => x.map fun x => (x.pending.offset, x.pending.unsent)) =
    some (some (13, 13)) ∧
  ((retryWitness.bind State.retransmitAllFor0rtt).bind fun s =>
      (s.send.find? (sidNew .client .bi 0)).map fun x => x.map fun x => (x.pending.offset, x.pending.unsent)) =
    some (some (13, 0)) := by decide

end QM.Props.C17
