import QuinnModel.Lemmas.FrameRules
/-
C03 — frames from a hostile but authenticated peer: the frame admissibility / error-class table
(`Conn/FrameRules.lean`; mirrors `Connection::process_early_payload` / `process_payload` and the error-deciding prefix
of the handlers they call; every code is extracted from the check's own source text, `Gen/FrameRules.lean`).
All statements quantify over ALL frames and ALL fact values.
-/
namespace QM.Props.C03_frames
open QM QM.Wire QM.FrameRules

/-- totality: for every receiver side, packet space and decoded frame (fields in varint range) and all facts in the range of
    the implementation's counters (remote-CID ring invariant — preserved along every run by `C03.cidq_no_panic` —, bytes
    received < 2^63) the table never reaches the panic outcome of a reused handler model (u64 overflow in flow-control
    accounting, `expect`s of the CID ring, the datagram eviction loop): the verdict is ok / ignore / error / may -/
theorem verdict_never_panics (server : Bool) (sp : Space) (fl : ConnFlags) (f : Frame) (hf : FlagsOk fl)
    (hw : Frame.wellFormed f) : verdict server sp fl f ≠ .panic :=
  (verdict_out server sp fl f).no_panic ⟨hf, hw⟩

/-- RFC 9000 §12.4: in Initial and Handshake packets every frame type outside {PADDING, PING, ACK, CRYPTO,
    CONNECTION_CLOSE} yields exactly PROTOCOL_VIOLATION, whatever the state — with ONE deviation of the code, stated next -/
theorem early_space_forbidden_frame_is_protocol_violation (server : Bool) (sp : Space) (fl : ConnFlags) (f : Frame)
    (hsp : sp ≠ .data) (hk : rfcEarly (kindOf f) = false) (hd : kindOf f ≠ .closeApp) :
    verdict server sp fl f = .error [Gen.frProtocolViolation] :=
  early_forbidden server sp fl f hsp (by simp [earlyAccepted, hk, hd])

/-- the deviation: CONNECTION_CLOSE of type 0x1d (application close) is accepted in Initial / Handshake packets
    (`Frame::Close(_)` matches both forms); §12.4 allows it only in 0-RTT / 1-RTT packets.  Laxer than the RFC, harmless
    (the connection ends as closed by the peer). -/
theorem early_space_application_close_accepted (server : Bool) (sp : Space) (fl : ConnFlags) (c : Nat) (r : Bytes) :
    verdict server sp fl (.closeApp c r) = .ok := by
  cases sp <;> rfl

/-- frames of the §12.4 set are judged by their own rules in every space; 1-RTT packets admit every frame type -/
theorem admitted_frames_use_their_own_rule (server : Bool) (sp : Space) (fl : ConnFlags) (f : Frame)
    (hk : sp = .data ∨ rfcEarly (kindOf f) = true) : verdict server sp fl f = dataVerdict server sp fl f := by
  rcases hk with h | h
  · subst h; rfl
  · exact early_accepted server sp fl f (by simp [earlyAccepted, h])

/-- the frame loop over ANY connection state type, fact projection and effect function: if the loop is ended by an error,
    it is the error of the FIRST frame that does not pass, judged in the state reached by applying exactly the frames before
    it, all of which passed; the state returned is that state (nothing after the offending frame is applied, and the
    offending frame itself is not applied) -/
theorem sequence_verdict_is_first_offender {σ : Type} (server : Bool) (sp : Space) (flagsOf : σ → Frame → ConnFlags)
    (apply : σ → Frame → σ) (fs : List Frame) (s : σ) (cs : List Code)
    (h : (processSeq server sp flagsOf apply s fs).2 = some cs) :
    ∃ pre f post, fs = pre ++ f :: post ∧
      (processSeq server sp flagsOf apply s pre).2 = none ∧
      (processSeq server sp flagsOf apply s fs).1 = pre.foldl apply s ∧
      (verdict server sp (flagsOf (pre.foldl apply s) f) f = .error cs ∨
        (verdict server sp (flagsOf (pre.foldl apply s) f) f = .panic ∧ cs = [])) := by
  fun_induction processSeq server sp flagsOf apply s fs
  case case1 => cases h
  case case2 s f rest cs' hv => cases h; exact ⟨[], f, rest, rfl, rfl, rfl, .inl hv⟩
  case case3 s f rest hv => cases h; exact ⟨[], f, rest, rfl, rfl, rfl, .inr ⟨hv, rfl⟩⟩
  case case4 s f rest he hp ih =>
    obtain ⟨pre, g, post, hfs, hn, hst, hv⟩ := ih h
    refine ⟨f :: pre, g, post, by rw [hfs]; rfl, ?_, hst, hv⟩
    -- `f` passes, so the loop over `f :: pre` continues with `pre`
    rw [processSeq]
    split
    · exact (he _ ‹_›).elim
    · exact (hp ‹_›).elim
    · exact hn

/-- if no frame is rejected every frame is applied, in order -/
theorem sequence_without_error_applies_all {σ : Type} (server : Bool) (sp : Space) (flagsOf : σ → Frame → ConnFlags)
    (apply : σ → Frame → σ) (fs : List Frame) (s : σ) (h : (processSeq server sp flagsOf apply s fs).2 = none) :
    (processSeq server sp flagsOf apply s fs).1 = fs.foldl apply s := by
  fun_induction processSeq server sp flagsOf apply s fs
  case case1 => rfl
  case case2 => cases h
  case case3 => cases h
  case case4 ih => exact ih h

/-- error (and may) verdicts name at least one code and only codes from the list RFC 9000 gives for that frame type
    (plus PROTOCOL_VIOLATION in Initial / Handshake packets) -/
theorem error_codes_only_from_the_frame_types_list (server : Bool) (sp : Space) (fl : ConnFlags) (f : Frame)
    (hI : CidQueue.Inv fl.cid.q) (hw : Frame.wellFormed f) (cs : List Code)
    (h : verdict server sp fl f = .error cs ∨ verdict server sp fl f = .may cs) :
    cs ≠ [] ∧ ∀ c ∈ cs, c ∈ allowedCodes sp (kindOf f) :=
  (verdict_out server sp fl f).codes cs h

/-- every listed code is an RFC 9000 transport error code or the TLS-alert class -/
theorem listed_codes_are_rfc_codes (sp : Space) (k : Kind) : ∀ c ∈ allowedCodes sp k, c ∈ allCodes := by
  have early : ∀ c ∈ Gen.frProtocolViolation :: kindCodes k, c ∈ allCodes := fun c h => by
    rcases List.mem_cons.1 h with h | h
    · subst h; decide
    · exact kindCodes_rfc k c h
  cases sp with
  | data => exact kindCodes_rfc k
  | _ => exact early

/-- a datagram all of whose injected frames get ok / ignore admits no error code at all: the receiver must not close -/
theorem ok_and_ignore_produce_no_error (server : Bool) (its : List Item)
    (h : ∀ it ∈ its, (itemVerdict server it).1 = .ok ∨ (itemVerdict server it).1 = .ignore) :
    admissible server its = ([], true) := by
  induction its with
  | nil => rfl
  | cons it rest ih =>
    have hr := ih fun x hx => h x (List.mem_cons_of_mem _ hx)
    have h0 := h it (List.mem_cons_self ..)
    unfold admissible
    rcases hv : itemVerdict server it with ⟨v, stop⟩
    rw [hv] at h0
    rcases h0 with h0 | h0 <;> simp only at h0 <;> subst h0 <;> cases stop <;> simp [hr]

/-- facts of a freshly established client: CID ring with the initial CID, nothing received -/
def fl0 : ConnFlags :=
  { nextPn := 7, skipped := some 3, cryptoExpected := 2, cryptoRead := 100, cryptoBuf := 4096, recvKind := 1, recvEnd := 0,
    recvFinal := none, recvReset := false, recvStopped := false, recvSentMax := 0, sendKind := 0, nextLocal := 1, maxRemote := 2,
    dataRecvd := 0, localMaxData := 1000, streamRecvWindow := 500, cid := ⟨CidQueue.new [1], [], false⟩, localCidLen := 8,
    issued := 4, dgramWindow := some 100, ackFreqLast := none, challenge := none }

example : FlagsOk fl0 := ⟨CidQueue.new_inv [1], by decide⟩
-- HANDSHAKE_DONE: a server rejects it, a client accepts it; STREAM in a Handshake packet; MAX_STREAM_DATA beyond the limit
example : verdict true .data fl0 .handshakeDone = .error [Gen.frProtocolViolation] := by decide
example : verdict false .data fl0 .handshakeDone = .ok := by decide
example : verdict false .handshake fl0 (.stream 1 0 false [1]) = .error [Gen.frProtocolViolation] := by decide
example : verdict false .data fl0 (.maxStreamData 41 5) = .error [Gen.frStreamLimitError] := by decide
-- stream 1 (server-initiated bidi, index 0 < limit 2): inside the window ok, beyond it FLOW_CONTROL_ERROR; index 2 STREAM_LIMIT_ERROR
example : verdict false .data fl0 (.stream 1 0 false [1, 2, 3]) = .ok := by decide
example : verdict false .data fl0 (.stream 1 499 false [1, 2, 3]) = .error [Gen.frFlowControlError] := by decide
example : verdict false .data fl0 (.stream 9 0 false [1]) = .error [Gen.frStreamLimitError] := by decide
-- ACK of an unsent packet / of the skipped packet number / legal
example : verdict false .data fl0 (.ack 7 0 0 [] none) = .error [Gen.frProtocolViolation] := by decide
example : verdict false .data fl0 (.ack 5 0 3 [] none) = .error [Gen.frProtocolViolation] := by decide
example : verdict false .data fl0 (.ack 6 0 2 [] none) = .ok := by decide
-- a sequence: the third frame is the first offender, the state is the one after two applications
example : processSeq false .data (fun _ _ => fl0) (fun (n : Nat) _ => n + 1) 0
    [.ping, .maxData 5, .stream 9 0 false [1], .ping] = (2, some [Gen.frStreamLimitError]) := by decide

end QM.Props.C03_frames
