import QuinnModel.Lemmas.IndexStable
/-
C09 — Datagrams reach the right connection; connections are isolated.

Subject: the model of the endpoint's routing state (`QuinnModel/Endpoint/Index.lean`): the five tables of
`ConnectionIndex`, `ConnectionMeta`, the two slabs, and the `Endpoint` calls that maintain them.  A history
is any list of calls `Op` = connect (TLS ok / TLS error) | first Initial of an incoming connection |
accept (ok / stale / CIDs exhausted / authentication failure / first packet rejected) | refuse | ignore |
NeedIdentifiers n | RetireConnectionId seq | ResetToken (remote, token) | Drained, with the connection IDs
drawn by `new_cid` as explicit inputs; `run` is `none` where the real call panics or the CIDs supplied run
out.  Every theorem quantifies over ALL histories, CID lengths and both preferred-address settings.

The model follows the code after two repairs (`fix:` commits): `ConnectionIndex::remove` drops an
address-tuple entry only if it still belongs to the connection being removed (F5), and `Endpoint::connect`
unregisters the local CID when the TLS `start_session` fails.  With them every statement below holds without
side condition, except the two about zero-length CIDs that are inherently limited by "one hash-map slot per
address tuple": when a newer connection is established on a tuple that a live connection already uses, the
newer one takes the slot (`insert_conn` overwrites) — that is stated exactly (`tuple_routes_until_superseded`),
and `routing_tuples` assumes it does not happen (`UniqueTupleKeys`).
-/
namespace QM.Props.C09
open QM QM.Index

/-- `Routing`: after ANY history every key of every table maps to a live handle that owns it, every CID
    issued and not retired by a live connection and every initial DCID (of a live incoming connection or a
    pending attempt) maps to it, sequence numbers and CIDs of a connection correspond one to one, and the
    reset-token table holds only tokens a live connection's peer currently uses (`Sound`) -/
theorem routing (cidLen : Nat) (pref : Bool) (ops : List Op) (s : State)
    (hr : run cidLen pref ops = some s) : Sound s :=
  sound_run hr

/-- no history adds a connection whose tuple-table key (incoming: the 4-tuple, outgoing: the remote) is in
    use by a live connection of the same side; vacuous unless the endpoint uses zero-length CIDs.  For
    outgoing connections this is the documented caller contract ("at most one client connection with
    zero-length local CIDs may be established per remote"); for incoming ones it is the peer's behaviour -/
def UniqueTupleKeys (cidLen : Nat) (pref : Bool) (ops : List Op) : Prop :=
  Along AddsDisjoint (init cidLen pref) ops

/-- zero-length CIDs: as long as tuple keys are not shared, every live connection is registered under its
    address tuple (incoming) / remote (outgoing) -/
theorem routing_tuples (pref : Bool) (ops : List Op) (s : State)
    (hu : UniqueTupleKeys 0 pref ops) (hr : run 0 pref ops = some s) : TupleComplete s :=
  (tinv_run hu hr).complete (cidLen_run hr)

/-- `route_correct`: a datagram is handed to connection `h` only if `h` is live and the datagram is
    addressed to it: it carries one of `h`'s unretired CIDs, or is an Initial/0-RTT for `h`'s initial DCID,
    or has an empty DCID and comes from `h`'s address tuple, or ends in the reset token `h`'s peer
    currently uses, from that peer's address -/
theorem route_correct (cidLen : Nat) (pref : Bool) (ops : List Op) (s : State)
    (hr : run cidLen pref ops = some s)
    (a : FourTuple) (d : Dgram) (h : Nat) (hroute : route s a d = some (.connection h)) :
    ∃ m, s.conns.get h = some m ∧ Owns m a d :=
  route_conn_owns (sound_run hr) hroute

/-- a datagram is buffered for a pending attempt only if it is an Initial/0-RTT with that attempt's DCID -/
theorem route_incoming_correct (cidLen : Nat) (pref : Bool) (ops : List Op) (s : State)
    (hr : run cidLen pref ops = some s)
    (a : FourTuple) (d : Dgram) (i : Nat) (hroute : route s a d = some (.incoming i)) :
    d.initialOr0rtt = true ∧ ∃ p, s.incoming.get i = some p ∧ p.dcid = d.dstCid :=
  route_incoming_pending (sound_run hr) hroute

/-- every CID issued to and not retired by a live connection routes to it, from any address, in any
    packet type, with any payload (rotation, retirement in any order, migration) -/
theorem issued_cid_routes (cidLen : Nat) (pref : Bool) (ops : List Op) (s : State)
    (hr : run cidLen pref ops = some s)
    (h q : Nat) (m : Meta) (c : Cid) (hm : s.conns.get h = some m) (hq : alookup q m.locCids = some c)
    (hne : c ≠ []) (a : FourTuple) (k : Bool) (data : Bytes) :
    route s a ⟨k, c, data⟩ = some (.connection h) := by
  have := (sound_run hr).ids_complete h m q c hm hq hne
  have he : c.isEmpty = false := by simpa using hne
  unfold route Index.get
  simp [he, this]

/-- zero-length CIDs: an accepted connection receives the short-header datagrams from its address tuple
    from the moment it is accepted, through ANY later history, until it drains or a newer incoming
    connection is accepted on the same tuple (`KeepsIn`) — in particular whatever other connections,
    including ones on the same remote, are drained meanwhile (F5) -/
theorem tuple_routes_until_superseded (pref : Bool) (ops1 ops2 : List Op) (s1 s2 s : State)
    (idx ch : Nat) (p : Pending) (mode : AcceptMode) (cands : List Cid) (data : Bytes)
    (hr1 : run 0 pref ops1 = some s1) (hp : s1.incoming.get idx = some p)
    (hacc : accept s1 idx mode cands = some (s2, .ok ch))
    (hk : Along (KeepsIn p.addresses ch) s2 ops2) (hr2 : runFrom s2 ops2 = some s) :
    route s p.addresses ⟨false, [], data⟩ = some (.connection ch) := by
  have hs1 := sound_run hr1
  have := in_entry_stable (sound_accept hs1 hacc) (accept_registered hacc hp (cidLen_run hr1)) hk hr2
  unfold route Index.get
  simp [this]

/-- the same for an outgoing connection and its remote (`KeepsOut`: not drained, no newer `connect` to the
    same remote); the entry is what `get` consults once no incoming connection claims the datagram -/
theorem remote_entry_until_superseded (pref : Bool) (ops1 ops2 : List Op) (s1 s2 s : State)
    (remote : Addr) (initCid : Cid) (tls : Bool) (cands : List Cid) (ch : Nat)
    (hr1 : run 0 pref ops1 = some s1)
    (hcon : connect s1 remote initCid tls cands = some (s2, .ok ch))
    (hk : Along (KeepsOut remote ch) s2 ops2) (hr2 : runFrom s2 ops2 = some s) :
    alookup remote s.index.outRemotes = some ch :=
  out_entry_stable (sound_connect (sound_run hr1) hcon) (connect_registered hcon (cidLen_run hr1)) hk hr2

/-- zero-length CIDs, unshared tuple keys: a datagram from a live incoming connection's tuple reaches it -/
theorem tuple_routes (pref : Bool) (ops : List Op) (s : State)
    (hu : UniqueTupleKeys 0 pref ops) (hr : run 0 pref ops = some s)
    (h : Nat) (m : Meta) (hm : s.conns.get h = some m) (hside : m.side = .server) (data : Bytes) :
    route s m.addresses ⟨false, [], data⟩ = some (.connection h) := by
  have := (routing_tuples pref ops s hu hr h m hm).1 hside
  unfold route Index.get
  simp [this]

/-- fresh CIDs only: `new_cid` never hands out a CID that is registered -/
theorem new_cid_unique (s s1 : State) (ch : Nat) (cands c1 : List Cid) (id : Cid)
    (h : newCid s ch cands = some (id, s1, c1)) (hne : id ≠ []) : alookup id s.index.ids = none :=
  have ⟨_, fresh, _⟩ := newCid_spec h
  fresh hne

/-- a `connect` that fails (CIDs exhausted, bad remote address, TLS error) leaves no trace in any table -/
theorem failed_connect_leaves_no_trace (s s' : State)
    (remote : Addr) (initCid : Cid) (tls : Bool) (cands : List Cid) (res : ConnectResult)
    (hc : connect s remote initCid tls cands = some (s', res)) (hfail : ∀ ch, res ≠ .ok ch) :
    s'.conns = s.conns ∧ ∀ h, Mentions s' h → Mentions s h := by
  obtain ⟨rfl, -⟩ | ⟨ids', rfl, hsub, -⟩ | ⟨loc, -, rfl⟩ := connect_cases hc
  · exact ⟨rfl, fun _ hm => hm⟩
  · exact ⟨rfl, fun h hm => hm.imp_right (Or.imp_left fun ⟨c, e⟩ => ⟨c, hsub c h e⟩)⟩
  · exact absurd rfl (hfail _)

/-- `no_stale`: after `Drained(ch)` the slot is vacant and no table mentions `ch` -/
theorem no_stale (cidLen : Nat) (pref : Bool) (ops : List Op) (s s' : State) (ch : Nat)
    (hr : run cidLen pref ops = some s)
    (hd : evDrained s ch = some s') : s'.conns.get ch = none ∧ ¬ Mentions s' ch :=
  ⟨(drained_vacates hd).1, no_stale_after_drained (sound_run hr) hd⟩

/-- isolation: `Drained(ch)` leaves every routing entry of every OTHER handle exactly as it was — address
    tuples, remotes, (non-empty) CIDs, initial DCIDs of connections and of pending attempts -/
theorem drained_isolation (cidLen : Nat) (pref : Bool) (ops : List Op) (s s' : State) (ch : Nat)
    (hr : run cidLen pref ops = some s) (hd : evDrained s ch = some s') :
    (∀ a h', alookup a s.index.inRemotes = some h' → h' ≠ ch → alookup a s'.index.inRemotes = some h') ∧
    (∀ r h', alookup r s.index.outRemotes = some h' → h' ≠ ch → alookup r s'.index.outRemotes = some h') ∧
    (∀ c h', c ≠ [] → alookup c s.index.ids = some h' → h' ≠ ch → alookup c s'.index.ids = some h') ∧
    (∀ d h', alookup d s.index.idsInitial = some (.connection h') → h' ≠ ch →
      alookup d s'.index.idsInitial = some (.connection h')) ∧
    (∀ d i, alookup d s.index.idsInitial = some (.incoming i) →
      alookup d s'.index.idsInitial = some (.incoming i)) := by
  obtain ⟨d1, d2, d3, d4⟩ := drained_lookups (sound_run hr) hd
  exact ⟨fun a h' hl hne => hit_stays (d1 a) hl hne, fun r h' hl hne => hit_stays (d2 r) hl hne,
    fun c h' hce hl hne => hit_stays (d3 c hce) hl hne,
    fun d h' hl hne => hit_stays (d4 d) hl fun e => hne (RouteTo.connection.inj e),
    fun d i hl => hit_stays (d4 d) hl fun e => by cases e⟩

/-- `Drained` never trips the `debug_assert!` in `remove_initial` -/
theorem drained_never_panics (cidLen : Nat) (pref : Bool) (ops : List Op) (s : State) (ch : Nat)
    (hr : run cidLen pref ops = some s) :
    evDrained s ch ≠ none :=
  drained_ne_none (sound_run hr)

/-- `slot_reuse_safe`: when a live connection's slot `ch` is drained the slot becomes the next one handed
    out, nothing in any table points at it, and whatever later history follows (new connections reusing the
    slot, rotation, more drains) a datagram is handed to `ch` only if it is addressed to the occupant of
    `ch` at that time (never because of anything the previous occupant owned) -/
theorem slot_reuse_safe (cidLen : Nat) (pref : Bool) (ops1 ops2 : List Op) (s1 s2 s : State) (ch : Nat)
    (mOld : Meta)
    (hr1 : run cidLen pref ops1 = some s1) (hlive : s1.conns.get ch = some mOld)
    (hd : evDrained s1 ch = some s2)
    (hr2 : runFrom s2 ops2 = some s) :
    (s2.conns.get ch = none ∧ ¬ Mentions s2 ch ∧ s2.conns.vacantKey = ch) ∧
    ∀ a d, route s a d = some (.connection ch) → ∃ m, s.conns.get ch = some m ∧ Owns m a d := by
  have hs1 := sound_run hr1
  have hs2 := sound_drained hs1 hd
  exact ⟨⟨(drained_vacates hd).1, no_stale_after_drained hs1 hd, (drained_vacates hd).2 mOld hlive⟩,
    fun a d hroute => route_conn_owns (sound_runFrom hs2 hr2) hroute⟩

/-- the reset-token table maps only tokens that a live connection's peer currently uses -/
theorem reset_tokens_current (cidLen : Nat) (pref : Bool) (ops : List Op) (s : State)
    (hr : run cidLen pref ops = some s)
    (remote : Addr) (token : Token) (h : Nat) (hk : alookup (remote, token) s.index.tokens = some h) :
    ∃ m, s.conns.get h = some m ∧ m.resetToken = some (remote, token) :=
  (sound_run hr).tok_sound _ _ hk

def tupleA : FourTuple := ⟨⟨167772161, 5000⟩, some 3232235777⟩

/-- F5 witness (zero-length CIDs; `corpus/cindex/F5.ops`): a client reconnects from the same address tuple
    while its first connection is still draining, then the first connection is drained -/
def F5_witness : List Op :=
  [.first tupleA [0xd1, 0xd1, 0xd1, 0xd1, 0xd1, 0xd1, 0xd1, 0xd1] [], .accept 0 .ok [],
   .first tupleA [0xd2, 0xd2, 0xd2, 0xd2, 0xd2, 0xd2, 0xd2, 0xd2] [], .accept 0 .ok [],
   .event 0 [] .drained]

-- the second connection keeps its routing entry (before the repair: `none`)
example : ∃ s, run 0 false F5_witness = some s ∧
    route s tupleA ⟨false, [], [0x40, 1, 2]⟩ = some (.connection 1) ∧ s.conns.get 0 = none := by
  refine ⟨_, rfl, ?_⟩
  decide

/-- connect-leak witness (`corpus/cindex/connect-leak.ops`): `connect` fails in TLS after `new_cid` -/
def leak_witness : List Op := [.connect ⟨167772161, 4433⟩ [1, 1, 1, 1, 1, 1, 1, 1] false [[0xaa, 0, 0, 1]]]

-- nothing stays registered (before the repair: `ids = [([0xaa, 0, 0, 1], 0)]`)
example : run 4 false leak_witness = some (init 4 false) := by decide

def tupleB : FourTuple := ⟨⟨167772162, 5000⟩, none⟩
def remoteC : Addr := ⟨3232235781, 4433⟩
def cid (n : Nat) : Cid := [0xc0, 0, 0, 0, 0, 0, 0, n]
def tok : Token := [0, 1, 2, 3, 4, 5, 6, 7, 8, 9, 10, 11, 12, 13, 14, 15]

/-- 8-byte CIDs with a preferred-address CID: an incoming and an outgoing connection, rotation (a colliding
    candidate is skipped), retirement, a reset token, `Drained`, and a new connection reusing slot 0 -/
def history8 : List Op :=
  [.first tupleA [0xd1, 0xd1, 0xd1, 0xd1, 0xd1, 0xd1, 0xd1, 0xd1] [], .accept 0 .ok [cid 1, cid 2],
   .connect remoteC [9, 9, 9, 9, 9, 9, 9, 9] true [cid 1, cid 3],
   .event 0 [cid 3, cid 4, cid 5] (.needIdentifiers 2), .event 0 [cid 6] (.retireConnectionId 0 true),
   .event 1 [] (.resetToken remoteC tok), .event 0 [] .drained,
   .first tupleB [0xd2, 0xd2, 0xd2, 0xd2, 0xd2, 0xd2, 0xd2, 0xd2] [], .accept 0 .ok [cid 7, cid 8]]

example : UniqueTupleKeys 8 true history8 := along_addsDisjoint_of_cidLen (by decide)

example : ∃ s, run 8 true history8 = some s ∧
    -- slot 0 was reused; its new occupant gets its own CIDs and the reset token reaches connection 1 ...
    route s tupleB ⟨false, cid 7, []⟩ = some (.connection 0) ∧
    route s tupleA ⟨false, cid 3, []⟩ = some (.connection 1) ∧
    route s ⟨remoteC, none⟩ ⟨false, cid 99, 0x40 :: tok⟩ = some (.connection 1) ∧
    -- ... and nothing the previous occupant of slot 0 owned (CIDs 1, 2, 4, 5, 6, its initial DCID) routes
    route s tupleA ⟨false, cid 4, []⟩ = none ∧ route s tupleA ⟨false, cid 1, []⟩ = none ∧
    route s tupleA ⟨true, [0xd1, 0xd1, 0xd1, 0xd1, 0xd1, 0xd1, 0xd1, 0xd1], []⟩ = none := by
  refine ⟨_, rfl, ?_⟩
  decide

/-- zero-length CIDs, two incoming connections from different tuples and an outgoing one: admissible -/
def history0 : List Op :=
  [.first tupleA [0xd1, 0xd1, 0xd1, 0xd1, 0xd1, 0xd1, 0xd1, 0xd1] [], .accept 0 .ok [],
   .first tupleB [0xd2, 0xd2, 0xd2, 0xd2, 0xd2, 0xd2, 0xd2, 0xd2] [], .accept 0 .ok []]

def history0_m0 : Meta := ⟨[0xd1, 0xd1, 0xd1, 0xd1, 0xd1, 0xd1, 0xd1, 0xd1], 1, [(0, [])], tupleA, .server, none⟩

def history0_s1 : State :=
  { cidLen := 0, prefAddr := false,
    index := { idsInitial := [([0xd1, 0xd1, 0xd1, 0xd1, 0xd1, 0xd1, 0xd1, 0xd1], .incoming 0)] },
    incoming := ⟨[.occupied ⟨tupleA, [0xd1, 0xd1, 0xd1, 0xd1, 0xd1, 0xd1, 0xd1, 0xd1]⟩], 1⟩ }

def history0_s2 : State :=
  { cidLen := 0, prefAddr := false,
    index := { idsInitial := [([0xd1, 0xd1, 0xd1, 0xd1, 0xd1, 0xd1, 0xd1, 0xd1], .connection 0)],
               inRemotes := [(tupleA, 0)] },
    conns := ⟨[.occupied history0_m0], 1⟩, incoming := ⟨[.vacant 1], 0⟩ }

def history0_s3 : State :=
  { cidLen := 0, prefAddr := false,
    index := { idsInitial := [([0xd2, 0xd2, 0xd2, 0xd2, 0xd2, 0xd2, 0xd2, 0xd2], .incoming 0),
                              ([0xd1, 0xd1, 0xd1, 0xd1, 0xd1, 0xd1, 0xd1, 0xd1], .connection 0)],
               inRemotes := [(tupleA, 0)] },
    conns := ⟨[.occupied history0_m0], 1⟩,
    incoming := ⟨[.occupied ⟨tupleB, [0xd2, 0xd2, 0xd2, 0xd2, 0xd2, 0xd2, 0xd2, 0xd2]⟩], 1⟩ }

example : UniqueTupleKeys 0 false history0 := by
  refine along_cons (s' := history0_s1) (by decide) trivial ?_
  refine along_cons (s' := history0_s2) (by decide) ?_ ?_
  · intro _ p _ h m hg; simp [history0_s1, Slab.get, Slab.empty] at hg
  refine along_cons (s' := history0_s3) (by decide) trivial ?_
  refine ⟨?_, by split <;> trivial⟩
  intro _ p hp h m hg
  have hp' : p = ⟨tupleB, [0xd2, 0xd2, 0xd2, 0xd2, 0xd2, 0xd2, 0xd2, 0xd2]⟩ := by
    simp [history0_s3, Slab.get] at hp; exact hp.symm
  subst hp'
  match h, hg with
  | 0, hg =>
    have : m = history0_m0 := by simp [history0_s3, Slab.get] at hg; exact hg.symm
    subst this
    decide
  | n + 1, hg => simp [history0_s3, Slab.get] at hg

example : ∃ s, run 0 false history0 = some s ∧
    route s tupleA ⟨false, [], [0x40, 1, 2]⟩ = some (.connection 0) ∧
    route s tupleB ⟨false, [], [0x40, 1, 2]⟩ = some (.connection 1) := by
  refine ⟨_, rfl, ?_⟩
  decide

-- `tuple_routes_until_superseded` applies to the F5 history itself: connection 1 is accepted on the tuple of
-- the live connection 0 (so the tuple keys are NOT unique), then 0 is drained; 1 keeps receiving
def F5_s3 : State :=
  { cidLen := 0, prefAddr := false,
    index := { idsInitial := [([0xd2, 0xd2, 0xd2, 0xd2, 0xd2, 0xd2, 0xd2, 0xd2], .incoming 0),
                              ([0xd1, 0xd1, 0xd1, 0xd1, 0xd1, 0xd1, 0xd1, 0xd1], .connection 0)],
               inRemotes := [(tupleA, 0)] },
    conns := ⟨[.occupied history0_m0], 1⟩,
    incoming := ⟨[.occupied ⟨tupleA, [0xd2, 0xd2, 0xd2, 0xd2, 0xd2, 0xd2, 0xd2, 0xd2]⟩], 1⟩ }

example : ∃ s2 s, run 0 false (F5_witness.take 3) = some F5_s3 ∧
    accept F5_s3 0 .ok [] = some (s2, .ok 1) ∧
    Along (KeepsIn tupleA 1) s2 [.event 0 [] .drained] ∧ runFrom s2 [.event 0 [] .drained] = some s := by
  refine ⟨_, _, by decide, rfl, ⟨by simp [KeepsIn], by split <;> trivial⟩, rfl⟩

end QM.Props.C09
