import QuinnModel.Lemmas.Life
/-
C18 — "every pending operation … completes as soon as its condition holds or the connection or endpoint closes
… closing or dropping handles in any order performs a clean teardown": END-OF-LIFE RULES.
Model: QuinnModel/Async/Life.lean — (1) the endpoint's connection set under all orders of `ConnectionSet::insert`
(connect / Incoming accepted), `Endpoint::close` and `drained`, with what `insert` and `close` do read from the
source (Gen/C18Life.lean); (2) a waker table keyed by stream id whose ids are reused after a 0-RTT rejection,
registrations tagged with the generation of the registering handle, with what the rejection, `Drop` and
`RecvStream::stop` do to the table read from the source. Behaviour of the real code: asyncsim families `eol`
(oracles `c18-connection-alive-after-endpoint-close`, `c18-wait-idle-hangs`) and `stale` (`c18-lost-wakeup`).
-/
namespace QM.Props.C18_life
open QM QM.Life

/-- all orders of insert / close / drained: once `Endpoint::close` has run, EVERY connection in the endpoint's
    connection set — registered before the close or after it (an attempt that was queued, or held by the
    application, and accepted later) — has a Close event in its channel -/
theorem closed_endpoint_tells_every_connection (evs : List EpEv) (h : Nat)
    (hc : (Ep.init.run evs).closed = true) (hm : h ∈ (Ep.init.run evs).senders) :
    (Ep.init.run evs).told h = true :=
  epInv_run evs Ep.init epInv_init hc h hm

/-- the close is permanent: whatever happens after `Endpoint::close`, the endpoint stays closed (so the theorem
    above applies to every later state) -/
theorem endpoint_stays_closed (evs evs' : List EpEv) :
    ((Ep.init.run evs).step .close |>.run evs').closed = true :=
  closed_run evs' _ (by simp [Ep.step])

/-- a connection that was told: its driver's next poll executes `State::close` = `terminate` of the wake model,
    which leaves no registration, marks the connection lost and has woken every task that was Pending
    (so `closed()`, the handshake future and every other operation on it complete) -/
theorem told_connection_terminates (slot : Wake.Cond → Bool) (evs : List Wake.Ev) :
    (connPoll slot true (Wake.run slot Wake.init evs)).regs = [] ∧
    (connPoll slot true (Wake.run slot Wake.init evs)).dead = true ∧
    ∀ t c, (Wake.run slot Wake.init evs).waiting t = some c →
      (connPoll slot true (Wake.run slot Wake.init evs)).woken t = true := by
  rw [connPoll_told]; exact ⟨rfl, rfl, Wake.terminate_woken slot _ (Wake.inv_reach slot evs)⟩

/-- waker table keyed by stream id, ids reused across generations, all interleavings of polls, wakes,
    rejections, drops and stops: dropping (or stopping through) a handle of generation `g` leaves a registration
    that a handle of ANOTHER generation made under the same id exactly where it is -/
theorem drop_removes_only_own_generation (evs : List TabEv) (id : Id) (g g' : Gn) (t : Tk)
    (hg : g ≤ (Tab.init.run evs).cur) (hr : (Tab.init.run evs).tab id = some (g', t)) (hne : g ≠ g') :
    ((Tab.init.run evs).step (.drop id g)).tab id = some (g', t) ∧
    ((Tab.init.run evs).step (.stop id g)).tab id = some (g', t) :=
  drop_other_gen _ (tab_reach evs) id g g' t hg hr hne

/-- … and a drop or stop never touches the entry of another id -/
theorem drop_touches_only_its_id (s : Tab) (id id' : Id) (g : Gn) (hne : id' ≠ id) :
    (s.step (.drop id g)).tab id' = s.tab id' ∧ (s.step (.stop id g)).tab id' = s.tab id' :=
  by simp only [Tab.step]; constructor <;> (split <;> simp [Tab.remove, hne])

/-- every registration in the table was made by a handle of the CURRENT generation: the rejection drains the table
    and stale handles never register -/
theorem registrations_are_current_generation (evs : List TabEv) (id : Id) (g : Gn) (t : Tk)
    (hr : (Tab.init.run evs).tab id = some (g, t)) : g = (Tab.init.run evs).cur :=
  tab_reach evs id g t hr

/-- attempt 1 accepted before the close, attempt 2 queued at the close and accepted afterwards, attempt 1 drained -/
def epHist : List EpEv := [.insert 1, .close, .insert 2, .drained 1]
example : (Ep.init.run epHist).closed = true ∧ (Ep.init.run epHist).senders = [2] ∧
    (Ep.init.run epHist).told 2 = true := by decide +kernel
/-- before the close nobody is told -/
example : (Ep.init.run [.insert 1]).told 1 = false ∧ (Ep.init.run [.insert 1]).closed = false := by decide +kernel
/-- a reader parked on the connection that is told -/
example : (connPoll (fun _ => true) true (Wake.run (fun _ => true) Wake.init [.poll 7 0 true])).woken 7 = true ∧
    (Wake.run (fun _ => true) Wake.init [.poll 7 0 true]).waiting 7 = some 0 := by decide +kernel
/-- early stream 0 (generation 0) read by task 5; rejection; new stream 0 (generation 1) read by task 6; the stale
    generation-0 handle is stopped and dropped: task 6's registration stays; its own handle's drop removes it -/
def tabHist : List TabEv := [.poll 0 0 5, .reject, .poll 0 0 5, .poll 0 1 6]
example : (Tab.init.run tabHist).cur = 1 ∧ (Tab.init.run tabHist).tab 0 = some (1, 6) ∧
    ((Tab.init.run tabHist).step (.drop 0 0)).tab 0 = some (1, 6) ∧
    ((Tab.init.run tabHist).step (.stop 0 0)).tab 0 = some (1, 6) ∧
    ((Tab.init.run tabHist).step (.drop 0 1)).tab 0 = none := by decide +kernel

end QM.Props.C18_life
