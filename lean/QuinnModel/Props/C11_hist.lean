import QuinnModel.Lemmas.StreamsHistory
/-
C11 — whole-history event theorems.

"Application events agree with these states: Finished is emitted at most once and only after a finish()
was fully acknowledged, Stopped once per stopped stream, ... and a remotely initiated stream stops
counting against the concurrency limit exactly when both of its halves are terminal, not before."

A history is `new c` followed by ANY list of operations of the streams component other than `new` /
`rejected` (every transport parameter, both sides, both directions; `params`, frames, acknowledgements,
losses, API calls, `poll`, transmissions in any order).  `trace s0 ops` is the list of its steps (state
before, operation, result, state after; it ends where the implementation would panic) and
`delivered (trace s0 ops)` the list of events `poll` handed to the application.
Restarts: `new` discards the state (`new_resets_history`), so every `new` starts a fresh history;
`rejected` (0-RTT rejection) forgets all locally opened streams and re-issues their ids, so per-id
statements do NOT extend across it (`stopped_twice_across_rejection`: the isolated component allows
it; a connection calls `zero_rtt_rejected` before any 1-RTT frame of the peer can have arrived; with an
acknowledged-and-finished 0-RTT stream `zero_rtt_rejected` panics: `rejected_after_finished_panics`).
-/
namespace QM.Props.C11_hist
open QM QM.Streams

def NoRestart (ops : List Op) : Prop := ∀ o ∈ ops, o.isRestart = false

/-- the events `poll` handed to the application while `ops` ran from `s0` -/
def run (s0 : State) (ops : List Op) : List Event := delivered (trace s0 ops)

/-- every `trace` is a history in the sense of `Run` (in which `slot_released_once` is stated) -/
theorem trace_is_run (s0 : State) (ops : List Op) (hn : NoRestart ops) : ∃ s, Run s0 (trace s0 ops) s := by
  fun_induction trace s0 ops
  · exact ⟨_, Run.nil⟩
  · exact ⟨_, Run.nil⟩
  · rename_i s o os s1 out hs ih
    obtain ⟨s', h⟩ := ih fun o' ho' => hn o' (List.mem_cons_of_mem _ ho')
    exact ⟨s', Run.cons hs (hn o (List.mem_cons_self ..)) h⟩

/-- per stream id, the application is handed at most one `Finished` -/
theorem finished_at_most_once {c : Config} {s0 : State} (h0 : State.new c = some s0) (ops : List Op)
    (hn : NoRestart ops) (id : Nat) : (run s0 ops).count (.finished id) ≤ 1 := by
  obtain ⟨s, r⟩ := trace_is_run s0 ops hn
  rw [run, List.count_eq_length_filter]
  exact Nat.le_trans (filter_delivered_le _ s fun e he => by cases eq_of_beq he; rfl)
    ((run_hinv h0 r).finishedOnce id)

/-- every `Finished id` handed to the application was queued by a step `st` of the history that is the
    acknowledgement completing the stream (`Completes`: the half exists and after this acknowledgement
    it is finished, its FIN acknowledged, no byte unacknowledged — `ack_completes_meaning`), and BEFORE
    that step the application had called `finish(id)` successfully -/
theorem finished_only_after_full_ack {c : Config} {s0 : State} (h0 : State.new c = some s0) (ops : List Op)
    (hn : NoRestart ops) (id : Nat) (hd : Event.finished id ∈ run s0 ops) :
    ∃ l1 st l2, trace s0 ops = l1 ++ st :: l2 ∧ Completes st id ∧ ∃ st0 ∈ l1, FinishOk st0 id := by
  obtain ⟨s, r⟩ := trace_is_run s0 ops hn
  exact ((run_hinv h0 r).good _ (mem_L hd rfl)).ackAfterFinish

/-- what `Completes` means for the half: the application had finished it (`DataSent`), its FIN is
    acknowledged by this or an earlier acknowledgement, and no byte is left unacknowledged -/
theorem ack_completes_meaning {st : Step} {id : Nat} (h : Completes st id) :
    ∃ (a e : Nat) (fin : Bool) (x x' : Send), st.op = .ack id a e fin ∧ st.pre.send.find? id = some (some x) ∧
      (∃ fa, x.state = .dataSent fa ∧ (fa || fin) = true) ∧ x'.state = .dataSent true ∧
      x'.pending.unackedLen = 0 := by
  obtain ⟨a, e, fin, x, x', ho, hx, hack⟩ := h
  obtain ⟨h1, h2, h3⟩ := Send.ack_done hack
  exact ⟨a, e, fin, x, x', ho, hx, h1, h2, h3⟩

/-- per stream id, the application is handed at most one `Stopped` (whatever the codes) -/
theorem stopped_at_most_once {c : Config} {s0 : State} (h0 : State.new c = some s0) (ops : List Op)
    (hn : NoRestart ops) (id : Nat) : ((run s0 ops).filter (isStoppedOf id)).length ≤ 1 := by
  obtain ⟨s, r⟩ := trace_is_run s0 ops hn
  exact Nat.le_trans (filter_delivered_le _ s fun e he => match e, he with | .stopped _ _, _ => rfl)
    ((run_hinv h0 r).stoppedOnce id)

/-- every `Stopped id code` handed to the application stems from a STOP_SENDING frame of the peer for
    that stream with that code earlier in the history -/
theorem stopped_only_if_peer_stopped {c : Config} {s0 : State} (h0 : State.new c = some s0) (ops : List Op)
    (hn : NoRestart ops) (id code : Nat) (hd : Event.stopped id code ∈ run s0 ops) :
    ∃ st ∈ trace s0 ops, st.op = .stopSending id code := by
  obtain ⟨s, r⟩ := trace_is_run s0 ops hn
  exact ((run_hinv h0 r).good _ (mem_L hd rfl)).frame

/-- Opened / Readable only for streams the peer actually used: every `Readable id` handed to the application
    stems from a STREAM or RESET_STREAM frame of the peer for stream `id` earlier in the history (`Step.data`); every
    `Opened dir` from a frame of the peer (STREAM, RESET_STREAM, STOP_SENDING, MAX_STREAM_DATA: `Step.names`) for a
    stream of that direction earlier in the history -/
theorem opened_readable_only_used {c : Config} {s0 : State} (h0 : State.new c = some s0) (ops : List Op)
    (hn : NoRestart ops) :
    (∀ id, Event.readable id ∈ run s0 ops → ∃ st ∈ trace s0 ops, st.data id) ∧
    (∀ d, Event.opened d ∈ run s0 ops → ∃ st ∈ trace s0 ops, ∃ id, st.names id ∧ sidDir id = d) := by
  obtain ⟨s, r⟩ := trace_is_run s0 ops hn
  have i := run_hinv h0 r
  exact ⟨fun id hd => i.good _ (mem_L hd rfl), fun d hd => i.good _ (mem_L hd rfl)⟩

/-- the concurrency slot (see `SlotStep`): at EVERY step of every history the number of released slots
    `max_remote - allocated_remote_count` of a direction grows iff that step takes the last half of a
    remotely initiated stream of that direction out of the maps (the stream had a half before the step
    and has none after it), then by exactly one; no other step changes it and no other remotely
    initiated stream changes between alive and dead -/
theorem slot_released_iff_both_terminal {c : Config} {s0 : State} (h0 : State.new c = some s0) (ops : List Op)
    (hn : NoRestart ops) : ∀ st ∈ trace s0 ops, SlotStep st.pre st.post := by
  obtain ⟨s, r⟩ := trace_is_run s0 ops hn
  exact run_slot h0 r

/-- exactly once per stream: a stream both of whose halves are terminal stays so in every continuation
    of the history (its id is never re-issued), so no later step releases a slot for it again -/
theorem slot_released_once {c : Config} {s0 s1 s2 : State} (h0 : State.new c = some s0) {tr1 tr2 : List Step}
    (r1 : Run s0 tr1 s1) (r2 : Run s1 tr2 s2) (id : Nat) (ha : s1.hv.allocd id) (hd : dead s1.hv id) :
    dead s2.hv id :=
  have ⟨_, _, sendGone, recvGone⟩ := forever r2 (run_hinv h0 r1).ka ha
  And.intro (sendGone hd.1) (recvGone hd.2)

/-- a reader observes one terminal outcome: after the step that showed it end-of-stream or the
    sender's reset code (`read` ending in Fin / Reset, or `received_reset` reporting the code) every
    later `read`, `stop` and `received_reset` on that stream reports a closed stream — in particular
    no second terminal outcome -/
theorem terminal_outcome_unique {c : Config} {s0 : State} (h0 : State.new c = some s0) (ops : List Op)
    (hn : NoRestart ops) (l1 l2 : List Step) (st : Step) (id : Nat) (htr : trace s0 ops = l1 ++ st :: l2)
    (ht : TerminalOutcome st id) : ∀ st' ∈ l2, ReaderOp st' id → st'.out = .errClosed := by
  obtain ⟨s, r⟩ := trace_is_run s0 ops hn
  exact run_terminal h0 (htr ▸ r) ht

/-- `new` starts a fresh history: nothing of the previous state survives -/
theorem new_resets_history (s s' : State) (c : Config) : step s (.new c) = step s' (.new c) := rfl

/-- the history across a 0-RTT rejection in which stream 0 reports `Stopped` twice: its id is issued
    again after `rejected` -/
def rejectionWitness : List Op :=
  [.params ⟨100, 100, 100, 4, 4, 1000⟩, .open_ .bi, .stopSending 0 7,
   .rejected, .params ⟨100, 100, 100, 4, 4, 1000⟩, .open_ .bi, .stopSending 0 7, .poll, .poll]

def freshClient : Option State := State.new ⟨.client, 2, 2, 1000, 1000, 1000⟩

/-- per-id statements do not extend across `rejected` (which is why it counts as a restart) -/
theorem stopped_twice_across_rejection :
    (freshClient.map fun s0 => run s0 rejectionWitness) = some [.stopped 0 7, .stopped 0 7] := by decide

/-- a 0-RTT stream that was finished and fully acknowledged before the rejection: `zero_rtt_rejected`
    panics (`self.send.remove(&id).unwrap()`: the entry is gone) -/
theorem rejected_after_finished_panics :
    (freshClient.bind fun s0 => (trace s0 [.params ⟨100, 100, 100, 4, 4, 1000⟩, .open_ .bi, .finish 0,
      .transmit 1200 true, .ack 0 0 0 true]).getLast?.map fun st => step st.post .rejected) = some none := by
  decide

/-- a client opens stream 0, writes, finishes, the data is sent and acknowledged in two pieces, the
    peer's STOP_SENDING for stream 4 (second bidirectional stream) arrives twice; the application polls -/
def lifeOps : List Op :=
  [.params ⟨100, 100, 100, 4, 4, 1000⟩, .open_ .bi, .open_ .bi, .write 0 10, .finish 0,
   .transmit 1200 true, .ack 0 0 5 false, .poll, .ack 0 5 10 true, .ack 0 5 10 true,
   .stopSending 4 7, .stopSending 4 9, .poll, .poll, .poll]

example : NoRestart lifeOps := by unfold NoRestart lifeOps; decide
example : (freshClient.map fun s0 => run s0 lifeOps) = some [.finished 0, .stopped 4 7] := by decide

/-- a server: the client's bidirectional stream 0 is used (STREAM with FIN), read to the end (receiving
    half terminal, slot still held), then the server finishes its sending half and it is acknowledged:
    only that step releases the slot and issues a new stream (`max_remote` 2 -> 3); a later read reports a
    closed stream -/
def slotOps : List Op :=
  [.params ⟨100, 100, 100, 4, 4, 1000⟩, .stream 0 0 5 true, .poll, .accept .bi, .read 0 100, .finish 0,
   .transmit 1200 true, .ack 0 0 0 true, .read 0 1]

def freshServer : Option State := State.new ⟨.server, 2, 2, 1000, 1000, 1000⟩

example : (freshServer.map fun s0 => run s0 slotOps) = some [.opened .bi] := by decide
example : (freshServer.map fun s0 => run s0 [.params ⟨100, 100, 100, 4, 4, 1000⟩, .stream 0 0 5 false, .poll,
    .stream 0 5 3 false, .poll, .poll]) = some [.opened .bi, .readable 0] := by decide

example : (freshServer.map fun s0 => (trace s0 slotOps).map fun st =>
    (st.post.maxRemote.bi, st.post.allocatedRemoteCount.bi, st.out)) =
    some [(2, 2, .ok), (2, 2, .okFlag false), (2, 2, .event (.opened .bi)), (2, 2, .okNat 0),
      (2, 2, .read 5 .fin false), (2, 2, .ok), (2, 2, .xmit 3 [⟨0, 0, 0, true⟩]), (3, 2, .ok),
      (3, 2, .errClosed)] := by decide

end QM.Props.C11_hist
