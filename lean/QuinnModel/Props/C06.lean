import QuinnModel.Lemmas.StreamsC06Facts
import QuinnModel.Lemmas.StreamsC06Sum
import QuinnModel.Lemmas.StreamsRemoteLimit
/-
C06 — A receiver enforces its own limits and buffers a bounded amount (stream layer).

Decision: which transport error a STREAM / RESET_STREAM frame produces, and that a refused frame
delivers nothing.  Accounting: invariants over all operation sequences from `StreamsState::new` that do
not restart the state (`Op.isRestart`: another `new`, `rejected`)
(`ReachR c s C W U`: state `s` after any interleaving of peer frames, reads, stops, resets, window
changes and every sender-side operation; `C` = stream bytes the application consumed or discarded so
far, operation by operation as `discarded` says; `W` = largest connection receive window configured so
far; `U` = no saturating addition took effect).
-/
namespace QM.Props.C06
open QM QM.Streams

/-- data beyond the advertised stream limit -> FLOW_CONTROL_ERROR -/
theorem rcv_over_stream_limit {r : Recv} {offset len received maxData : Nat} {fin : Bool}
    {res : Except TErr (Nat × Bool × Recv)} (h : r.ingest offset len fin received maxData = some res)
    (hb : offset + len < 2 ^ 62) (hc : ¬ r.finalSizeConflict (offset + len) fin)
    (hover : offset + len > r.sentMaxStreamData) : res = .error (.flowControl "") := by
  rcases ingest_cases h with ⟨h1, _⟩ | ⟨_, h2, _⟩ | ⟨_, _, _, he⟩ | ⟨_, _, h3, _⟩
  · omega
  · exact absurd h2 hc
  · exact he
  · omega

/-- data beyond the advertised connection limit -> FLOW_CONTROL_ERROR -/
theorem rcv_over_conn_limit {r : Recv} {offset len received maxData : Nat} {fin : Bool}
    {res : Except TErr (Nat × Bool × Recv)} (h : r.ingest offset len fin received maxData = some res)
    (hb : offset + len < 2 ^ 62) (hc : ¬ r.finalSizeConflict (offset + len) fin)
    (hover : received + (offset + len - r.end_) > maxData) : res = .error (.flowControl "") := by
  rcases ingest_cases h with ⟨h1, _⟩ | ⟨_, h2, _⟩ | ⟨_, _, _, he⟩ | ⟨_, _, _, h4, _⟩
  · omega
  · exact absurd h2 hc
  · exact he
  · omega

/-- data past the known final size, or a FIN at a different size -> FINAL_SIZE_ERROR -/
theorem rcv_final_size_stream {r : Recv} {offset len received maxData fo : Nat} {fin : Bool}
    {res : Except TErr (Nat × Bool × Recv)} (h : r.ingest offset len fin received maxData = some res)
    (hb : offset + len < 2 ^ 62) (hfo : r.finalOffset = some fo)
    (hbad : offset + len > fo ∨ (fin = true ∧ offset + len ≠ fo)) : res = .error (.finalSize "") := by
  have hc : r.finalSizeConflict (offset + len) fin := Or.inl ⟨fo, hfo, hbad⟩
  rcases ingest_cases h with ⟨h1, _⟩ | ⟨_, _, he⟩ | ⟨_, h2, _⟩ | ⟨_, h2, _⟩
  · omega
  · exact he
  · exact absurd hc h2
  · exact absurd hc h2

/-- a FIN whose final size lies below data already received on the stream -> FINAL_SIZE_ERROR
    (RFC 9000 4.5), whether or not a final size was known before -/
theorem rcv_final_size_below_received {r : Recv} {offset len received maxData : Nat}
    {res : Except TErr (Nat × Bool × Recv)} (h : r.ingest offset len true received maxData = some res)
    (hb : offset + len < 2 ^ 62) (hlow : offset + len < r.end_) : res = .error (.finalSize "") := by
  have hc : r.finalSizeConflict (offset + len) true := Or.inr ⟨rfl, hlow⟩
  rcases ingest_cases h with ⟨h1, _⟩ | ⟨_, _, he⟩ | ⟨_, h2, _⟩ | ⟨_, h2, _⟩
  · omega
  · exact he
  · exact absurd hc h2
  · exact absurd hc h2

/-- RESET_STREAM with a final size different from the known one -> FINAL_SIZE_ERROR -/
theorem rcv_final_size_reset_mismatch {r : Recv} {code finalOffset received maxData fo : Nat}
    {res : Except TErr (Bool × Recv)} (h : r.reset code finalOffset received maxData = some res)
    (hfo : r.finalOffset = some fo) (hne : fo ≠ finalOffset) :
    res = .error (.finalSize "inconsistent value") := by
  rcases reset_cases h with ⟨fo', h1, _, he⟩ | ⟨h1, _⟩ | ⟨h1, _⟩ | ⟨h1, _⟩
  · exact he
  · rw [hfo] at h1; contradiction
  · simp [Recv.resetSizeErr, hfo, hne] at h1
  · simp [Recv.resetSizeErr, hfo, hne] at h1

/-- RESET_STREAM with a final size below the high-water mark -> FINAL_SIZE_ERROR -/
theorem rcv_final_size_reset_below {r : Recv} {code finalOffset received maxData : Nat}
    {res : Except TErr (Bool × Recv)} (h : r.reset code finalOffset received maxData = some res)
    (hfo : r.finalOffset = none) (hlow : r.end_ > finalOffset) :
    res = .error (.finalSize "lower than high water mark") := by
  rcases reset_cases h with ⟨fo', h1, _⟩ | ⟨_, _, he⟩ | ⟨h1, _⟩ | ⟨h1, _⟩
  · rw [hfo] at h1; contradiction
  · exact he
  · simp [Recv.resetSizeErr, hfo, hlow] at h1
  · simp [Recv.resetSizeErr, hfo, hlow] at h1

/-- a peer stream beyond the advertised stream count -> STREAM_LIMIT_ERROR (STREAM and RESET_STREAM) -/
theorem rcv_stream_id_over_limit {s : State} {id : Nat} (hr : sidInitiator id ≠ s.side)
    (hi : s.maxRemote.get (sidDir id) ≤ sidIndex id) :
    (∀ off len fin, s.received id off len fin = some (s, .error .streamLimit)) ∧
    (∀ code fo, s.receivedReset id code fo = some (s, .error .streamLimit)) := by
  have hv : s.validateReceiveId id = some .streamLimit := by
    unfold State.validateReceiveId
    have : ¬ s.side = sidInitiator id := fun h => hr h.symm
    simp only [this, ↓reduceIte]
    split
    · rfl
    · omega
  exact ⟨fun _ _ _ => by unfold State.received; rw [hv], fun _ _ => by unfold State.receivedReset; rw [hv]⟩

/-- MAX_STREAM_DATA naming a peer-initiated bidirectional stream at or beyond the advertised stream
    count -> STREAM_LIMIT_ERROR, nothing changes (in particular no stream is opened implicitly) -/
theorem rcv_max_stream_data_over_limit {s : State} {id n : Nat} (hr : sidInitiator id ≠ s.side)
    (hd : sidDir id = .bi) (hi : s.maxRemote.get (sidDir id) ≤ sidIndex id) :
    s.receivedMaxStreamData id n = some (s, some .streamLimit) := by
  unfold State.receivedMaxStreamData
  have h1 : (decide (sidInitiator id ≠ s.side) && sidDir id == Dir.uni) = false := by simp [hd]
  have h2 : (Gen.maxsdChecksRemoteLimit && decide (sidInitiator id ≠ s.side) &&
      decide (sidIndex id ≥ s.maxRemote.get (sidDir id))) = true := by
    simp only [Gen.maxsdChecksRemoteLimit, Bool.true_and, Bool.and_eq_true, decide_eq_true_eq]
    exact ⟨hr, hi⟩
  simp only [h1, h2, Bool.false_eq_true, ↓reduceIte]

/-- the connection-level entry point reports exactly the verdict of the stream's `ingest` -/
theorem rcv_received_follows_ingest {s s' : State} {id off len : Nat} {fin : Bool} {rs : Recv} {e : TErr}
    (hv : s.validateReceiveId id = none) (hf : s.recv.find? id = some (some rs)) (hrcv : rs.isReceiving = true) :
    s.received id off len fin = some (s', .error e) ↔
      (s' = s ∧ rs.ingest off len fin s.dataRecvd s.localMaxData = some (.error e)) := by
  have hg : s.getOrInsertRecv id = some (rs, s) := by simp only [State.getOrInsertRecv, hf]
  constructor
  · intro h
    rcases received_error h with ⟨_, hv'⟩ | ⟨rs', hg', hing⟩
    · rw [hv] at hv'; cases hv'
    · cases hg.symm.trans hg'; exact ⟨rfl, hing⟩
  · rintro ⟨rfl, hing⟩
    unfold State.received
    simp only [hv, hg, hrcv, Bool.not_true, Bool.false_eq_true, ↓reduceIte, hing]

/-- a STREAM frame beyond the advertised stream limit is FLOW_CONTROL_ERROR and changes nothing in EVERY
    state of a receiving half — open or STOPPED by the application (no hypothesis on `stopped`), with or
    without a known final size (as long as the frame does not also break the final size) -/
theorem rcv_stream_beyond_limit_any_half {s : State} {id off len : Nat} {fin : Bool} {rs : Recv}
    (hv : s.validateReceiveId id = none) (hf : s.recv.find? id = some (some rs)) (hrcv : rs.isReceiving = true)
    (hb : off + len < 2 ^ 62) (hc : ¬ rs.finalSizeConflict (off + len) fin)
    (hover : off + len > rs.sentMaxStreamData) :
    s.received id off len fin = some (s, .error (.flowControl "")) := by
  have hing : rs.ingest off len fin s.dataRecvd s.localMaxData = some (.error (.flowControl "")) := by
    have hfe : rs.finalSizeErr (off + len) fin = false := by
      cases h : rs.finalSizeErr (off + len) fin
      · rfl
      · exact absurd ((finalSizeErr_iff _ _ _).mp h) hc
    unfold Recv.ingest Recv.ingestTail Recv.creditConsumedBy
    simp only [Gen.ingestEndBound, Gen.creditOverStream, hfe]
    have h1 : ¬ (off + len ≥ 2 ^ 62) := by omega
    simp [h1, hover]
  exact (rcv_received_follows_ingest hv hf hrcv).mpr ⟨rfl, hing⟩

/-- a refused frame delivers nothing: accounting and every receiving half are unchanged
    (the addressed half may have been instantiated, empty) -/
theorem no_delivery_after_error {s s' : State} {id off len : Nat} {fin : Bool} {e : TErr}
    (h : s.received id off len fin = some (s', .error e)) :
    s'.rcore = s.rcore ∧ ∀ k r, s'.rv k = some r → s.rv k = some r ∨ r = Recv.new s.streamReceiveWindow :=
  lookup_no_delivery ((received_error h).imp And.left fun ⟨rs, hg, _⟩ => ⟨rs, hg⟩)

theorem no_delivery_after_reset_error {s s' : State} {id code fo : Nat} {e : TErr}
    (h : s.receivedReset id code fo = some (s', .error e)) :
    s'.rcore = s.rcore ∧ ∀ k r, s'.rv k = some r → s.rv k = some r ∨ r = Recv.new s.streamReceiveWindow :=
  lookup_no_delivery (receivedReset_error h)

/-- `data_recvd` never exceeds the advertised connection limit -/
theorem rcv_data_recvd_le {c : Config} {s : State} {C W : Nat} {U : Prop} (r : ReachR c s C W U)
    (hc : c.receiveWindow < 2 ^ 62) : s.dataRecvd ≤ s.localMaxData :=
  (reachR_inv r hc).1.recvd_le

/-- per stream: high-water mark ≤ advertised stream limit ≤ bytes read + stream window; so at most
    `stream_receive_window` received-but-unread bytes per stream -/
theorem rcv_stream_bound {c : Config} {s : State} {C W : Nat} {U : Prop} (r : ReachR c s C W U)
    (hc : c.receiveWindow < 2 ^ 62) (id : Nat) (rs : Recv) (hf : s.recv.find? id = some (some rs)) :
    rs.end_ ≤ rs.sentMaxStreamData ∧ rs.sentMaxStreamData ≤ rs.assembler.bytesRead + s.streamReceiveWindow ∧
    rs.assembler.bytesRead ≤ rs.end_ ∧ rs.end_ - rs.assembler.bytesRead ≤ s.streamReceiveWindow := by
  have ok := (reachR_inv r hc).1.streams id rs (rv_eq_some.mpr hf)
  have h1 := ok.end_le
  have h2 : rs.sentMaxStreamData ≤ rs.assembler.bytesRead + s.streamReceiveWindow := ok.sent_le
  exact ⟨h1, h2, ok.read_le, by omega⟩

/-- once the final size of a stream is known (FIN or RESET_STREAM), nothing was received beyond it,
    nothing beyond it is buffered, and the application was handed no byte beyond it: in every
    reachable state `bytes_read ≤ end ≤ final size` and every buffered range ends at or below it -/
theorem rcv_final_size_bounds_stream {c : Config} {s : State} {C W : Nat} {U : Prop} (r : ReachR c s C W U)
    (hc : c.receiveWindow < 2 ^ 62) (id : Nat) (rs : Recv) (hf : s.recv.find? id = some (some rs))
    (fo : Nat) (hfo : rs.finalOffset = some fo) :
    rs.end_ ≤ fo ∧ rs.assembler.bytesRead ≤ fo ∧ ∀ a b, (a, b) ∈ rs.assembler.buf → b ≤ fo := by
  have ok := (reachR_inv r hc).1.streams id rs (rv_eq_some.mpr hf)
  have h1 := ok.fin_le fo hfo
  have h2 := ok.read_le
  exact ⟨h1, by omega, fun a b hab => Nat.le_trans (ok.buf_le a b hab) h1⟩

/-- credit is issued only for consumed or discarded data: what is advertised beyond the configured
    window (plus shrinks that are still to be applied) equals the bytes consumed or discarded -/
theorem credit_only_for_consumed {c : Config} {s : State} {C W : Nat} {U : Prop} (r : ReachR c s C W U)
    (hc : c.receiveWindow < 2 ^ 62) (u : U) :
    s.localMaxData = s.receiveWindow + s.receiveWindowShrinkDebt + C :=
  (reachR_inv r hc).2 u

/-- the amount of received-but-unconsumed data (`data_recvd` counts gaps, so this bounds what is
    buffered) never exceeds the largest connection receive window that was ever configured -/
theorem rcv_buffered_bound {c : Config} {s : State} {C W : Nat} {U : Prop} (r : ReachR c s C W U)
    (hc : c.receiveWindow < 2 ^ 62) (u : U) : s.dataRecvd ≤ W + C := by
  have h1 := rcv_data_recvd_le r hc
  have h2 := credit_only_for_consumed r hc u
  have h3 := (reachR_all r hc).window
  omega

/-- the same bound without the ghost: over any set of distinct streams, the bytes received and not
    yet read on the halves the application can still read from (neither stopped nor reset) never
    exceed the largest connection receive window that was ever configured.  (`unread` and `unreadOn`
    are plain functions of the state; the per-operation definition of "consumed or discarded" behind
    `C` is tied to them by `reachR_kinv`: `C + unread ≤ data_recvd`.) -/
theorem rcv_unread_bound {c : Config} {s : State} {C W : Nat} {U : Prop} (r : ReachR c s C W U)
    (hc : c.receiveWindow < 2 ^ 62) (u : U) (ids : List Nat) (hn : ids.Nodup) :
    s.unreadOn ids ≤ W := by
  have h1 := rcv_buffered_bound r hc u
  have h2 := (reachR_kinv r hc).2 ids hn
  omega

/-- a reset half holds no buffered data any more (`Recv::reset` clears the assembler), in every
    reachable state -/
theorem rcv_reset_clears_buffer {c : Config} {s : State} {C W : Nat} {U : Prop} (r : ReachR c s C W U)
    (hc : c.receiveWindow < 2 ^ 62) (id : Nat) (rs : Recv) (hf : s.recv.find? id = some (some rs))
    (hr : rs.isReceiving = false) : rs.assembler.buf = [] :=
  (reachR_kinv r hc).1 id rs (rv_eq_some.mpr hf) hr

/-- the F12 history (shrink to 0, expand to 2522): the expansion cancels the unpaid debt, so
    the 2555-byte frame is refused -/
theorem rcv_window_regression_F12 :
    ((State.new F12_config).bind fun s0 => runR s0 0 F12_config.receiveWindow F12_ops).map
      (fun r => (r.1.dataRecvd, r.1.localMaxData, r.1.receiveWindow, r.1.receiveWindowShrinkDebt, r.2.2)) =
      some (0, 2522, 2522, 0, 2522) := by decide

/-- the F14 history (reset of a stream that was stopped before): the bytes credited by `stop`
    are not credited again, so the 39-byte frame on the other stream is refused -/
theorem rcv_window_regression_F14 :
    ((State.new F14_config).bind fun s0 => runR s0 0 F14_config.receiveWindow F14_ops).map
      (fun r => (r.1.dataRecvd, r.1.localMaxData, r.2.1, r.2.2)) = some (14, 39, 14, 25) := by decide

/-- the F15 history (stop of a stream that was reset before): the bytes credited on arrival
    of the reset are not credited again by `stop`, so the 118-byte frame on the other stream is
    refused -/
theorem rcv_window_regression_F15 :
    ((State.new F15_config).bind fun s0 => runR s0 0 F15_config.receiveWindow F15_ops).map
      (fun r => (r.1.dataRecvd, r.1.localMaxData, r.2.1, r.2.2)) = some (59, 118, 59, 59) := by decide

/-- the maxsd-beyond-limit history (corpus/streams/maxsd-beyond-limit.ops): a client that advertised
    no peer-initiated streams receives MAX_STREAM_DATA for the server's bidirectional stream 1000:
    STREAM_LIMIT_ERROR, no stream is opened (`next_remote` stays 0), `accept` hands out nothing -/
theorem rcv_regression_maxsd_beyond_limit :
    ((State.new ⟨.client, 0, 0, 100, 100, 100⟩).bind fun s0 =>
      runR s0 0 100 [.params ⟨100, 100, 100, 2, 2, 100⟩, .maxStreamData 4001 5, .poll, .accept .bi]).map
      (fun r => (r.1.nextRemote, r.1.maxRemote, r.1.opened, (r.1.accept .bi).2)) =
      some (⟨0, 0⟩, ⟨0, 0⟩, ⟨false, false⟩, none) ∧
    ((State.new ⟨.client, 0, 0, 100, 100, 100⟩).bind fun s0 => step s0 (.maxStreamData 4001 5)).map (·.2) =
      some (.errT .streamLimit) := by decide

/-- the fin-below-received history (corpus/streams/fin-below-received.ops): 100 bytes received, then a
    FIN announcing final size 50: FINAL_SIZE_ERROR, the stream keeps no final size and its 100 bytes -/
theorem rcv_regression_fin_below_received :
    ((State.new ⟨.server, 2, 2, 1000, 1000, 1000⟩).bind fun s0 =>
      (step s0 (.stream 0 0 100 false)).bind fun r1 => step r1.1 (.stream 0 0 50 true)).map
      (fun r => (r.2, (r.1.rv 0).map fun x => (x.finalOffset, x.end_))) =
      some (.errT (.finalSize ""), some (none, 100)) := by decide

/-- a duplicate RESET_STREAM (retransmission: same stream, same final size, the stream is already
    reset) is a no-op: `Ok`, no state change, in every state and whatever the connection-level credit
    is — in particular never FLOW_CONTROL_ERROR. (`validateReceiveId = none`: the id is one the peer may
    use; it was when the first RESET_STREAM was accepted, and limits only grow.) -/
theorem rcv_duplicate_reset_is_noop {s : State} {id code fo c : Nat} {rs : Recv}
    (hv : s.validateReceiveId id = none) (hf : s.recv.find? id = some (some rs))
    (hst : rs.state = .resetRecvd fo c) : s.receivedReset id code fo = some (s, .ok false) := by
  have hg : s.getOrInsertRecv id = some (rs, s) := by simp [State.getOrInsertRecv, hf]
  have hr : rs.reset code fo s.dataRecvd s.localMaxData = some (.ok (false, rs)) := by
    unfold Recv.reset Recv.resetSizeErr Recv.resetTail
    simp [Recv.finalOffset, Recv.isReceiving, hst, Gen.resetDuplicateBeforeCredit]
  unfold State.receivedReset
  simp only [hv, hg, hr]

/-- the duplicate-reset history (corpus/streams/dup-reset.ops): window 16 shrunk to 0 (16 of debt), a
    RESET_STREAM with final size 9 (its credit pays debt), the same RESET_STREAM again: accepted, nothing
    changes -/
theorem rcv_regression_duplicate_reset :
    ((State.new ⟨.server, 2, 2, 1000, 16, 16384⟩).bind fun s0 =>
      (runR s0 0 16 [.params ⟨100, 100, 100, 2, 2, 1000⟩, .recvWindow 0, .rst 0 1 9]).bind fun r1 =>
        (step r1.1 (.rst 0 1 9)).map fun r2 => (r2.2, decide (r2.1 = r1.1), r1.1.dataRecvd, r1.1.localMaxData)) =
      some (.okFlag false, true, 9, 16) := by decide

/-- MAX_STREAMS announcement threshold (`queue_max_stream_id`): a raise of the peer-stream limit is
    announced once it reaches an eighth of the concurrency limit, and every raise when the limit is
    below 16 (audit SD-24: with `>` a raise by one was never announced for limits 8 to 15, nor two
    freed streams out of 16, and the peer could not open the streams it was entitled to) -/
theorem max_streams_raise_announced {diff count : Nat} (h1 : 0 < diff) (h2 : count / 8 ≤ diff) :
    Gen.maxStreamsSignificant diff count = true := by
  simp only [Gen.maxStreamsSignificant, Bool.and_eq_true, decide_eq_true_eq]; exact ⟨h1, h2⟩

theorem max_streams_small_limits_always_announced {diff count : Nat} (h1 : 0 < diff) (hc : count < 16) :
    Gen.maxStreamsSignificant diff count = true :=
  max_streams_raise_announced h1 (by omega)

example : Gen.maxStreamsSignificant 1 9 = true ∧ Gen.maxStreamsSignificant 2 16 = true ∧
    Gen.maxStreamsSignificant 0 4 = false ∧ Gen.maxStreamsSignificant 3 32 = false := by decide

/-- no frame of any type (STREAM, RESET_STREAM, STOP_SENDING, MAX_STREAM_DATA, ...) and no other
    operation makes the number of peer-initiated streams opened so far exceed what was advertised:
    `next_remote[dir] ≤ max_remote[dir]` in every reachable state, for both directions -/
theorem rcv_remote_streams_within_limit {c : Config} {s : State} {C W : Nat} {U : Prop}
    (r : ReachR c s C W U) (d : Dir) : s.nextRemote.get d ≤ s.maxRemote.get d :=
  (reachR_rl r).opened_le d

/-- every peer-initiated entry of the `send` map lies below the advertised count (entries are created
    together with the limit), which is why a frame that finds such an entry cannot open too much -/
theorem rcv_remote_entries_within_limit {c : Config} {s : State} {C W : Nat} {U : Prop}
    (r : ReachR c s C W U) (id : Nat) (v : Option Send) (hf : s.send.find? id = some v)
    (hr : sidInitiator id ≠ s.side) : sidIndex id < s.maxRemote.get (sidDir id) :=
  (reachR_rl r).keys_lt id (Map.find_mem _ _ _ hf) hr

/-- `accept` hands out the peer's streams in index order, one new index per call, and every index it
    hands out is below the advertised count: at most `max_remote[dir]` ids in total -/
theorem rcv_accept_within_limit {c : Config} {s s' : State} {C W : Nat} {U : Prop}
    (r : ReachR c s C W U) {d : Dir} {id : Nat} (h : s.accept d = (s', some id)) :
    id = sidNew s.side.not d (s.nextReportedRemote.get d) ∧
    s'.nextReportedRemote.get d = s.nextReportedRemote.get d + 1 ∧
    sidIndex id < s.maxRemote.get d ∧ s'.nextReportedRemote.get d ≤ s.maxRemote.get d := by
  obtain ⟨h1, h2, h3⟩ := accept_some h
  have i := reachR_rl r
  have a := i.opened_le d
  have b := i.reported_le d
  refine ⟨h1, h3, ?_, ?_⟩
  · rw [h1, sidIndex_sidNew]; omega
  · omega

/-- new stream-count credit is issued by `stream_freed` only once both halves of a peer stream are
    gone (a unidirectional stream has one) -/
theorem max_streams_only_after_close {s s' : State} {id : Nat} {half : Half}
    (h : s.freeRemote id half = some s') (hne : s'.maxRemote ≠ s.maxRemote) :
    sidInitiator id ≠ s.side ∧ s.fullyFree id half = true := by
  unfold State.freeRemote at h
  by_cases hr : sidInitiator id ≠ s.side
  · rw [if_pos hr] at h
    by_cases hff : s.fullyFree id half = true
    · exact ⟨hr, hff⟩
    · rw [if_neg hff] at h
      simp only [Option.some.injEq] at h
      subst h; exact absurd rfl hne
  · rw [if_neg hr] at h
    simp only [Option.some.injEq] at h
    subst h; exact absurd rfl hne

-- non-vacuity: a reachable state in which data was received, partly read, and credit was issued
example : ∃ s C W U, ReachR ⟨.server, 2, 2, 1000, 100, 50⟩ s C W U ∧ U ∧ s.dataRecvd = 30 ∧ C = 10 ∧
    s.localMaxData = 110 ∧ s.unreadOn [0] = 20 := by
  have h0 : State.new ⟨.server, 2, 2, 1000, 100, 50⟩ = some ((State.new ⟨.server, 2, 2, 1000, 100, 50⟩).get (by decide)) :=
    (Option.some_get _).symm
  have hrun : runR ((State.new ⟨.server, 2, 2, 1000, 100, 50⟩).get (by decide)) 0 100
      [.stream 0 0 10 false, .stream 0 20 10 true, .read 0 100] =
      some ((runR ((State.new ⟨.server, 2, 2, 1000, 100, 50⟩).get (by decide)) 0 100
        [.stream 0 0 10 false, .stream 0 20 10 true, .read 0 100]).get (by decide)) := (Option.some_get _).symm
  obtain ⟨U', r', hU⟩ := reachR_runR _ (ReachR.init h0) (by decide) hrun (by decide)
  exact ⟨_, _, _, U', r', hU trivial, by decide, by decide, by decide, by decide⟩

-- non-vacuity: the bound is reached (a server that advertised 2 bidirectional streams receives data
-- on the second one: both count as opened), and one more is refused
example : ((State.new ⟨.server, 2, 2, 1000, 100, 50⟩).bind fun s0 =>
      runR s0 0 100 [.stream 4 0 1 false, .stream 8 0 1 false]).map
      (fun r => (r.1.nextRemote.get .bi, r.1.maxRemote.get .bi)) = some (2, 2) := by decide

end QM.Props.C06
