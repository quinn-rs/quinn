import QuinnModel.Lemmas.TokenFlow
/-
C14, last clause, at CONNECTION level: "client-side token stores hand out each stored token at most once",
over "all histories of token issue/use/reuse across connections … and the in-memory token cache with any capacity"
(RFC 9000 8.1.3: a client MUST NOT reuse a token).

Model: Conn/TokenFlow.lean — one application, the model of `TokenMemoryCache` (Endpoint/TokenCache.lean, any
capacity), any number of connection attempts; events `connect` (the store's `take`), `sendInitial`, `retry`,
`newToken` (the store's `insert`), `initialKeysDiscarded`, `ended` (timeout, refusal, version negotiation, close,
reset, drop: NO access to the store).  That the code has no other access is the T1 anchor
`Gen.tokenStoreSitesShape` / `Gen.clientTokenWritersShape` (tools/gen.d/tokflow.py).

Hypothesis of every theorem: the tokens servers hand to this client (NEW_TOKEN frames, Retry packets) are pairwise
distinct (`(issued evs).Nodup`) — every token ends in a fresh 128-bit nonce (`Token::new`).  Without it the
statement is false for reasons outside the client (a server sending one token twice).
-/
namespace QM.Props.C14_flow
open QM.TokenFlow

/-- Over ALL histories and all cache capacities: nothing panics, and every token is in the Initial packets of at
    most one connection attempt — whatever way the attempts end (timeout with no server packet, refusal, version
    negotiation, Retry then silence, local close, …) and however often Initials are retransmitted. -/
theorem presented_at_most_once {α : Type} [DecidableEq α] (maxNames maxTokens : Nat) (evs : List (Ev α))
    (hfresh : (issued evs).Nodup) :
    ∃ s, run (init maxNames maxTokens) evs = some s ∧
      ∀ i j t, (i, t) ∈ s.wire → (j, t) ∈ s.wire → i = j := by
  obtain ⟨s, hs, hi⟩ := run_inv evs (init maxNames maxTokens) [] (init_inv _ _) hfresh
  exact ⟨s, hs, hi.once⟩

/-- a client presents only what servers gave it: every token in an Initial came in a NEW_TOKEN frame or a Retry -/
theorem presented_was_issued {α : Type} [DecidableEq α] (maxNames maxTokens : Nat) (evs : List (Ev α))
    (hfresh : (issued evs).Nodup) :
    ∃ s, run (init maxNames maxTokens) evs = some s ∧ ∀ i t, (i, t) ∈ s.wire → t ∈ issued evs := by
  obtain ⟨s, hs, hi⟩ := run_inv evs (init maxNames maxTokens) [] (init_inv _ _) hfresh
  exact ⟨s, hs, fun i t h => (hi.wire i t h).issued⟩

/-- the store and the attempts never share a token: a token that is still stored is carried by no attempt and was
    never on the wire; a token an attempt carries is carried by that attempt alone; a token that was on the wire can
    only be carried by the attempt that sent it -/
theorem stored_tokens_are_unused {α : Type} [DecidableEq α] (maxNames maxTokens : Nat) (evs : List (Ev α))
    (hfresh : (issued evs).Nodup) :
    ∃ s, run (init maxNames maxTokens) evs = some s ∧
      (∀ j t, holds s.attempts j t → t ∉ TokenCache.allToks s.cache.lru ∧ ∀ k, holds s.attempts k t → k = j) ∧
      (∀ i t, (i, t) ∈ s.wire → t ∉ TokenCache.allToks s.cache.lru ∧ ∀ k, holds s.attempts k t → k = i) := by
  obtain ⟨s, hs, hi⟩ := run_inv evs (init maxNames maxTokens) [] (init_inv _ _) hfresh
  refine ⟨s, hs, fun j t h => ?_, fun i t h => ?_⟩
  · exact ⟨List.count_eq_zero.mp (hi.held j t h).notCached, (hi.held j t h).unique⟩
  · exact ⟨List.count_eq_zero.mp (hi.wire i t h).notCached, (hi.wire i t h).unique⟩

/-- the end of an attempt — any end — leaves the store, the other attempts and the wire as they are -/
theorem attempt_end_leaves_store_alone {α : Type} (s : St α) (i : Nat) (how : End) :
    step s (.ended i how) = some s := rfl

/-! `stepReinsert` is `step` with one difference, the seeded change seeded/C14c-token-reinserted-on-timeout: an attempt
that ends by idle timeout puts its token back into the store.  With it the property is false. -/

def stepReinsert (s : St Nat) : Ev Nat → Option (St Nat)
  | .ended i .idleTimeout =>
    match s.attempts[i]? with
    | some ⟨n, some t⟩ =>
      match TokenCache.store s.cache n t with
      | none => none
      | some c => some { s with cache := c }
    | _ => some s
  | e => step s e

def runReinsert (s : St Nat) : List (Ev Nat) → Option (St Nat)
  | [] => some s
  | e :: es => match stepReinsert s e with
    | none => none
    | some s' => runReinsert s' es

/-- one earlier connection stored token 7; attempt 1 takes it, sends it, times out; attempt 2 gets it again -/
def reinsertWitness : List (Ev Nat) :=
  [.connect "localhost", .newToken 0 7, .connect "localhost", .sendInitial 1, .ended 1 .idleTimeout,
   .connect "localhost", .sendInitial 2]

theorem reinsert_on_timeout_presents_twice :
    (issued reinsertWitness).Nodup ∧
    (runReinsert (init 256 2) reinsertWitness).map (·.wire) = some [(1, 7), (2, 7)] := by decide

-- the same history on the real step function: attempt 2 finds the store empty
example : (run (init 256 2) reinsertWitness).map (·.wire) = some [(1, 7)] := by decide

-- non-vacuity: two names, capacity 1 x 2, Retry in attempt 1, overflow of the per-name queue, eviction of a name,
-- an attempt that dies before sending anything; six Initials, every token with one attempt only
example : (run (init 1 2 : St Nat)
    [.connect "a", .newToken 0 1, .newToken 0 2, .newToken 0 3, .connect "a", .sendInitial 1, .retry 1 10,
     .sendInitial 1, .sendInitial 1, .ended 1 .handshakeTimeout, .connect "a", .ended 2 .dropped, .connect "b",
     .newToken 3 4, .connect "a", .connect "b", .sendInitial 5, .initialKeysDiscarded 5, .sendInitial 5,
     .sendInitial 0]).map (·.wire) = some [(1, 2), (1, 10), (1, 10), (5, 4)] := by decide

end QM.Props.C14_flow
