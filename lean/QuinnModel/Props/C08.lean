import QuinnModel.Lemmas.Lifecycle
/-
C08 — Every connection terminates cleanly and exactly once.
Model: QuinnModel/Conn/Lifecycle.lean (state, error, close flag, Close/Idle timers, ghost counters of
ConnectionLost reports and Drained notifications) over ALL histories of close(), packet errors, peer closes,
timeouts, polls.  `WD` = the endpoint stops routing packets to a connection once it has drained.
-/
namespace QM.Props.C08
open QM QM.Life

/-- the final endpoint notification (Drained) is emitted at most once over every history … -/
theorem drained_notified_at_most_once (evs : List Ev) (hw : WD init evs) : (run init evs).drainedEv ≤ 1 := by
  rw [(run_inv evs init init_inv hw).drainedCount]; split <;> omega

/-- … and exactly once precisely when the connection is drained -/
theorem drained_notified_iff_drained (evs : List Ev) (hw : WD init evs) :
    (run init evs).st = .drained ↔ (run init evs).drainedEv = 1 := by
  rw [(run_inv evs init init_inv hw).drainedCount]
  constructor
  · intro hd; rw [if_pos hd]
  · intro h1; by_cases hd : (run init evs).st = .drained
    · exact hd
    · rw [if_neg hd] at h1; cases h1

/-- once closed at `now` (3·PTO = pto3), whatever happens next the close timer stays at `now + pto3` until the
    connection is drained … -/
theorem closing_deadline_kept (l : L) (hi : Inv l) (ho : l.st.isClosed = false) (now pto3 : Nat) (evs : List Ev)
    (hw : WD (step l (.close now pto3)) evs) :
    Closing (now + pto3) (run (step l (.close now pto3)) evs) :=
  run_closing _ evs _ hw (by rw [step_open ho]; exact .inr ⟨.inl rfl, rfl⟩)

/-- … and servicing timers at or after that deadline drains it: drained within three probe timeouts -/
theorem drained_within_3pto (d now : Nat) (l : L) (hi : Inv l) (h : Closing d l) (hn : d ≤ now) :
    (step l (.timeout now)).st = .drained :=
  timeout_drains d now l h hn

/-- a drained connection stays drained and `poll_transmit` produces nothing for it -/
theorem no_output_after_drain (evs : List Ev) (l : L) (hi : Inv l) (hw : WD l evs) (hd : l.st = .drained) :
    (run l evs).st = .drained ∧ transmitsClose (run l evs) = false := by
  have h := drained_absorbing evs l hw hd
  exact ⟨h, by simp [transmitsClose, h]⟩

/-- FULL statement: the reason is reported to the application at most once over every history. -/
def lost_at_most_once_statement : Prop := ∀ evs : List Ev, (run init evs).lost ≤ 1

/-- witness: the peer closes, the application polls the reason, then a stateless reset arrives while
    draining and is reported again -/
def lost_twice_witness : List Ev :=
  [.established, .peerClose 10 30, .poll, .pktErr .toDrained 20 30 true, .poll]

/-- the code as it is (a stateless reset sets `error` again in closed states, see Props/C08_closed.lean) violates the
    full statement -/
theorem lost_at_most_once_counterexample : ¬ lost_at_most_once_statement := by
  intro h
  have := h lost_twice_witness
  revert this
  decide

/-- PARTIAL: over every history in which no packet error is processed after the connection is closed, the
    reason is reported at most once (and nothing is reported while the connection is open).
    Missing for the full statement: errors arriving in closed states (known findings `lost-reported-twice:*`,
    `lost-after-local-close:reset`). -/
theorem lost_at_most_once_partial (evs : List Ev) (h : NoLateErr init evs) : (run init evs).lost ≤ 1 :=
  Nat.le_trans (Nat.le_add_right _ _) (run_lost evs init init_lost h).atMostOne

/-- PARTIAL: after a local close of an open connection nothing is reported at the protocol layer, over every
    continuation without late packet errors -/
theorem local_close_reports_nothing_partial (l : L) (hl : LostInv l) (ho : l.st.isClosed = false) (now pto3 : Nat)
    (evs : List Ev) (h : NoLateErr (step l (.close now pto3)) evs) :
    (run (step l (.close now pto3)) evs).lost = 0 ∧ (run (step l (.close now pto3)) evs).error = false :=
  (run_silent evs _ (by rw [step_open ho]; exact ⟨rfl, hl.openClean ho, rfl⟩) h).quiet

/-- witness for the local-close half: close(), then a stateless reset -/
def lost_after_local_close_witness : List Ev := [.established, .close 10 30, .pktErr .toDrained 20 30 true, .poll]
theorem local_close_reports_nothing_counterexample : (run init lost_after_local_close_witness).lost = 1 := by decide

/-- the closing packet is not gated by congestion control or pacing (the generated flag records that the source
    still clears `ack_eliciting` when a close is pending) -/
theorem close_not_cc_gated (queued : Bool) (lossProbes : Nat) (ccBlocked pacingBlocked : Bool) :
    sendsDatagram true queued lossProbes false ccBlocked pacingBlocked = true := by
  simp [sendsDatagram, show Gen.closeClearsAckEliciting = true from rfl]

/-- close() of an open connection owes a CONNECTION_CLOSE packet at once -/
theorem close_owes_packet (l : L) (ho : l.st.isClosed = false) (now pto3 : Nat) :
    transmitsClose (step l (.close now pto3)) = true := by
  rw [step_open ho]; rfl

example : WD init [.established, .authed 5 1000, .close 10 30, .pollTransmit, .timeout 40, .poll] := by
  simp [WD, step, init, St.isClosed, stopTimers, fireIdle, fireClose, Ev.isPacket]
example : (run init [.established, .authed 5 1000, .close 10 30, .pollTransmit, .timeout 40, .poll]).st = .drained := by decide
example : NoLateErr init [.established, .pktErr .toClosed 7 30 true, .poll, .timeout 50] := by
  simp [NoLateErr, step, init, St.isClosed]

end QM.Props.C08
