import QuinnModel.Lemmas.Path
/-
C15 — Path migration keeps the connection and cannot be hijacked.
Model: QuinnModel/Conn/Path.lean (current path, remembered previous path, challenge tokens, PathValidation
timer) over ALL histories of authenticated packets from any address, PATH_RESPONSEs and timeouts.
The anti-amplification limit on the unvalidated new path is C07 (`Props/C07.lean`, event `migrate`).
-/
namespace QM.Props.C15
open QM QM.PathM

/-- clients, and servers with migration disabled, ignore packets from any other address: over every history
    the path never changes -/
theorem ignored_unless_may_migrate (a : Nat) (evs : List Ev) :
    (run (init a false) evs).path.addr = a ∧ (run (init a false) evs).path.validated = true := by
  rw [run_init_noMigrate]; exact ⟨rfl, rfl⟩

/-- the path changes only on a non-probing packet carrying the highest packet number, from another address -/
theorem migrate_only_on_trigger (s : S) (src now ptoNew ptoOld tok tok2 : Nat) :
    (step s (.pkt src false now ptoNew ptoOld tok tok2)).path = s.path :=
  step_elim (P := fun s' => s'.path = s.path) s _ rfl (fun _ _ _ _ _ _ => nofun) (fun _ => nofun) (fun _ _ => nofun)

/-- a freshly migrated-to path is unvalidated, carries a pending challenge, and the validation timer is armed
    THREE probe timeouts ahead, the probe timeout being the larger of the new path's and the old path's
    (`Spec`: the constant 3 and the max are written here; the model takes its factor from the source) -/
theorem new_path_unvalidated (s : S) (src now ptoNew ptoOld tok tok2 : Nat) (hm : s.mayMigrate = true) (hs : src ≠ s.path.addr) :
    let s' := step s (.pkt src true now ptoNew ptoOld tok tok2)
    s'.path.addr = src ∧ s'.path.validated = false ∧ s'.path.challenge = some tok ∧
      s'.timer = some (now + 3 * max ptoNew ptoOld) :=
  migrate_deadline_3pto s src now ptoNew ptoOld tok tok2 hm hs

/-- "returns to the previous path within three probe timeouts": after a migration at `now`, over EVERY
    continuation in which no further migration is triggered (any packets, responses with any tokens, timer
    services at any instants), servicing the timer at or after `now + 3·max(PTO new, PTO old)` finds the connection
    on a validated path: the new one if it was validated in between, otherwise the previous one -/
theorem held_at_most_3pto (s : S) (hi : Inv s) (src now ptoNew ptoOld tok tok2 : Nat) (hm : s.mayMigrate = true)
    (hs : src ≠ s.path.addr) (evs : List Ev) (hn : ∀ e ∈ evs, NotTrigger e) (t : Nat)
    (ht : now + 3 * max ptoNew ptoOld ≤ t) :
    (step (run (step s (.pkt src true now ptoNew ptoOld tok tok2)) evs) (.timeout t)).path.validated = true :=
  PathM.held_at_most_3pto s hi src now ptoNew ptoOld tok tok2 hm hs evs hn t ht

/-- a path becomes validated only by a PATH_RESPONSE echoing its own challenge, arriving from its own address
    (or by returning to the previously validated path) -/
theorem validated_only_by_matching_response (s : S) (e : Ev) (hi : Inv s)
    (hv : (step s e).path.validated = true) (hu : s.path.validated = false) :
    (∃ tok, e = .response s.path.addr tok ∧ s.path.challenge = some tok) ∨
    (∃ now p, e = .timeout now ∧ s.prev = some p ∧ (step s e).path.addr = p.addr) := by
  obtain ⟨⟨p, hp⟩, _⟩ := hi.fallback hu
  revert hv
  refine step_elim (P := fun s' => s'.path.validated = true → _ ∨ ∃ now p, e = .timeout now ∧ s.prev = some p ∧ s'.path.addr = p.addr)
    s e (fun hv => ?_) (fun _ _ _ _ _ _ _ _ _ => nofun) (fun tok he hc _ => .inl ⟨tok, he, hc⟩)
    (fun now t he _ _ _ => .inr ⟨now, p, he, hp, by rw [hp]⟩)
  rw [hu] at hv; cases hv

/-- over every history from an established validated path: whenever the current path is unvalidated, the
    previously validated path is still remembered (a second migration before validation does not clobber it)
    and the validation timer is armed -/
theorem prev_path_not_clobbered (a : Nat) (m : Bool) (evs : List Ev) :
    let s := run (init a m) evs
    s.path.validated = false → (∃ p, s.prev = some p ∧ p.validated = true) ∧ s.timer.isSome = true := by
  intro s hu
  have hi : Inv s := run_inv evs _ (init_inv a m)
  obtain ⟨⟨p, hp⟩, ht⟩ := hi.fallback hu
  exact ⟨⟨p, hp, hi.prevValidated p hp⟩, ht⟩

/-- if validation does not succeed, servicing the timer at its deadline returns to the previous validated path:
    revert within three probe timeouts of the (last) migration -/
theorem revert_within_3pto (s : S) (hi : Inv s) (hu : s.path.validated = false) (t now : Nat)
    (ht : s.timer = some t) (hn : t ≤ now) :
    ∃ p, s.prev = some p ∧ (step s (.timeout now)).path.addr = p.addr ∧
      (step s (.timeout now)).path.validated = true ∧ (step s (.timeout now)).prev = none := by
  obtain ⟨⟨p, hp⟩, _⟩ := hi.fallback hu
  have hv := hi.revert_validated
  simp only [step, ht, hn, if_true]
  rw [hp] at hv ⊢
  exact ⟨p, rfl, rfl, hv, trivial⟩

/-- … and the deadline is exactly 3·PTO after the last migration: later packets that do not migrate, and
    responses that do not match, leave it unchanged -/
theorem deadline_fixed_without_migration (s : S) (e : Ev) (t : Nat) (ht : s.timer = some t)
    (hne : ∀ src now ptoNew ptoOld tok tok2, e = .pkt src true now ptoNew ptoOld tok tok2 → src = s.path.addr ∨ s.mayMigrate = false) :
    (step s e).timer = some t ∨ (step s e).timer = none :=
  timer_kept s e t (.inl ht) hne

-- spoofed migration, second spoof before validation, revert; genuine migration validated
example : (run (init 1 true) [.pkt 9 true 100 10 7 7 8, .pkt 5 true 110 10 9 11 12, .response 9 7, .timeout 140]).path
    = ⟨1, true, none, false⟩ := by decide
-- (`pending` stays set: the model clears `pending` only on timeout / on the previous path; sending the
--  PATH_CHALLENGE frame, which clears it in quinn, is not modelled)
example : (run (init 1 true) [.pkt 2 true 100 10 4 7 8, .response 2 7]).path = ⟨2, true, none, true⟩ := by decide
example : (run (init 1 true) [.pkt 2 true 100 10 4 7 8, .response 2 7]).timer = none := by decide

-- the deadline of the first example: 100 + 3 * max 10 7 = 130
example : (step (init 1 true) (.pkt 9 true 100 10 7 7 8)).timer = some 130 := by decide

end QM.Props.C15
