import QuinnModel.Lemmas.Header
/-
C10 (connection ids and packet headers) — Wire encodings round-trip, decoders are total, and coalesced packets
split at exactly the encoded boundaries: `ConnectionId::{encode_long, decode_long}` (shared.rs) and, without
header protection, `Header::encode` + the length patch of `PartialEncode::finish` versus
`ProtectedHeader::decode` / `PartialDecode::new` (packet.rs).

`packet h payload` = header bytes followed by `payload`, with the 2-byte length patched in (what goes on the
wire when header and packet protection are the identity); `none` = a panic of the encoder.
`validPnLen pl` says what a `PacketNumber` can be in the code; the proofs do not use it (the tag in the first byte is two
bits for every `pl`).
-/
namespace QM.Props.C10_header
open QM QM.Wire QM.Wire.Header

/-- long-form connection id: decode ∘ encode = id, consuming exactly the encoding -/
theorem cid_long_roundtrip (cid r : Bytes) (h : cid.length ≤ 20) :
    ∃ enc, Cid.encodeLong cid (some []) = some enc ∧
      Cid.decodeLong (ε := HdrErr) .malformedCid .panic (enc ++ r) = .ok (cid, r) :=
  Cid.roundtrip _ _ cid r h

/-- `decode_long` on ALL byte strings: never the model's `panic` (the unchecked copy is guarded), and a
    success returns a strictly shorter suffix of the input -/
theorem cid_decode_total (bs : Bytes) :
    Cid.decodeLong (ε := HdrErr) .malformedCid .panic bs ≠ .error .panic ∧
    ∀ c r, Cid.decodeLong (ε := HdrErr) .malformedCid .panic bs = .ok (c, r) → r <:+ bs ∧ r.length < bs.length :=
  have h := Cid.decodeLong_good (bad := isPanic) (e := HdrErr.malformedCid) (p := .panic) (k := 1) (by decide) (bs := bs)
  ⟨h.ne rfl, fun _ _ hd => (h.suffix hd).imp_right Nat.lt_of_succ_le⟩

/-- Initial: header round trip and coalesce_split.  Decoding the encoded packet followed by ANY second
    packet `p2` yields the written version and connection ids, the token's position and length, the payload
    length, the cursor in front of the packet number, exactly the packet's bytes, and exactly `p2` -/
theorem coalesce_split_initial (dst src token payload : Bytes) (pl pv version : Nat) (sup : List Nat)
    (hp : validPnLen pl) (hd : dst.length ≤ 20) (hs : src.length ≤ 20) (ht : token.length < 2^62)
    (hv : version < 2^32) (hv0 : version ≠ 0) (hsup : version ∈ sup)
    (h4 : 4 ≤ pl + payload.length) (h14 : pl + payload.length < 2^14) :
    ∃ pkt, packet (.initial dst src token (pl, pv) version) payload = some pkt ∧
      ∀ (p2 : Bytes) (lc : Nat) (g : Bool), partialDecodeNew (pkt ++ p2) lc sup g =
        .ok { header := .initial dst src (7 + dst.length + src.length + (encB token.length).length) token.length
                (pl + payload.length) version,
              pos := 7 + dst.length + src.length + (encB token.length).length + token.length + 2,
              packet := pkt,
              rest := if p2 = [] then none else some p2 } :=
  ⟨_, packet_framed (encode_initial dst src token pl pv version ht) payload h4 h14,
   fun p2 lc g => initial_coalesce dst src token payload p2 pl pv version lc sup g hd hs ht hv hv0 hsup h14⟩

/-- Handshake / 0-RTT: header round trip and coalesce_split -/
theorem coalesce_split_long (ty : LongType) (dst src payload : Bytes) (pl pv version : Nat) (sup : List Nat)
    (hp : validPnLen pl) (hd : dst.length ≤ 20) (hs : src.length ≤ 20)
    (hv : version < 2^32) (hv0 : version ≠ 0) (hsup : version ∈ sup)
    (h4 : 4 ≤ pl + payload.length) (h14 : pl + payload.length < 2^14) :
    ∃ pkt, packet (.long ty dst src (pl, pv) version) payload = some pkt ∧
      ∀ (p2 : Bytes) (lc : Nat) (g : Bool), partialDecodeNew (pkt ++ p2) lc sup g =
        .ok { header := .long ty dst src (pl + payload.length) version,
              pos := 9 + dst.length + src.length,
              packet := pkt,
              rest := if p2 = [] then none else some p2 } :=
  ⟨_, packet_framed (encode_long ty dst src pl pv version) payload h4 h14, fun p2 lc g => by
    obtain ⟨hf, hfix, hlong, hty⟩ := longFirst_facts (longTypeDec ty) (by cases ty <;> decide) _
      (Nat.mod_lt (pl - 1) (by decide)) (f := longFirstByte (longTypeBits ty) pl) (by cases ty <;> rfl)
    rw [framed_coalesce (mk := fun len => .long ty dst src len version) (fun _ => rfl) (fun tail => ?_)
      pl pv payload p2 h14, longPrefix_length, show 7 + dst.length + src.length + 2 = 9 + dst.length + src.length by omega]
    rw [decodeHeader_longPrefix _ _ _ _ _ _ _ _ _ hf (fun h => hfix h.2) hlong hd hs hv, if_neg hv0,
      if_neg (not_not_intro hsup), hty]
    cases ty
    · rw [if_neg (by decide), if_neg (by decide), if_pos (show longTypeDec .handshake = Gen.hdrTypeDecHandshake from rfl)]
    · rw [if_neg (by decide), if_pos (show longTypeDec .zeroRtt = Gen.hdrTypeDecZeroRtt from rfl)]⟩

/-- Retry: header round trip (no length field: the packet is the rest of the datagram) -/
theorem header_roundtrip_retry (dst src tail : Bytes) (version lc : Nat) (sup : List Nat) (g : Bool)
    (hd : dst.length ≤ 20) (hs : src.length ≤ 20) (hv : version < 2^32) (hv0 : version ≠ 0) (hsup : version ∈ sup) :
    ∃ pe, encode (.retry dst src version) = some pe ∧
      partialDecodeNew (pe.bytes ++ tail) lc sup g =
        .ok { header := .retry dst src version, pos := pe.bytes.length, packet := pe.bytes ++ tail, rest := none } := by
  obtain ⟨hf, hfix, hlong, (hty : _ = Gen.hdrTypeDecRetry)⟩ :=
    longFirst_facts 3 (by decide) 0 (by decide) (f := longFirst Gen.hdrTypeEncRetry) rfl
  refine ⟨_, encode_retry dst src version, partialDecode_whole ?_ rfl⟩
  rw [decodeHeader_longPrefix _ _ _ _ _ _ _ _ _ hf (fun h => hfix h.2) hlong hd hs hv, if_neg hv0,
    if_neg (not_not_intro hsup), hty, if_neg (by decide), if_neg (by decide), if_neg (by decide), if_pos rfl]
  rfl

/-- Version Negotiation: header round trip (`random` < 128; the fixed bit must be set unless greased) -/
theorem header_roundtrip_vn (random : Nat) (dst src tail : Bytes) (lc : Nat) (sup : List Nat) (g : Bool)
    (hr : random < 128) (hfix : g = true ∨ random &&& 64 ≠ 0) (hd : dst.length ≤ 20) (hs : src.length ≤ 20) :
    ∃ pe, encode (.versionNegotiate random dst src) = some pe ∧
      partialDecodeNew (pe.bytes ++ tail) lc sup g =
        .ok { header := .versionNegotiate random dst src, pos := pe.bytes.length, packet := pe.bytes ++ tail,
              rest := none } := by
  obtain ⟨hf, hlong, hrnd, hfx⟩ := vn_facts random hr
  have hnf : ¬ ((!g) = true ∧ (128 ||| random) &&& Gen.hdrFixedBit = 0) := by
    rintro ⟨h1, h2⟩
    rcases hfix with h | h
    · simp [h] at h1
    · exact h (hfx.mp h2)
  refine ⟨_, encode_vn random dst src, partialDecode_whole ?_ rfl⟩
  rw [decodeHeader_longPrefix _ _ _ _ _ _ _ _ _ hf hnf hlong hd hs (by decide), if_pos rfl, hrnd]
  rfl

/-- Short: header round trip when the parser's connection-id length is the written one: spin bit and
    destination id are recovered, the cursor stops in front of the packet number -/
theorem header_roundtrip_short (spin keyPhase : Bool) (dst payload : Bytes) (pl pv : Nat) (sup : List Nat) (g : Bool)
    (hp : validPnLen pl) :
    ∃ pe, encode (.short spin keyPhase dst (pl, pv)) = some pe ∧
      partialDecodeNew (pe.bytes ++ payload) dst.length sup g =
        .ok { header := .short spin dst, pos := 1 + dst.length, packet := pe.bytes ++ payload, rest := none } := by
  refine ⟨_, encode_short spin keyPhase dst pl pv, ?_⟩
  have := short_roundtrip spin keyPhase dst (beBytes pl pv ++ payload) pl sup g
  simpa [Nat.add_comm] using this

/-- `PartialDecode::new` on ALL datagrams: never the model's `panic`; on success the packet and the
    remainder partition the datagram exactly (`partial_decode_len_sum`, the fuzz target's assertion), the
    cursor lies inside the packet, and a remainder is reported only when non-empty -/
theorem partial_decode_total (bytes : Bytes) (lc : Nat) (sup : List Nat) (g : Bool) :
    partialDecodeNew bytes lc sup g ≠ .error .panic ∧
    ∀ pd, partialDecodeNew bytes lc sup g = .ok pd →
      pd.packet ++ (match pd.rest with | some r => r | none => []) = bytes ∧
      pd.pos ≤ pd.packet.length ∧ 1 ≤ pd.pos ∧ (∀ r, pd.rest = some r → r ≠ []) :=
  ⟨partialDecode_noPanic bytes lc sup g, fun pd h => partialDecode_split bytes lc sup g pd h⟩

-- non-vacuity
example : validPnLen 2 ∧ (4 : Nat) ≤ 2 + [0, 17, 34, 51].length ∧ 2 + [0, 17, 34, 51].length < 2^14 := by
  refine ⟨Or.inr (Or.inl rfl), by decide, by decide⟩
example : (1 : Nat) ∈ [7, 1, 9] ∧ (1 : Nat) ≠ 0 ∧ (1 : Nat) < 2^32 := by decide
example : (77 : Nat) < 128 ∧ 77 &&& 64 ≠ 0 := by decide

end QM.Props.C10_header
