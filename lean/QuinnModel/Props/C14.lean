import QuinnModel.Lemmas.Token
import QuinnModel.Lemmas.BloomLog
import QuinnModel.Lemmas.TokenCache
/-
C14 — Validation tokens and Retry cannot be forged, moved or replayed.

Server side (`token.rs`, `bloom_token_log.rs`) and the client-side token store
(`token_memory_cache.rs`).  AEAD is ideal BY HYPOTHESIS (`Token.Ideal A key S`: `open` under the
server key succeeds exactly on the strings `seal` produced under that key for the plaintexts in `S`);
`hS` says sealed plaintexts are byte strings and `hT` that the presented token is one.
`Payload.wire` is what the token keeps of a payload: ip and port of a socket address (flowinfo and
scope id are not encoded).  Times: `SystemTime`/`Duration` in ns; payloads carry whole seconds.
-/
namespace QM.Props.C14
open QM QM.Token

/-- payload round trip, both kinds: every v4/v6 address and port, connection IDs of 0..20 bytes, every
    issue time representable as a `SystemTime` -/
theorem payload_round_trip (p : Payload) (hv : p.Valid) :
    decodePayload (encodePayload p) = .ok p.wire :=
  decodePayload_encodePayload p hv

/-- the decoder is canonical: a byte string that decodes is exactly the encoding of what it decodes to
    (no second spelling, no trailing bytes), and that payload is well formed -/
theorem payload_decoding_canonical (pt : Bytes) (hw : WF pt) (p : Payload) (h : decodePayload pt = .ok p) :
    pt = encodePayload p ∧ p.Valid ∧ p.wire = p :=
  decodePayload_sound pt hw p h

/-- token round trip under the issuing key: nonce and payload come back -/
theorem token_round_trip (A : Aead) (key : Nat) (S : Nat → Bytes → Prop) (hA : Ideal A key S)
    (n : Nat) (p : Payload) (hn : n < 2 ^ 128) (hv : p.Valid) (hs : S n (encodePayload p)) :
    decode A key (encode A key n p) = .ok (n, p.wire) :=
  decode_encode A key S hA n p hn hv hs

-- non-vacuity: both kinds, v4 and v6, a 20-byte CID
example : (Payload.retry (.v6 (List.replicate 16 7) 443 5 9) (List.replicate 20 255) 1700000000).Valid := by
  simp [Payload.Valid, Addr.Valid, Ip.Valid, Addr.ip, Addr.port, Gen.maxCidSize]
example : decodePayload (encodePayload (.retry (.v6 (List.replicate 16 7) 443 5 9) [1, 2, 3] 1700000000))
    = .ok (.retry (.v6 (List.replicate 16 7) 443 0 0) [1, 2, 3] 1700000000) := by decide
example : decodePayload (encodePayload (.validation (.v4 [192, 168, 0, 1]) 42)) = .ok (.validation (.v4 [192, 168, 0, 1]) 42) := by
  decide

/-- a concrete ideal AEAD (the sealed string spells out key, nonce and plaintext): witnesses that the
    hypotheses `Ideal A key S`, `hS` of the theorems below are satisfiable -/
def toyAead : Aead where
  sealWith k n pt := k :: n :: pt
  openWith k n s := match s with
    | k' :: n' :: pt => if k' = k ∧ n' = n ∧ pt.all (· < 256) then some pt else none
    | _ => none

theorem toyAead_ideal (key : Nat) : Ideal toyAead key (fun _ pt => WF pt) := by
  constructor
  · intro n pt h
    have hall : pt.all (· < 256) = true := List.all_eq_true.mpr (fun x hx => by simpa using h x hx)
    show (if key = key ∧ n = n ∧ pt.all (· < 256) then some pt else none) = some pt
    rw [if_pos ⟨rfl, rfl, hall⟩]
  · intro n s pt h
    cases s with
    | nil => exact absurd h (by simp [toyAead])
    | cons k' t =>
      cases t with
      | nil => exact absurd h (by simp [toyAead])
      | cons n' pt' =>
        have h' : (if k' = key ∧ n' = n ∧ pt'.all (· < 256) then some pt' else none) = some pt := h
        by_cases hc : k' = key ∧ n' = n ∧ pt'.all (· < 256)
        · rw [if_pos hc] at h'
          obtain ⟨rfl, rfl, hall⟩ := hc
          obtain rfl := Option.some.inj h'
          exact ⟨fun x hx => by simpa using List.all_eq_true.mp hall x hx, rfl⟩
        · rw [if_neg hc] at h'; exact absurd h' (by simp)

/-- A token validates the client address IF AND ONLY IF it is, byte for byte, `encode key nonce p` for a
    payload the server sealed, and: Retry — the remote address equals the address in the token (ip AND
    port) and `issued + retry_token_lifetime` is not before now; NEW_TOKEN — the remote ip equals the ip
    in the token, `issued + lifetime` is not before now, and the token log accepted the nonce. -/
theorem token_validates_iff {σ : Type} (A : Aead) (S : Nat → Bytes → Prop) (cfg : Cfg) (hA : Ideal A cfg.key S)
    (hS : ∀ n pt, S n pt → WF pt) (log : σ → Nat → Nat → Nat → Option (σ × Bool)) (ls : σ)
    (token dcid : Bytes) (remote : Addr) (now : Nat) (hT : WF token) :
    (∃ ls' inc, fromHeader A cfg log ls token dcid remote now = (ls', .ok inc) ∧ inc.validated = true) ↔
      ∃ n p, n < 2 ^ 128 ∧ p.Valid ∧ S n (encodePayload p) ∧ token = encode A cfg.key n p ∧
        Accepts cfg log ls remote now n p :=
  Token.token_validates_iff A S cfg hA hS log ls token dcid remote now hT

/-- any string that is not byte for byte a token sealed under the server key (a flipped bit, a
    truncation, an extension, a splice of two tokens, a token of another server) is treated as absent:
    same result as no token, token log untouched -/
theorem altered_token_is_absent {σ : Type} (A : Aead) (S : Nat → Bytes → Prop) (cfg : Cfg) (hA : Ideal A cfg.key S)
    (hS : ∀ n pt, S n pt → WF pt) (log : σ → Nat → Nat → Nat → Option (σ × Bool)) (ls : σ)
    (token dcid : Bytes) (remote : Addr) (now : Nat) (hT : WF token)
    (hf : ∀ n pt, S n pt → token ≠ A.sealWith cfg.key n pt ++ leBytes Gen.tokenNonceBytes n) :
    fromHeader A cfg log ls token dcid remote now = (ls, .ok (unvalidated dcid)) :=
  Token.altered_token_is_absent A S cfg hA hS log ls token dcid remote now hT hf

/-- a genuine token of a server with another key (whose sealed strings do not coincide with ours) is absent -/
theorem foreign_key_token_is_absent {σ : Type} (A : Aead) (S : Nat → Bytes → Prop) (cfg : Cfg) (hA : Ideal A cfg.key S)
    (hS : ∀ n pt, S n pt → WF pt) (log : σ → Nat → Nat → Nat → Option (σ × Bool)) (ls : σ)
    (token dcid : Bytes) (remote : Addr) (now : Nat) (hT : WF token) (k' n : Nat) (p : Payload)
    (hsep : ∀ m pt, A.sealWith cfg.key m pt ≠ A.sealWith k' n (encodePayload p))
    (htok : token = encode A k' n p) :
    fromHeader A cfg log ls token dcid remote now = (ls, .ok (unvalidated dcid)) := by
  apply Token.altered_token_is_absent A S cfg hA hS log ls token dcid remote now hT
  intro m pt _ heq
  rw [htok] at heq
  exact hsep m pt (List.append_inj' heq (by rw [leBytes_length, leBytes_length])).1.symm

/-- the attempt ends with INVALID_TOKEN exactly for a genuine Retry token that is moved (remote
    address ≠ address in the token) or stale (`issued + retry_token_lifetime < now`) -/
theorem bad_retry_token_is_INVALID_TOKEN {σ : Type} (A : Aead) (S : Nat → Bytes → Prop) (cfg : Cfg)
    (hA : Ideal A cfg.key S) (hS : ∀ n pt, S n pt → WF pt) (log : σ → Nat → Nat → Nat → Option (σ × Bool)) (ls : σ)
    (token dcid : Bytes) (remote : Addr) (now : Nat) (hT : WF token) (hnow : now < SysTime.limit) :
    (∃ ls', fromHeader A cfg log ls token dcid remote now = (ls', .invalidRetry)) ↔
      ∃ n a c i, n < 2 ^ 128 ∧ (Payload.retry a c i).Valid ∧ S n (encodePayload (.retry a c i)) ∧
        token = encode A cfg.key n (.retry a c i) ∧
        (a.wire ≠ remote ∨ i * SysTime.nsPerSec + cfg.retryLifetime < now) := by
  refine (genuine_iff A S cfg hA hS log ls token dcid remote now hT (fun x => ∃ ls', x = (ls', .invalidRetry))
    (fun _ => Refused cfg remote now) (fun ⟨_, h⟩ => nomatch h) (fun ⟨_, h⟩ => nomatch h)
    (fun tok n p hd hw => (genuine_table A cfg log ls tok dcid remote now n p hd hw).2 hnow)
    (fun n p => by cases p <;> simp [Payload.wire, Refused])).trans ⟨?_, ?_⟩
  · rintro ⟨n, p, hn, hv, hs, ht, hc⟩
    cases p with
    | retry a c i => exact ⟨n, a, c, i, hn, hv, hs, ht, hc⟩
    | validation _ _ => exact hc.elim
  · exact fun ⟨n, a, c, i, hn, hv, hs, ht, hc⟩ => ⟨n, _, hn, hv, hs, ht, hc⟩

/-- observation O1 (MANIFEST.json, C14): the comparison is `SocketAddr` equality, which includes flowinfo and
    scope id, but the token carries neither — a remote address with a non-zero scope id / flowinfo
    (IPv6 link-local) satisfies the acceptance condition of no Retry token -/
theorem retry_token_binds_wire_address {σ : Type} (cfg : Cfg) (log : σ → Nat → Nat → Nat → Option (σ × Bool)) (ls : σ)
    (remote : Addr) (now n : Nat) (a : Addr) (c : Bytes) (i : Nat) (hr : remote.wire ≠ remote) :
    ¬ Accepts cfg log ls remote now n (.retry a c i) :=
  fun h => hr (h.1 ▸ Addr.wire_wire a)

-- non-vacuity: a genuine NEW_TOKEN token validates once the log accepts; a moved Retry token is INVALID_TOKEN
example : (fromHeader toyAead ⟨7, 15000000000, 100000000000⟩ (fun (s : Unit) _ _ _ => some (s, true)) ()
    (encode toyAead 7 5 (.validation (.v4 [10, 0, 0, 1]) 1000)) [9] (.v4 [10, 0, 0, 1] 4433) 1050000000000).2
    = .ok ⟨none, [9], true⟩ := by decide
example : (fromHeader toyAead ⟨7, 15000000000, 100000000000⟩ (fun (s : Unit) _ _ _ => some (s, true)) ()
    (encode toyAead 7 5 (.retry (.v4 [10, 0, 0, 1] 4433) [1, 2] 1000)) [9] (.v4 [10, 0, 0, 1] 4434) 1001000000000).2
    = .invalidRetry := by decide

/-- For ANY history of calls with one lifetime > 0 — any nonces, any issue times in any order (no clock
    assumption is needed), any number of one- or two-filter turn-overs, any hash-set→bloom conversions
    and any bloom false positives (`Choice`) — no (fingerprint, issue time) is accepted twice.
    Side condition the code needs: the lifetime passed to the log never changes
    (the second `example` below shows why). -/
theorem bloom_single_use (lifetime : Nat) (hL : 0 < lifetime) (maxBytes : Nat) (calls : List BloomLog.Call) :
    (BloomLog.accepted lifetime (BloomLog.init maxBytes) calls).Nodup :=
  (BloomLog.accepted_fresh lifetime hL calls (BloomLog.init maxBytes) (fun _ => False)
    (BloomLog.init_inv lifetime maxBytes)).1

/-- one call refines "set of tokens accepted so far": the invariant is kept and an accepted token is new -/
theorem bloom_refines_set (L : Nat) (hL : 0 < L) (s s' : BloomLog.State) (seen : Nat × Nat → Prop)
    (h : BloomLog.Inv L s seen) (nonce issued : Nat) (c : BloomLog.Choice) (r : Bool)
    (hc : BloomLog.checkAndInsert s nonce issued L c = some (s', r)) :
    BloomLog.Inv L s' (fun x => seen x ∨ (r = true ∧ x = (BloomLog.fingerprint nonce, issued)))
      ∧ (r = true → ¬ seen (BloomLog.fingerprint nonce, issued)) :=
  BloomLog.Inv.preserved L hL s s' seen h nonce issued c r hc

-- non-vacuity: lifetime 10 s; replays within the period, after a one-filter and after a two-filter turn-over
example : BloomLog.accepted 10000000000 (BloomLog.init 64)
    [⟨1, 100000000000, ⟨true, false, false⟩⟩, ⟨1, 100000000000, ⟨true, false, false⟩⟩,
     ⟨2, 125000000000, ⟨true, false, false⟩⟩, ⟨1, 100000000000, ⟨true, false, false⟩⟩,
     ⟨2, 125000000000, ⟨true, false, false⟩⟩, ⟨3, 190000000000, ⟨true, false, false⟩⟩,
     ⟨2, 125000000000, ⟨true, false, false⟩⟩]
    = [(1, 100000000000), (2, 125000000000), (3, 190000000000)] := by decide

/-- the side condition is needed: if the lifetime handed to the log changes between two presentations of
    the same token, the second one lands in the other filter and is accepted again -/
example : (((BloomLog.checkAndInsert (BloomLog.init 64) 1 100 10 ⟨true, false, false⟩).bind
    (fun r => BloomLog.checkAndInsert r.1 2 112 10 ⟨true, false, false⟩)).bind
    (fun r => if r.2 then BloomLog.checkAndInsert r.1 2 112 2 ⟨true, false, false⟩ else none)).map (·.2)
    = some true := by decide

/-- observation O2 (MANIFEST.json, C14): a jump of three or more periods — e.g. the first token ever presented —
    sets `period_1_start` to that token's expiry, so an unexpired, never-used token issued earlier
    (here 1 s earlier) is refused -/
example : ((BloomLog.checkAndInsert (BloomLog.init 64) 1 100000000000 10000000000 ⟨true, false, false⟩).bind
    (fun r => BloomLog.checkAndInsert r.1 2 99000000000 10000000000 ⟨true, false, false⟩)).map (·.2) = some false := by
  decide

/-- Over ANY history of insert/take with ANY capacities: no panic, and for every token value the
    number of times `take` hands it out is at most the number of times it was stored — every stored
    token is handed out at most once. -/
theorem cache_take_once {α : Type} [DecidableEq α] (maxNames maxTokens : Nat) (ops : List (TokenCache.Op α)) :
    ∃ s out, TokenCache.run (TokenCache.init maxNames maxTokens) ops = some (s, out) ∧
      ∀ a, out.count a ≤ (TokenCache.inserted ops).count a := by
  obtain ⟨s, out, h, _, _, _, hc⟩ := TokenCache.run_conserve ops (TokenCache.init maxNames maxTokens)
    (TokenCache.init_inv maxNames maxTokens)
  exact ⟨s, out, h, fun a => by have := hc a; simp [TokenCache.init] at this; omega⟩

/-- bounds: at most `max_server_names` names, all distinct, each with between 1 and
    `max_tokens_per_server` tokens, after any history -/
theorem cache_bounds {α : Type} [DecidableEq α] (maxNames maxTokens : Nat) (ops : List (TokenCache.Op α)) :
    ∃ s out, TokenCache.run (TokenCache.init maxNames maxTokens) ops = some (s, out) ∧
      s.lru.length ≤ maxNames ∧ (s.lru.map (·.name)).Nodup ∧
      ∀ e ∈ s.lru, e.tokens ≠ [] ∧ e.tokens.length ≤ maxTokens := by
  obtain ⟨s, out, h, hi, hN, hT, _⟩ := TokenCache.run_conserve ops (TokenCache.init maxNames maxTokens)
    (TokenCache.init_inv maxNames maxTokens)
  refine ⟨s, out, h, ?_, hi.nodup, fun e he => ⟨hi.nonempty e he, ?_⟩⟩
  · have := hi.names; simp [TokenCache.init] at hN; omega
  · have := hi.bounded e he; simp [TokenCache.init] at hT; omega

/-- eviction order: after any history the entries are ordered by time of last use (a `store` under the
    name or a `take` that found it), most recent first; `store` of a new name at the bound drops the
    last entry (`cache_store_evicts_last`), i.e. the least recently used one -/
theorem cache_evicts_least_recently_used {α : Type} [DecidableEq α] (maxNames maxTokens : Nat)
    (ops : List (TokenCache.Op α)) :
    ∃ s lastUse clock, TokenCache.runG (TokenCache.init maxNames maxTokens) (fun _ => 0) 0 ops = some (s, lastUse, clock) ∧
      TokenCache.Ordered s.lru lastUse clock ∧
      ∀ last, s.lru.getLast? = some last → ∀ e ∈ s.lru, lastUse last.name ≤ lastUse e.name := by
  obtain ⟨s, st, c, h, _, ho⟩ := TokenCache.runG_ordered ops (TokenCache.init maxNames maxTokens) (fun _ => 0) 0
    (TokenCache.init_inv maxNames maxTokens) ⟨by simp [TokenCache.init], by simp [TokenCache.init]⟩
  exact ⟨s, st, c, h, ho, fun last hl => TokenCache.last_is_lru s.lru last ho hl⟩

/-- the entry evicted by a `store` under a new name at the name bound is the last one of that order -/
theorem cache_store_evicts_last {α : Type} (s : TokenCache.State α) (n : String) (t : α) (last : TokenCache.Entry α)
    (hN : s.maxNames ≠ 0) (hT : s.maxTokens ≠ 0) (hnew : TokenCache.extract n s.lru = none)
    (hfull : Gen.tokenCacheNamesFull s.lru.length s.maxNames = true) (hl : s.lru.getLast? = some last) :
    TokenCache.store s n t = some { s with lru := ⟨n, [t]⟩ :: s.lru.dropLast } := by
  unfold TokenCache.store
  rw [if_neg hN, if_neg hT]
  simp only [hnew, hfull, if_true, hl]

-- non-vacuity: 2 names x 2 tokens; queue overflow drops token 1, name "b" is evicted, each token at most once
example : (TokenCache.run (TokenCache.init 2 2 : TokenCache.State Nat)
    [.insert "a" 1, .insert "b" 2, .insert "a" 3, .insert "a" 4, .insert "c" 5, .take "b", .take "a", .take "a",
     .take "a", .take "c", .take "c"]).map (·.2) = some [3, 4, 5] := by decide

end QM.Props.C14
