import QuinnModel.Lemmas.CidQueue
import QuinnModel.Lemmas.CidState
import QuinnModel.Lemmas.AckFrequency
import QuinnModel.Lemmas.Ack
import QuinnModel.Lemmas.PathResponses
import QuinnModel.Lemmas.PendingAcks
/-
C03 — Peer-controlled input never crashes or hangs an endpoint.

State-dependent handlers of peer-controlled values: for every handler one theorem of the shape
"for ALL sequences of syntactically valid inputs the run never reaches `panic` and the state stays inside
its bound", plus the decision theorems for the transport error class.
-/
namespace QM.Props.C03
open QM

/-! ## `cidq` — cid_queue.rs `CidQueue` and the NEW_CONNECTION_ID arm of `process_payload` -/
section cidq
open QM.CidQueue

theorem cidq_new_inv (cid : Bytes) : Inv (new cid) := new_inv cid

/-- `update_initial_cid` (Retry / first server Initial) while the initial CID is active: no panic, invariant kept -/
theorem cidq_update_initial_cid_ok (q : CidQueue) (hI : Inv q) (cid : Bytes) (h0 : q.offset = 0) :
    ∃ q', updateInitialCid q cid = some q' ∧ Inv q' ∧ q'.offset = 0 := by
  unfold updateInitialCid
  have hc := hI.cur
  simp only [ne_eq, h0, not_true_eq_false, if_false, hc, dite_true]
  refine ⟨_, rfl, ?_, rfl⟩
  rw [set_eq_put]
  exact Inv.of_put_initial hc (h0 ▸ hI.win) cid

/-- over ALL sequences of syntactically valid NEW_CONNECTION_ID inserts (any sequence numbers < 2^62, any
    `retire_prior_to ≤ sequence`, any order, duplicates) and `next`s: the run never panics (both `expect`s,
    the `unwrap`s and every u64 addition are unreachable), the ring invariant holds afterwards, at most LEN
    slots are occupied, the active CID is present, and the active sequence number never went down -/
theorem cidq_no_panic (q : CidQueue) (hI : Inv q) (ops : List Op) (hv : ∀ op ∈ ops, op.valid) :
    ∃ q', run q ops = some q' ∧ Inv q' ∧ occupied q' ≤ LEN ∧ (∃ c, active q' = some c) ∧ q.offset ≤ q'.offset := by
  obtain ⟨q', h, hI', hm⟩ := run_inv ops q hI hv
  exact ⟨q', h, hI', occupied_le q', active_some q' hI', hm⟩

/-- `next` is strictly monotone: it retires exactly `[old active, new active)`, a non-empty range shorter than LEN -/
theorem cidq_next_monotone (q : CidQueue) (hI : Inv q) (t : Bytes) (a b : Nat) (h : (next q).2 = .ok t a b) :
    a = q.offset ∧ b = (next q).1.offset ∧ a < b ∧ b < a + LEN := by
  have hc := next_cases q
  generalize next q = r at hc h ⊢
  cases hc with
  | same => cases h
  | ok i e _ hs =>
    cases h
    exact ⟨rfl, rfl, Nat.lt_add_of_pos_right hs.pos, Nat.add_lt_add_left hs.lt _⟩
  | panic => cases h

/-- `next` without a second known CID changes nothing -/
theorem cidq_next_none_unchanged (q : CidQueue) (hI : Inv q) (h : (next q).2 = .none) : (next q).1 = q := by
  have hc := next_cases q
  generalize next q = r at hc h ⊢
  cases hc with
  | same => rfl
  | ok => cases h
  | panic => rfl

/-- decision: `InsertError::Retired` exactly for sequence numbers below the active one -/
theorem cidq_insert_retired_iff (q : CidQueue) (seq rpt : Nat) (cid tok : Bytes) :
    (insert q seq rpt cid tok).2 = .errRetired ↔ seq < q.offset := by
  have hc := insert_cases q seq rpt cid tok
  generalize insert q seq rpt cid tok = r at hc ⊢
  cases hc with
  | errRetired hs => exact ⟨fun _ => hs, fun _ => rfl⟩
  | errLimit hs | same hs | retired _ _ _ hs | panic hs => exact ⟨nofun, fun h => absurd hs (Nat.not_le.mpr h)⟩

/-- decision: `InsertError::ExceedsLimit` exactly for sequence numbers `LEN + retired_count` or more past the active one -/
theorem cidq_insert_limit_iff (q : CidQueue) (seq rpt : Nat) (cid tok : Bytes) (hr : rpt < 2^62) :
    (insert q seq rpt cid tok).2 = .errLimit ↔ (q.offset ≤ seq ∧ seq - q.offset ≥ LEN + (rpt - q.offset)) := by
  have hc := insert_cases q seq rpt cid tok
  generalize insert q seq rpt cid tok = r at hc ⊢
  cases hc with
  | errRetired hs => exact ⟨nofun, fun h => absurd h.1 (Nat.not_le.mpr hs)⟩
  | errLimit hs hl => exact ⟨fun _ => ⟨hs, hl⟩, fun _ => rfl⟩
  | same _ hl | retired _ _ _ _ hl => exact ⟨nofun, fun h => absurd h.2 (Nat.not_le.mpr hl)⟩
  | panic _ hp =>
    refine ⟨nofun, fun h => ?_⟩
    rcases hp with hp | ⟨hl, _⟩
    · exact absurd hp (no_overflow (Nat.lt_of_le_of_lt (Nat.sub_le rpt q.offset) hr) LEN_le_B).2
    · exact absurd h.2 (Nat.not_le.mpr hl)

/-- an exact duplicate of an accepted frame is accepted again and changes nothing -/
theorem cidq_duplicate_idempotent (q : CidQueue) (hI : Inv q) (seq rpt : Nat) (cid tok : Bytes)
    (h1 : rpt ≤ seq) (h2 : seq < 2^62) (hs : q.offset ≤ seq) (hl : seq - q.offset < LEN + (rpt - q.offset)) :
    insert (insert q seq rpt cid tok).1 seq rpt cid tok = ((insert q seq rpt cid tok).1, .none) := by
  -- after the first insert `retire_prior_to` is not above the active sequence number, so the second one only
  -- writes the slot of `seq` (`d` slots after the cursor) again, with what it holds already
  obtain ⟨_, hI', _, hacc⟩ := (insert_cases q seq rpt cid tok).spec hI h1 h2
  obtain ⟨hr, d, hdl, hd, hg⟩ := hacc hs hl
  generalize (insert q seq rpt cid tok).1 = q' at *
  have hsub : seq - q'.offset = d := Nat.sub_eq_of_eq_add (by rw [Nat.add_comm]; exact hd.symm)
  have hc := insert_cases q' seq rpt cid tok
  have hp := (hc.spec hI' h1 h2).1
  generalize insert q' seq rpt cid tok = r at hc hp ⊢
  cases hc with
  | errRetired h => exact absurd (hd ▸ Nat.le_add_right _ _ : q'.offset ≤ seq) (Nat.not_le.mpr h)
  | errLimit _ h =>
    rw [hsub, Nat.sub_eq_zero_of_le hr] at h
    exact absurd hdl (Nat.not_lt.mpr h)
  | same =>
    rw [recorded_of_le _ _ _ _ _ hr, put_of_get]
    rw [hsub]
    exact hg
  | retired _ _ _ _ _ h => exact absurd hr (Nat.not_le.mpr h)
  | panic => exact absurd rfl hp

/-- `set_peer_params`: inserting the preferred-address CID (sequence 1, retire_prior_to 0) into a queue that
    still has the initial CID active is `Ok(None)` — the `expect` there is unreachable -/
theorem cidq_preferred_address_insert_ok (q : CidQueue) (hI : Inv q) (h0 : q.offset = 0) (cid tok : Bytes) :
    (insert q 1 0 cid tok).2 = .none := by
  have hc := insert_cases q 1 0 cid tok
  have hp := (hc.spec hI (Nat.zero_le _) (by decide)).1
  generalize insert q 1 0 cid tok = r at hc hp ⊢
  cases hc with
  | errRetired h => omega
  | errLimit _ h => rw [h0] at h; exact absurd h (by decide)
  | same => rfl
  | retired _ _ _ _ _ h => omega
  | panic => exact absurd rfl hp

/-- the NEW_CONNECTION_ID arm over ALL sequences of decoded frames (any varints, any order, any repetition) and packet
    transmissions: never panics, keeps the ring invariant, and the queue of pending RETIRE_CONNECTION_ID frames never
    exceeds `MAX_PENDING_RETIRED_CIDS + LEN - 1` (`MAX_PENDING_RETIRED_CIDS` while the initial CID is active).
    Both arms that queue retirements consult the limit (the already-retired arm since the fix recorded in
    known_findings.txt; `corpus/cidq/retire-flood.ops` replays the old witness of unbounded growth). -/
theorem retire_cids_bounded (s : Handler) (hI : Inv s.q) (hp : s.pending = []) (ops : List HOp)
    (hv : ∀ op ∈ ops, op.valid) :
    ∃ s', hrun s ops = some s' ∧ Inv s'.q ∧
      s'.pending.length ≤ Gen.maxPendingRetiredCids + (LEN - 1) ∧
      (s'.q.offset = 0 → s'.pending.length ≤ Gen.maxPendingRetiredCids) := by
  obtain ⟨s', h, hI', hJ⟩ := hrun_inv ops s hI (J.of_le (by rw [hp]; exact Nat.zero_le _)) hv
  exact ⟨s', h, hI', hJ.2, hJ.1⟩

/-- decision of the error class at the handler: which transport error (PROTOCOL_VIOLATION /
    CONNECTION_ID_LIMIT_ERROR) or acceptance a frame gets, exactly under the code's conditions -/
theorem ncid_decision (s : Handler) (hI : Inv s.q) (seq rpt : Nat) (cid tok : Bytes) (h2 : seq < 2^62)
    (a : Bytes) (ha : active s.q = some a) :
    (onNewConnectionId s seq rpt cid tok).2 = ncidSpec s a seq rpt cid tok :=
  (onNewConnectionId_spec s hI seq rpt cid tok h2 a ha).decision

-- non-vacuity
example : run (new [1]) [.insert 2 0 [2] [9], .insert 3 1 [3] [9], .next, .insert 3 1 [3] [9]] ≠ none := by decide
example : (insert (new [1]) 1000000 1000000 [7] [9]).2 = .retired 0 5 [9] := by decide
example : (insert (new [1]) 5 0 [7] [9]).2 = .errLimit := by decide
-- the old flood: 60 repetitions of an already retired sequence number leave exactly MAX_PENDING_RETIRED_CIDS entries
example : (hrun floodInit (retireCidsFlood 60)).map (·.pending.length) = some 50 := by decide

end cidq

/-! ## `cidstate` — connection/cid_state.rs `CidState` (local CIDs, RETIRE_CONNECTION_ID from the peer) -/
section cidstate
open QM.CidState

/-- `CidState::new` never panics (the `debug_assert!` of `track_lifetime` holds for the handshake CIDs) and
    yields a state satisfying the invariant with exactly the handshake CIDs active -/
theorem cid_state_new_ok (cidLen : Nat) (lifetime : Option Nat) (now issued : Nat) :
    ∃ s, CidState.new cidLen lifetime now issued = some s ∧ CidState.Inv s ∧ s.activeSeq.length = issued ∧
      s.issued = issued ∧ s.cidLifetime = lifetime ∧ s.cidLen = cidLen := by
  unfold new
  rw [List.range_eq_range']
  obtain ⟨ts, h, hts, hnone⟩ :=
    trackAll_spec now issued 0 ⟨[], issued, List.range' 0 issued, 0, 0, cidLen, lifetime⟩ (fun _ h => nomatch h)
  refine ⟨_, h, ⟨List.nodup_range', fun x hx => ?_, fun t ht => ?_, fun hl => ⟨hnone hl, rfl⟩⟩, List.length_range', rfl, rfl, rfl⟩
  · have := (List.mem_range'_1.mp hx).2
    show x < issued
    omega
  · have := hts t ht
    show t.sequence < issued
    omega

/-- the first batch of `n` CIDs (`issue_first_cids`) never panics and adds exactly `n` active CIDs -/
theorem cid_state_first_issue_ok (s : State) (hI : CidState.Inv s) (now n : Nat) (hn : 0 < n)
    (hov : s.issued + n < 2^64) :
    ∃ s', newCids s (List.range' s.issued n) now = some s' ∧ CidState.Inv s' ∧
      s'.activeSeq.length = s.activeSeq.length + n ∧ s'.issued = s.issued + n ∧
      s'.cidLifetime = s.cidLifetime ∧ s'.prevRetireSeq = s.prevRetireSeq ∧ s'.retireSeq = s.retireSeq := by
  obtain ⟨_, h, hI', ts, rfl⟩ := newCids_range s hI now n hn hov
  exact ⟨_, h, hI', by simp only [List.length_append, List.length_range'], rfl, rfl, rfl, rfl⟩

/-- decision of the error class: a RETIRE_CONNECTION_ID is rejected, with PROTOCOL_VIOLATION, exactly when CIDs
    are not in use or the sequence number is GREATER than the number issued; everything else is accepted.
    (`sequence == issued` — not yet issued — is accepted and is a no-op on the set: see `_counterexample` below.) -/
theorem cid_state_retirement_decision (s : State) (seq limit : Nat) :
    ((∃ k, (onCidRetirement s seq limit).2 = .err Gen.codeProtocolViolation k) ↔ (s.cidLen = 0 ∨ seq > s.issued)) ∧
    ((∃ b, (onCidRetirement s seq limit).2 = .ok b) ↔ ¬ (s.cidLen = 0 ∨ seq > s.issued)) := by
  have hc := onCidRetirement_cases s seq limit
  generalize onCidRetirement s seq limit = r at hc ⊢
  cases hc with
  | err k hc => exact ⟨⟨fun _ => hc, fun _ => ⟨k, rfl⟩⟩, ⟨nofun, fun h => absurd hc h⟩⟩
  | ok hc => exact ⟨⟨nofun, fun h => absurd h hc⟩, ⟨fun _ => hc, fun _ => ⟨_, rfl⟩⟩⟩

/-- a rejected retirement leaves the state untouched and the code is PROTOCOL_VIOLATION -/
theorem cid_state_retirement_err_class (s : State) (seq limit : Nat) (s' : State) (c k : Nat)
    (h : onCidRetirement s seq limit = (s', .err c k)) : s' = s ∧ c = Gen.codeProtocolViolation :=
  onCidRetirement_err s seq limit s' c k h

/-- FULL statement "unissued sequence numbers are rejected" (RFC 9000 §19.16: greater than any previously sent) -/
def cid_state_rejects_unissued_statement : Prop :=
  ∀ (s : State) (seq limit : Nat), s.cidLen ≠ 0 → seq ≥ s.issued →
    ∃ k, (onCidRetirement s seq limit).2 = .err Gen.codeProtocolViolation k

/-- witness: one CID issued (sequence 0), the peer retires sequence 1 -/
def cid_state_unissued_witness : State × Nat × Nat := (⟨[], 1, [0], 0, 0, 8, none⟩, 1, 2)

/-- the code compares `sequence > self.issued` (a count), so `sequence == issued` passes: harmless (the set is
    unchanged and `Endpoint` issues nothing because the CID does not exist), but not the RFC's rule -/
theorem cid_state_rejects_unissued_counterexample : ¬ cid_state_rejects_unissued_statement := by
  intro h
  obtain ⟨k, hk⟩ := h cid_state_unissued_witness.1 1 2 (by decide) (by decide)
  have e : (onCidRetirement cid_state_unissued_witness.1 1 2).2 = .ok true := by decide
  rw [e] at hk
  cases hk

/-- the part that holds: every sequence number above the issued count is rejected -/
theorem cid_state_rejects_unissued_partial (s : State) (seq limit : Nat) (h0 : s.cidLen ≠ 0) (h : seq > s.issued) :
    ∃ k, (onCidRetirement s seq limit).2 = .err Gen.codeProtocolViolation k :=
  (cid_state_retirement_decision s seq limit).1.mpr (Or.inr h)

/-- over ALL sequences of RETIRE_CONNECTION_ID frames (any peer-chosen sequence numbers, any order, duplicates) and
    PushNewCid timer expiries, with `Endpoint` issuing a CID exactly when told: never a panic (the
    `debug_assert!` in `track_lifetime` and the u64 additions are unreachable), and the number of
    issued-and-active CIDs stays ≤ limit + 1, and ≤ limit when no CID lifetime is configured -/
theorem cid_state_retirement_no_panic_bounded (limit : Nat) (s : State) (hI : CidState.Inv s)
    (hK : s.activeSeq.length ≤ limit) (ops : List CidState.Op) (hov : s.issued + ops.length < 2^64) :
    ∃ s', CidState.run limit s ops = some s' ∧ CidState.Inv s' ∧ s'.activeSeq.length ≤ limit + 1 ∧
      (s.cidLifetime = none → s'.activeSeq.length ≤ limit) := by
  obtain ⟨s', h, hI', hK', hl⟩ := run_spec limit ops s hI (Or.inl hK) hov
  have := WithinLimit.bound limit s' hI' hK'
  exact ⟨s', h, hI', this.1, fun h0 => this.2 (by rw [hl]; exact h0)⟩

/-- the test-only `assign_retire_seq` (`#[cfg(test)]`, unreachable from peers; modelled, not tied): it panics unless a CID
    is active, `v ≤ max + 1` and `v ≥ retire_seq` -/
theorem cid_state_assign_retire_seq_decision (s : State) (v : Nat) :
    (∃ r, assignRetireSeq s v = some r) ↔
      ∃ m, s.activeSeq.max? = some m ∧ m + 1 < 2^64 ∧ v ≤ m + 1 ∧ s.retireSeq ≤ v := by
  fun_cases assignRetireSeq s v
  next hm => exact ⟨nofun, fun ⟨_, h, _⟩ => nomatch hm.symm.trans h⟩
  next m hm h1 =>
    exact ⟨nofun, fun ⟨_, h, h1', _⟩ => by cases hm.symm.trans h; exact absurd h1' (Nat.not_lt.mpr h1)⟩
  next m hm _ h2 => exact ⟨nofun, fun ⟨_, h, _, h2', _⟩ => by cases hm.symm.trans h; exact absurd h2' h2⟩
  next m hm _ _ h3 =>
    exact ⟨nofun, fun ⟨_, h, _, _, h3'⟩ => by cases hm.symm.trans h; exact absurd h3' (Nat.not_le.mpr h3)⟩
  next m hm h1 h2 h3 =>
    exact ⟨fun _ => ⟨m, hm, Nat.lt_of_not_le h1, Decidable.not_not.mp h2, Nat.le_of_not_lt h3⟩, fun _ => ⟨_, rfl⟩⟩

-- non-vacuity: limit 3, lifetime 5 ns; retire active / unknown / future numbers, rotate on timeout
example : (CidState.run 3 ⟨[⟨2, 10⟩], 3, [0, 1, 2], 0, 0, 8, some 5⟩
    [.retire 1 20, .retire 7 21, .timeout 30, .retire 3 31, .retire 0 32, .timeout 40]).map (·.activeSeq) =
    some [2, 4, 5] := by decide

end cidstate

/-! ## `ackfreq` — connection/ack_frequency.rs `AckFrequencyState` -/
section ackfreq
open QM.AckFrequency

/-- `candidate_max_ack_delay` never panics: for EVERY state, rtt, local config and peer `min_ack_delay` (whatever
    `TransportParameters::read` let through) the clamp is well formed, and the requested delay lies in
    `[peer min_ack_delay, max(rtt, MIN_AUTOMATIC_ACK_DELAY, peer min_ack_delay)]`.
    (DESIGN §7 F1 — a peer `min_ack_delay` above `max(rtt, 25 ms)` used to reach `clamp(min, max)` with min > max — is
    fixed in quinn; `corpus/ackfreq/F1.ops` replays the old witness on every run.) -/
theorem candidate_max_ack_delay_no_panic (s : State) (rtt : Nat) (cfg peerMin : Option Nat) :
    ∃ d, candidateMaxAckDelay s rtt cfg peerMin = some d ∧
      minAckDelayNs peerMin ≤ d ∧ d ≤ Gen.candidateUpper rtt (minAckDelayNs peerMin) :=
  candidate_some s rtt cfg peerMin

/-- the requested delay is the configured one (or the peer's current one) moved to the nearer end of that interval -/
theorem candidate_max_ack_delay_value (s : State) (rtt : Nat) (cfg peerMin : Option Nat) :
    candidateMaxAckDelay s rtt cfg peerMin =
      some (min (max (match cfg with | some d => d | none => s.peerMaxAckDelay) (minAckDelayNs peerMin))
        (Gen.candidateUpper rtt (minAckDelayNs peerMin))) :=
  candidate_value s rtt cfg peerMin

/-- `should_send_ack_frequency` never panics, whatever the f32 comparison yields -/
theorem should_send_ack_frequency_no_panic (fdec : Nat → Nat → Bool) (s : State) (rtt : Nat) (cfg peerMin : Option Nat) :
    ∃ b, shouldSendAckFrequency fdec s rtt cfg peerMin = some b :=
  shouldSend_some fdec s rtt cfg peerMin

/-- `ack_frequency_received` is total (no panic outcome exists) and its result is decided exactly: a sequence number
    not above the highest seen is ignored; otherwise a requested delay below TIMER_GRANULARITY is PROTOCOL_VIOLATION;
    otherwise the frame is applied -/
theorem ack_frequency_received_total (s : State) (thr : Nat × Nat) (seq aet req reord : Nat) :
    (ackFrequencyReceived s thr seq aet req reord).2.2 =
      if (∃ h, s.lastFrame = some h ∧ seq ≤ h) then .ok false
      else if req * 1000 < Gen.timerGranularityNs then .err Gen.codeProtocolViolation
      else .ok true :=
  recv_decision s thr seq aet req reord

/-- sequence-number handling: ignored frames change nothing; every other frame records its (strictly larger)
    sequence number; applied frames install exactly the requested values -/
theorem ack_frequency_received_sequence (s : State) (thr : Nat × Nat) (seq aet req reord : Nat) :
    ((ackFrequencyReceived s thr seq aet req reord).2.2 = .ok false →
      (ackFrequencyReceived s thr seq aet req reord).1 = s ∧ (ackFrequencyReceived s thr seq aet req reord).2.1 = thr) ∧
    ((ackFrequencyReceived s thr seq aet req reord).2.2 ≠ .ok false →
      (ackFrequencyReceived s thr seq aet req reord).1.lastFrame = some seq ∧ ∀ h, s.lastFrame = some h → h < seq) ∧
    ((ackFrequencyReceived s thr seq aet req reord).2.2 = .ok true →
      (ackFrequencyReceived s thr seq aet req reord).1.maxAckDelay = req * 1000 ∧
      (ackFrequencyReceived s thr seq aet req reord).2.1 = (aet, reord) ∧ req * 1000 ≥ Gen.timerGranularityNs) := by
  rw [recv_eq]
  by_cases hs : ∃ h, s.lastFrame = some h ∧ seq ≤ h
  · rw [if_pos hs]
    exact ⟨fun _ => ⟨rfl, rfl⟩, fun h => absurd rfl h, fun h => by simp at h⟩
  · have hlt : ∀ h, s.lastFrame = some h → h < seq := by
      intro h e
      have hn : ¬ seq ≤ h := fun hh => hs ⟨h, e, hh⟩
      omega
    rw [if_neg hs]
    by_cases hg : req * 1000 < Gen.timerGranularityNs
    · rw [if_pos hg]
      exact ⟨fun h => by simp at h, fun _ => ⟨rfl, hlt⟩, fun h => by simp at h⟩
    · rw [if_neg hg]
      exact ⟨fun h => by simp at h, fun _ => ⟨rfl, hlt⟩, fun _ => ⟨rfl, rfl, by omega⟩⟩

/-- over ALL event sequences — any ACK_FREQUENCY frames, any acknowledged packet numbers, PTO queries and
    `poll_transmit`s at ANY rtt, for any peer parameters and local config — no panic (fewer than 2^62 polls:
    the `assert!` of `next_sequence_number`) -/
theorem ackfreq_no_panic (fdec : Nat → Nat → Bool) (s : State) (e : Env) (ops : List AckFrequency.Op)
    (hn : s.nextSeq + ops.length ≤ 2^62) :
    ∃ r, AckFrequency.run fdec s e ops = some r :=
  run_some fdec ops s e (by simp only [varIntMax]; omega)

-- non-vacuity: the F1 witness (peer min_ack_delay 500 ms, rtt 100 ms) yields the peer's minimum, and a poll with it
-- sends the frame
example : candidateMaxAckDelay { AckFrequency.new 25000000 with peerMaxAckDelay := 1000000000 } 100000000 none (some 500000)
    = some 500000000 := by decide
example : candidateMaxAckDelay { AckFrequency.new 25000000 with peerMaxAckDelay := 1000000000 } 100000000 none (some 2000)
    = some 100000000 := by decide
example : AckFrequency.poll (fun _ _ => true) { AckFrequency.new 25000000 with peerMaxAckDelay := 1000000000 }
    ⟨none, some 500000, (1, 1)⟩ 100000000 7 =
    some { AckFrequency.new 25000000 with peerMaxAckDelay := 1000000000, nextSeq := 1, inFlight := some (7, 500000000) } := by
  decide

end ackfreq

/-! ## `ackscan` — frame.rs ACK parsing: `scan_ack_blocks`, `AckIter`, the ACK arm of `Iter::try_next` -/
section ackscan
open QM.Ack

/-- `scan_ack_blocks` is a total function of ANY byte string, block count and `largest` (it is a Lean function with
    two error outcomes and no panic outcome); whenever it accepts, the byte count it returns lies within the
    buffer (so `bytes.split_to(n)` cannot panic) and is at least `2n + 1` -/
theorem scan_ack_blocks_bounded (buf : Bytes) (largest n k : Nat) (h : scanAckBlocks buf largest n = .ok k) :
    k ≤ buf.length ∧ 2 * n + 1 ≤ k :=
  ⟨(scanAckBlocks_spec buf largest n k h).1, (scanAckBlocks_spec buf largest n k h).2.1⟩

/-- a peer-chosen block count cannot make the scan run past the input: counts above `(len - 1) / 2` are rejected -/
theorem scan_ack_blocks_count_bounded (buf : Bytes) (largest n : Nat) (hn : buf.length < 2 * n + 1) :
    ∃ e, scanAckBlocks buf largest n = .error e :=
  scanAckBlocks_bounded_iterations buf largest n hn

/-- for ALL byte strings: whenever the scan accepts, iterating the accepted bytes with `AckIter` never panics —
    every step has `largest ≥ block + gap + 2` and `largest ≥ block`, no `unwrap` on a short read — and yields
    exactly `extra_blocks + 1` ranges, descending and disjoint, the first ending at `largest` -/
theorem ack_iter_no_underflow (buf : Bytes) (largest n k : Nat) (h : scanAckBlocks buf largest n = .ok k) :
    ∃ ranges, iterAll (k + 1) largest (buf.take k) = some ranges ∧ ranges.length = n + 1 ∧ Chain ranges ∧
      ranges.head?.map (·.2) = some largest :=
  (scanAckBlocks_spec buf largest n k h).2.2

/-- the ACK / ACK_ECN arm of the frame iterator on ANY payload: if it yields a frame, strictly fewer bytes remain
    (progress), and `Ack::iter` on that frame never panics and yields ≥ 1 descending disjoint ranges -/
theorem ack_frame_decode_safe (ty : Nat) (bs : Bytes) (f : AckFrame) (rest : Bytes)
    (h : decodeAckBody ty bs = .ok (f, rest)) :
    rest.length < bs.length ∧
    ∃ ranges, f.ranges = some ranges ∧ Chain ranges ∧ ranges.head?.map (·.2) = some f.largest ∧ 1 ≤ ranges.length :=
  decodeAckBody_spec ty bs f rest h

-- non-vacuity: largest 10, blocks: first 1, (gap 0, block 2), (gap 1, block 0); bytes 01 00 02 01 00, tail ff
example : scanAckBlocks [1, 0, 2, 1, 0, 0xff] 10 2 = .ok 5 := rfl
example : iterAll 6 10 [1, 0, 2, 1, 0] = some [(9, 10), (5, 7), (2, 2)] := by decide
example : scanAckBlocks [1, 0, 2, 1, 0] 6 2 = .error .malformed := rfl

end ackscan

/-! ## `pathresp` — connection/paths.rs `PathResponses` -/
section pathresp
open QM.PathResponses

/-- over ALL sequences of PATH_CHALLENGE arrivals (any packet numbers, tokens and — possibly spoofed — remote
    addresses) and pops: the model has no panic outcome, the queue never exceeds MAX_PATH_RESPONSES entries and holds
    at most one response per remote address -/
theorem path_responses_bounded (ops : List PathResponses.Op) :
    (PathResponses.run [] ops).length ≤ Gen.maxPathResponses ∧
    ((PathResponses.run [] ops).map (·.remote)).Nodup :=
  ⟨(PathResponses.run_inv ops [] init_inv).bound, (PathResponses.run_inv ops [] init_inv).distinct⟩

-- non-vacuity: an update in place, an ignored older packet, and a pop
example : PathResponses.run [] [.push 5 100 1, .push 6 200 2, .push 7 300 1, .push 4 400 2, .popOn 2] =
    [⟨7, 300, 1⟩] := by decide

end pathresp

/-! ## `pendingacks` — connection/spaces.rs `PendingAcks::{insert_one, subtract_below}` over `ArrayRangeSet` -/
section pendingacks
open QM.PendingAcks

/-- over ALL sequences of received packet numbers (< 2^62, any order, duplicates, gaps) and `subtract_below` calls:
    never a panic (`x + 1`, `max + 1`), the number of pending ACK ranges never exceeds MAX_ACK_BLOCKS, and the set stays
    sorted, disjoint and non-adjacent (the representation invariant `ArrayRangeSet` relies on) -/
theorem pending_acks_bounded (ops : List PendingAcks.Op) (hv : ∀ op ∈ ops, op.valid) :
    ∃ s', PendingAcks.run PendingAcks.init ops = some s' ∧ s'.ranges.length ≤ Gen.maxAckBlocks ∧ WF s'.ranges :=
  run_bound ops PendingAcks.init (Nat.zero_le _) ⟨nofun, .nil⟩ hv

/-- `ArrayRangeSet::insert` / `remove` keep the representation invariant for arbitrary ranges (also empty or inverted) -/
theorem array_range_set_invariant (l : RangeSet) (x : Range) (h : WF l) :
    WF (rsInsert l x).1 ∧ WF (rsRemove l x).1 ∧ WF (rsPopMin l).1 :=
  ⟨rsInsert_wf l x h, rsRemove_wf l x h, rsPopMin_wf l h⟩

-- non-vacuity: reordering, a bridging insert, and a subtract that cuts into a range
example : (PendingAcks.run PendingAcks.init [.insert 5 0, .insert 9 1, .insert 7 2, .insert 6 3, .insert 8 4, .insert 1 5, .sub 6]).map (·.ranges)
    = some [(7, 10)] := by decide

end pendingacks

end QM.Props.C03
