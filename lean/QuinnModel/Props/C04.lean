import QuinnModel.Lemmas.Dedup
import QuinnModel.Lemmas.Receive
/-
C04 — Only authentic packets are acted on, each at most once.
Core: the duplicate filter.  `accepted d ps` lists the packet numbers reported "not a duplicate"
(= whose frames the connection goes on to process) over an arbitrary delivery sequence `ps`.
Then the receive pipeline (`Conn/Receive.lean`, ideal AEAD): what is processed, and the stateless-reset, Retry and
Version Negotiation decisions.
-/
namespace QM.Props.C04
open QM QM.Dedup

/-- at most once: over ANY delivery sequence (any duplication, replay, reordering, jumps) no packet
    number is accepted twice -/
theorem dedup_at_most_once (ps : List Nat) : (accepted init ps).Nodup :=
  (accepted_fresh ps init (fun _ => False) init_inv).1

/-- the filter refines the set of numbers seen so far: one step -/
theorem dedup_refines_set (d : Dedup) (seen : Nat → Prop) (h : Inv d seen) (p : Nat) :
    Inv (insert d p).1 (fun q => seen q ∨ q = p) ∧ ((insert d p).2 = false → ¬ seen p) :=
  ⟨insert_preserves d seen h p, fun hnd => insert_not_dup_fresh d seen h p hnd⟩

/-- receive pipeline (ideal AEAD): over ANY sequence of datagrams — genuine, replayed, reordered, forged,
    truncated, unprotected — the packets whose frames are processed were authentic protected packets, and no
    packet number is processed twice (first packet of a connection included: see the T1 anchor on
    `handle_first_packet`) -/
theorem processed_implies_authentic_fresh (ps : List Receive.Pkt) (c : Receive.C) (hd : c.dedup = Dedup.init) :
    (Receive.processedPns (Receive.run c ps)).Nodup ∧
    ∀ (c' : Receive.C) (p : Receive.Pkt) (n : Nat), (Receive.step c' p).2 = .processed n →
      p.kind = .protectedPkt ∧ p.authentic = true ∧ n = p.pn := by
  refine ⟨(Receive.processed_fresh ps c (fun _ => False) (by rw [hd]; exact init_inv)).1, ?_⟩
  intro c' p n
  exact Receive.step_elim (P := fun r => r.2 = .processed n → _) c' p (fun _ => nofun) (fun _ _ => nofun)
    (fun hk ha _ _ _ h => ⟨hk, ha, (Receive.Out.processed.inj h).symm⟩) (fun _ _ => nofun) (fun _ _ => nofun)

/-- a forged, corrupted or cross-connection protected packet has no effect beyond the failure counter -/
theorem forged_no_effect (c : Receive.C) (p : Receive.Pkt) (hk : p.kind = .protectedPkt) (ha : p.authentic = false)
    (hh : p.headerOk = true) (hr : Receive.isStatelessReset p = false) :
    Receive.step c p = ({ c with authFailures := c.authFailures + 1 }, .dropped) :=
  Receive.forged_no_effect c p hk ha hh hr

/-- the only unauthenticated input that ends an established connection: a datagram of at least
    RESET_TOKEN_SIZE + 5 bytes whose last 16 bytes are the token the peer issued for the CID in use -/
theorem reset_iff_token (c : Receive.C) (p : Receive.Pkt) :
    (Receive.step c p).2 = .statelessReset ↔
      (p.len ≥ Gen.resetTokenSize + Gen.resetMinLenExtra ∧ p.endsWithResetToken = true) := by
  have key : (Receive.step c p).2 = .statelessReset ↔ Receive.isStatelessReset p = true :=
    ⟨Receive.step_elim (P := fun r => r.2 = .statelessReset → Receive.isStatelessReset p = true) c p (fun h _ => h) (fun _ _ => nofun)
      (fun _ _ _ _ _ => nofun) (fun _ _ => nofun) (fun _ _ => nofun), fun h => by rw [Receive.step_reset c p h]⟩
  rw [key, Receive.isStatelessReset, Bool.and_eq_true, decide_eq_true_eq]

/-- a Retry is followed iff: client, still handshaking, no other server packet processed, non-empty token,
    integrity tag verifies — and at most once -/
theorem retry_accept_iff (c : Receive.C) (p : Receive.Pkt) (hk : p.kind = .retry) (hh : p.headerOk = true)
    (hr : Receive.isStatelessReset p = false) :
    (Receive.step c p).2 = .retryFollowed ↔
      (c.handshake = true ∧ c.server = false ∧ c.authed = 0 ∧ 16 < p.retryPayloadLen ∧ p.authentic = true) :=
  Receive.retry_followed_iff c p hk hh hr

theorem retry_at_most_once (c : Receive.C) (p q : Receive.Pkt) (hp : (Receive.step c p).2 = .retryFollowed) :
    (Receive.step (Receive.step c p).1 q).2 ≠ .retryFollowed := by
  intro hq
  have h1 := (Receive.retry_followed_authed c p hp).2
  have h2 := (Receive.retry_followed_authed (Receive.step c p).1 q hq).1
  omega

/-- Version Negotiation ends only an attempt that has not yet processed any server packet -/
theorem vn_accept_iff (c : Receive.C) (p : Receive.Pkt) (hk : p.kind = .versionNegotiation) (hh : p.headerOk = true)
    (hr : Receive.isStatelessReset p = false) :
    (Receive.step c p).2 = .versionMismatch ↔ (c.handshake = true ∧ c.authed = 0 ∧ p.vnListsOurVersion = false) :=
  ⟨Receive.step_elim (P := fun r => r.2 = .versionMismatch → _) c p (fun _ => nofun) (fun _ _ => nofun)
      (fun _ _ _ _ _ => nofun) (fun _ _ => nofun) (fun _ h _ => h),
    fun ⟨h1, h2, h3⟩ => by simp [Receive.step, hh, hr, hk, h1, h2, h3]⟩

-- a run with duplicates and reordering
example : accepted init [3, 1, 3, 2, 1, 200, 3, 199] = [3, 1, 2, 200, 199] := by decide

end QM.Props.C04
