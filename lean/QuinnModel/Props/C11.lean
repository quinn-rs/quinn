import QuinnModel.Lemmas.StreamsStepFx
import QuinnModel.Lemmas.StreamsRecvFrame
/-
C11 — Stream operations follow the QUIC stream state machine.

Abstract half states (`SendHalf`, `RecvHalf`: presence in the maps = non-terminal) and the result
tables (`expectedFinish`, `expectedReset`, `expectedStopped`, `expectedWrite`); every operation of
the concrete model returns what the table says for the abstraction of the state it runs in, for
every state (no reachability hypothesis needed).  Events: which operation can queue `Finished` /
`Stopped`, and under which condition.
-/
namespace QM.Props.C11
open QM QM.Streams

/-- `finish` succeeds only on an open, unstopped half (which becomes DataSent); a stopped half
    reports the peer's code; anything else is a closed stream -/
theorem finish_refines_table (s : State) (id : Nat) :
    (s.finish id).2 = (expectedFinish (absSend s id)).1 ∧
    absSend (s.finish id).1 id = (expectedFinish (absSend s id)).2 := by
  rcases finish_inv (s' := (s.finish id).1) (r := (s.finish id).2) rfl with
    ⟨hg, e1, e2⟩ | ⟨x, s1, hg, ⟨e, hf, e1, e2⟩ | ⟨x', q, hf, e1, e2⟩⟩
  · rw [e1, e2, absSend_gone_iff.mp hg]; exact ⟨rfl, rfl⟩
  · rw [e1, e2, absSend_getOrInsert hg, Send.finish_err hf]
    exact ⟨rfl, absSend_some (getOrInsertSend_spec hg).slot⟩
  · obtain ⟨f1, f2⟩ := Send.finish_ok hf
    rw [e1, e2, absSend_getOrInsert hg, f1]
    exact ⟨rfl, (absSend_putSend (getOrInsertSend_spec hg).slot).trans f2⟩

/-- `reset` succeeds on every half that is present and not yet reset, which becomes ResetSent -/
theorem reset_refines_table {s s' : State} {id code : Nat} {b : Bool} (h : s.reset id code = some (s', b)) :
    b = (expectedReset (absSend s id)).1 ∧ absSend s' id = (expectedReset (absSend s id)).2 :=
  reset_table h

/-- `stopped` reports the STOP_SENDING code while the half exists, a closed stream afterwards -/
theorem stopped_refines_table (s : State) (id : Nat) : s.stopped id = expectedStopped (absSend s id) := by
  unfold State.stopped absSend
  cases hf : s.send.find? id with
  | none => rfl
  | some v =>
    cases v with
    | none => rfl
    | some x => exact (expectedStopped_ofSend x).symm

/-- `write` on a live connection: the result is determined by the abstract state of the half
    (`expectedWrite`, written from the property text): `Stopped(code)` on a half the peer stopped, a
    closed stream after finish / reset / full acknowledgement — in both cases WHATEVER the
    connection-level credit and send window are —, and on an open unstopped half `Blocked` iff there
    is no room, else exactly `min(n, room)` bytes -/
theorem write_refines_table {s s' : State} {id n : Nat} {r : Except WriteErr Nat}
    (h : s.write id n = some (s', r)) (hc : s.connClosed = false) :
    r = expectedWrite
          (Nat.min (Gen.writeLimit s.maxData s.dataSent s.sendWindow s.unackedData) (streamCredit s id))
          n (absSend s id) := by
  -- the order of the tests in `write`: closed, stopped, then (`write_decision`) the credit
  rcases write_cases h with ⟨hc', _⟩ | ⟨limit, _, _, ⟨hg, _, rfl⟩ | ⟨x, s1, hg, hb⟩⟩
  · rw [hc] at hc'; cases hc'
  · rw [absSend_gone_iff.mp hg]; rfl
  have hcr : streamCredit s id = x.maxData - x.pending.offset := by
    unfold streamCredit
    rcases (getOrInsertSend_spec hg).origin with hh | ⟨hh, hx⟩
    · rw [hh]
    · rw [hh, hx]; rfl
  rw [absSend_getOrInsert hg, hcr]
  have live : x.closedFirst = false → x.stoppedFirst = none → r = expectedWrite (s.writeCredit x) n (SendHalf.ofSend x) := by
    intro hcf hsf
    have hw : x.isWritable = true := by
      cases hh : x.isWritable
      · rw [closedFirst_iff.mpr hh] at hcf; cases hcf
      · rfl
    have hsr : x.stopReason = none := (stoppedFirst_none.mp hsf).resolve_left (by rw [hw]; nofun)
    rw [write_decision h hg hc hw hsr, ofSend_writable hw, hsr]; rfl
  rcases hb with ⟨hcf, _, rfl⟩ | ⟨_, c, hsf, _, rfl⟩ | ⟨hcf, hsf, _⟩ | ⟨hcf, hsf, _⟩
  · exact (expectedWrite_closed (closedFirst_iff.mp hcf) _ _).symm
  · obtain ⟨hw, hsr⟩ := stoppedFirst_some.mp hsf
    rw [ofSend_writable hw, hsr]; rfl
  · exact live hcf hsf
  · exact live hcf hsf

/-- after finish or reset (or once the half is gone) every write reports a closed stream, also with
    the connection-level credit exhausted: it is never `Blocked`, which would park the writer for a
    `Writable` event that cannot come -/
theorem write_on_closed_half {s s' : State} {id n : Nat} {r : Except WriteErr Nat}
    (h : s.write id n = some (s', r)) (hc : s.connClosed = false)
    (ha : (∃ c, absSend s id = .dataSent c) ∨ (∃ c, absSend s id = .resetSent c) ∨ absSend s id = .gone) :
    r = .error .closedStream := by
  have := write_refines_table h hc
  rcases ha with ⟨c, ha⟩ | ⟨c, ha⟩ | ha <;> (rw [ha] at this; simpa [expectedWrite] using this)

/-- while the connection is closing every write is `Blocked` and changes nothing (C11 speaks about
    the halves of a live connection) -/
theorem write_on_closing_connection {s s' : State} {id n : Nat} {r : Except WriteErr Nat}
    (h : s.write id n = some (s', r)) (hc : s.connClosed = true) : r = .error .blocked ∧ s' = s := by
  unfold State.write at h
  rw [if_pos hc] at h
  cases h
  exact ⟨rfl, rfl⟩

/-- a writable send half the peer has stopped (`stop_reason = Some(c)`) reports `Stopped(c)` on an
    open connection whatever the connection-level credit and send window are: in particular not
    `Blocked` when they are exhausted, which would park the writer on a `Writable` event that never
    comes (a stopped stream gets no further MAX_STREAM_DATA) -/
theorem write_on_stopped_stream {s s' : State} {id n c : Nat} {r : Except WriteErr Nat}
    (h : s.write id n = some (s', r)) (hc : s.connClosed = false)
    (ha : absSend s id = .ready (some c)) : r = .error (.stopped c) := by
  have := write_refines_table h hc
  rw [ha] at this
  simpa [expectedWrite] using this

/-- the same on the concrete half -/
theorem write_on_stopped_half {s s' s1 : State} {id n c : Nat} {x : Send} {r : Except WriteErr Nat}
    (h : s.write id n = some (s', r)) (hc : s.connClosed = false)
    (hg : s.getOrInsertSend id = some (x, s1)) (hw : x.isWritable = true) (hs : x.stopReason = some c) :
    r = .error (.stopped c) := by
  apply write_on_stopped_stream h hc
  rw [absSend_getOrInsert hg, ofSend_writable hw, hs]

/-- `read`: a closed or stopped half reports a closed stream; an open half never reports a reset; a
    reset half delivers no data before reporting the peer's code -/
theorem read_refines_table {s s' : State} {id budget : Nat} {res : ReadRes}
    (h : s.read id budget = some (s', res)) :
    match absRecv s id with
    | .gone | .stopped => res = .closedStream
    | .open_ _ => ∃ k e t, res = .ok k e t ∧ ∀ c, e ≠ .reset c
    | .resetRecvd c => ∃ k e t, res = .ok k e t ∧ (e = .more ∨ (k = 0 ∧ e = .reset c)) := by
  rcases read_inv h with ⟨hg, _, rfl⟩ | ⟨rs, s1, hg, hb⟩
  · rw [absRecv_gone_iff.mp hg]
  rw [absRecv_getOrInsert hg]
  unfold RecvHalf.ofRecv
  rcases hb with ⟨hst, _, rfl⟩ | ⟨k, rs1, e, fr, _, _, _, _, _, _, _, hst, _, rfl, hre, _, _, _, _, _, rfl⟩
  · rw [hst]; rfl
  rw [hst]
  simp only [Bool.false_eq_true, ↓reduceIte]
  unfold Recv.readEnd at hre
  cases hs : rs.state with
  | recv sz =>
    simp only [hs] at hre ⊢
    refine ⟨_, _, _, rfl, fun c hc => ?_⟩
    split at hre
    · cases hre; cases hc
    · split at hre <;> (cases hre; cases hc)
  | resetRecvd sz c =>
    simp only [hs] at hre ⊢
    split at hre
    · cases hre; exact ⟨_, _, _, rfl, Or.inl rfl⟩
    · split at hre
      · cases hre; exact ⟨_, _, _, rfl, Or.inr ⟨‹_›, rfl⟩⟩
      · cases hre

/-- exactly one terminal outcome: a read that ends with end-of-stream or with the reset code frees
    the half, and reads on a freed stream report a closed stream -/
theorem one_terminal_outcome {s s' : State} {id budget k : Nat} {e : ReadEnd} {t : Bool}
    (h : s.read id budget = some (s', .ok k e t)) (ht : e = .fin ∨ ∃ c, e = .reset c) :
    s'.rv id = none ∧ ∀ (s2 : State) (b : Nat), s2.recv.find? id = none → s2.read id b = some (s2, .closedStream) := by
  refine ⟨?_, fun _ _ hf => read_closed hf⟩
  rcases read_inv h with ⟨_, _, hr⟩ | ⟨rs, s1, hg, ⟨_, _, hr⟩ |
    ⟨k, rs1, e, fr, s3, s4, t0, s5, t01, s6, t2, _, _, _, hre, h3, h4, h5, h6, rfl, hr⟩⟩
  · cases hr
  · cases hr
  cases hr
  cases readEnd_terminal hre ht
  obtain ⟨_, _, rfl⟩ := addReadCredits_fields h6
  obtain rfl : s5 = s4 := by unfold State.finalizeReadable at h5; rw [if_pos rfl] at h5; cases h5; rfl
  -- the half was taken out of the map; neither `stream_recv_freed` nor `queue_max_stream_id` instantiates one
  exact (rv_of_rvw ((queueMaxStreamId_spec h4).trans (rvw_streamRecvFreed h3)) id).trans ((rv_erase s1 id id).trans (if_pos rfl))

/-- `stop` succeeds exactly on a present, not yet stopped half -/
theorem stop_refines_table {s s' : State} {id code : Nat} {b : Bool} (h : s.stop id code = some (s', b)) :
    b = (match absRecv s id with
      | .gone | .stopped => false
      | _ => true) := by
  rcases stop_inv h with ⟨hg, _, rfl⟩ | ⟨rs, s1, hg, ⟨hst, _, rfl⟩ | ⟨_, _, _, _, _, _, hst, _, _, _, rfl⟩⟩
  · rw [absRecv_gone_iff.mp hg]
  all_goals
    rw [absRecv_getOrInsert hg]
    unfold RecvHalf.ofRecv
    rw [hst]
  · rfl
  · simp only [Bool.false_eq_true, ↓reduceIte]
    cases rs.state <;> rfl

/-- `received_reset` reports the code of a reset half once (the half is then gone), nothing on an
    open half, and a closed stream otherwise -/
theorem received_reset_refines_table {s s' : State} {id : Nat} {r : Option (Option Nat)}
    (h : s.recvReceivedReset id = some (s', r)) :
    r = (match absRecv s id with
      | .gone | .stopped => none
      | .open_ _ => some none
      | .resetRecvd c => some (some c)) ∧
    (∀ c, r = some (some c) → s'.rv id = none) := by
  rcases recvReceivedReset_inv h with ⟨_, hn, hr⟩ | ⟨_, _, s1, _, ha, _, h1, h2, rfl⟩
  · exact ⟨hr, fun c hc => absurd hc (hn c)⟩
  · exact ⟨by rw [ha], fun _ _ => (rv_of_rvw ((queueMaxStreamId_spec h2).trans (rvw_streamRecvFreed h1)) id).trans
      ((rv_erase s id id).trans (if_pos rfl))⟩

/-- `Finished` is queued only by the acknowledgement that completes a finished stream (the
    application had called `finish`, the FIN is acknowledged, no byte is left unacknowledged), and the
    stream's state is dropped at that moment; `Stopped` is queued only by a STOP_SENDING frame on a
    half that had no stop reason, which is then recorded; `poll` hands out at most the oldest queued
    event; no other operation touches these events -/
theorem finished_stopped_events {s s' : State} {o : Op} {out : Out} (h : step s o = some (s', out))
    (hr : o.isRestart = false) :
    s'.fsw = s.fsw ∨
    (o = .poll ∧ ∃ ev, s.fsw = ev :: s'.fsw) ∨
    (∃ id a e fin, o = .ack id a e fin ∧ s'.fsw = s.fsw ++ [.finished id] ∧ s'.cv id = none ∧
      ∃ x x', s.send.find? id = some (some x) ∧ x.ack a e fin = some (x', true)) ∨
    (∃ id code, o = .stopSending id code ∧ s'.fsw = s.fsw ++ [.stopped id code] ∧
      expectedStopped (absSend s id) = some none ∧ expectedStopped (absSend s' id) = some (some code)) := by
  cases (fx_step h hr).ev with
  | emit hne l em he hf =>
    have q : s'.fsw = s.fsw ++ l.filter isFinStop := by rw [fsw_view, fsw_view, he, List.filter_append]
    cases em with
    | nothing => exact Or.inl (q.trans (List.append_nil _))
    | readable id hd => exact Or.inl (q.trans (List.append_nil _))
    | finished id a e fin ho d h1 hc => exact Or.inr (Or.inr (Or.inl ⟨id, a, e, fin, ho, q, hc, h1⟩))
    | stopped id code ho h1 h2 => exact Or.inr (Or.inr (Or.inr ⟨id, code, ho, q, h1, h2⟩))
  | poll ho e hout hp =>
    have := poll_fsw hp
    cases e with
    | none => exact Or.inl this
    | some ev =>
      simp only [Option.toList, List.filter_cons, List.filter_nil] at this
      split at this
      · exact Or.inr (Or.inl ⟨ho, ev, this.symm⟩)
      · exact Or.inl this

/-- what "completes a finished stream" means -/
theorem finished_only_after_full_ack {x x' : Send} {a e : Nat} {fin : Bool} (h : x.ack a e fin = some (x', true)) :
    (∃ fa, x.state = .dataSent fa ∧ (fa || fin) = true) ∧ x'.state = .dataSent true ∧
    x'.pending.unackedLen = 0 :=
  Send.ack_done h

/-- a remotely initiated stream stops counting against the concurrency limit exactly when its last
    half is freed (its other half is already gone, or it has only one), not before -/
theorem remote_count_release {s s' : State} {id : Nat} {half : Half} (h : s.freeRemote id half = some s') :
    (sidInitiator id ≠ s.side ∧ s.fullyFree id half = true ∧ 1 ≤ s.allocatedRemoteCount.get (sidDir id) ∧
      s'.allocatedRemoteCount.get (sidDir id) =
        Nat.max (s.allocatedRemoteCount.get (sidDir id) - 1) (s.maxConcurrentRemoteCount.get (sidDir id))) ∨
    (¬ (sidInitiator id ≠ s.side ∧ s.fullyFree id half = true) ∧ s' = s) := by
  refine (freeRemote_inv h).imp_left fun ⟨hr, hff, c, h1, he⟩ => ⟨hr, hff, by omega, ?_⟩
  have := (ensureRemoteStreams_count he).1
  simp only [Two.get_set, ↓reduceIte] at this
  rw [this, ← h1]; rfl

/-- a history that walks one bidirectional stream through its life: opened, written, finished,
    transmitted, acknowledged (Finished), and on the receive side data, FIN, read to the end -/
def lifeWitness : Option (State × Hist) :=
  runOps State.initial [] [.new ⟨.client, 2, 2, 1000, 1000, 1000⟩, .params ⟨100, 100, 100, 4, 4, 1000⟩,
    .open_ .bi, .write 0 10, .finish 0, .transmit 1200 true, .ack 0 0 10 true,
    .stream 0 0 5 true, .read 0 100]

-- non-vacuity: Finished is queued once, both halves are gone, later operations report a closed stream
example : (lifeWitness.map fun r => r.1.fsw) = some [.finished 0] := by decide
example : (lifeWitness.map fun r => (absSend r.1 0, absRecv r.1 0)) = some (.gone, .gone) := by decide
example : (lifeWitness.map fun r => (r.1.stopped 0, (expectedFinish (absSend r.1 0)).2)) = some (none, .gone) := by
  decide

/-- the write-after-stop history (corpus/streams/write-after-stop.ops): the send window (100) is
    used up, the peer stops the stream, the application polls the `Stopped` event; every later write
    reports `Stopped(7)`, with the window still exhausted and after the acknowledgement reopened it -/
def writeAfterStop : Option (State × Hist) :=
  runOps State.initial [] [.new ⟨.client, 10, 10, 100, 1000000, 1000⟩, .params ⟨100, 100, 100, 10, 10, 100000⟩,
    .open_ .uni, .write 2 100, .write 2 1, .stopSending 2 7, .poll, .write 2 1, .ack 2 0 100 false,
    .poll, .poll, .write 2 1]

example : (writeAfterStop.map fun r => r.2.reverse.map (·.2)) =
    some [.ok, .ok, .okNat 2, .okNat 100, .errWrite .blocked, .ok, .event (.stopped 2 7),
      .errWrite (.stopped 7), .ok, .none_, .none_, .errWrite (.stopped 7)] := by decide

/-- the write-on-closed-half history (corpus/streams/write-on-closed-half.ops): connection credit 10
    used up, stream 3 finished, stream 7 reset: writes on both report a closed stream at once, and
    again after MAX_DATA reopened the connection; nothing is parked in `connection_blocked` -/
def writeOnClosedHalf : Option (State × Hist) :=
  runOps State.initial [] [.new ⟨.server, 2, 2, 1000, 1000, 1000⟩, .params ⟨100, 100, 100, 2, 2, 10⟩,
    .open_ .uni, .open_ .uni, .write 3 10, .finish 3, .reset 7 5, .write 3 1, .write 7 1, .maxData 1000,
    .poll, .write 3 1, .write 7 1]

example : (writeOnClosedHalf.map fun r => (r.2.reverse.map (·.2), r.1.connectionBlocked)) =
    some ([.ok, .ok, .okNat 3, .okNat 7, .okNat 10, .ok, .ok, .errWrite .closedStream,
      .errWrite .closedStream, .ok, .none_, .errWrite .closedStream, .errWrite .closedStream], []) := by decide

end QM.Props.C11
