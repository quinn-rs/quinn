import QuinnModel.Lemmas.StreamsC05Main
/-
C05 — A sender never exceeds the limits its peer advertised.

`Reach c h s`: `s` is reachable from `StreamsState::new(c)` by the history `h` (operations with their
results, newest first): any interleaving of application calls, peer frames, acknowledgements,
losses, transmissions, window changes; `set_params` wherever it is admissible (`ParamsOk`: always as
the first operation); and the 0-RTT rejection (`Reach.rejected`) after early operations, followed by
`set_params` with arbitrary — also smaller — newly negotiated limits.  Peer limits are ghost maxima
of the values that actually arrived (`peerMaxData`, `peerStreamLimit`, `peerMaxStreams`);
`totalAccepted h` is the number of bytes `write` accepted = the sum over all streams of the highest
offset.
-/
namespace QM.Props.C05
open QM QM.Streams

/-- on every stream the highest offset never exceeds the stream limit, which never exceeds the largest
    limit the peer conveyed for that stream -/
theorem snd_stream_limit {c : Config} {h : Hist} {s : State} (r : Reach c h s) (id : Nat) (x : Send)
    (hx : s.send.find? id = some (some x)) :
    x.pending.offset ≤ x.maxData ∧ x.maxData ≤ peerStreamLimit c.side id h :=
  (reach_inv r).stream id x.credit (by simp only [State.vw, State.cv, hx])

/-- the sum of the highest offsets (= all bytes ever accepted = `data_sent`) never exceeds the largest
    connection limit conveyed, and `max_data` is exactly that largest value -/
theorem snd_conn_limit {c : Config} {h : Hist} {s : State} (r : Reach c h s) :
    s.dataSent = totalAccepted h ∧ totalAccepted h ≤ peerMaxData h ∧ s.maxData = peerMaxData h := by
  have i := reach_inv r
  exact ⟨i.sent, i.sent ▸ i.maxData ▸ i.sent_le, i.maxData⟩

/-- streams opened per direction never exceed the largest stream-count limit conveyed -/
theorem snd_stream_count {c : Config} {h : Hist} {s : State} (r : Reach c h s) (d : Dir) :
    s.next.get d ≤ peerMaxStreams d h ∧ s.max.get d = peerMaxStreams d h := by
  have i := reach_inv r
  exact ⟨i.max d ▸ i.next_le d, i.max d⟩

/-- `write` on an open, unstopped stream of an open connection returns `Blocked` exactly when the
    credit (as the code computes it: min of connection credit, send-window room and stream credit) is
    zero, and otherwise accepts exactly `min(n, credit)` bytes -/
theorem write_accepts_min {s s' s1 : State} {id n : Nat} {x : Send} {r : Except WriteErr Nat}
    (h : s.write id n = some (s', r)) (hg : s.getOrInsertSend id = some (x, s1))
    (hc : s.connClosed = false) (hw : x.isWritable = true) (hs : x.stopReason = none) :
    r = if s.writeCredit x = 0 then .error .blocked else .ok (Nat.min n (s.writeCredit x)) :=
  write_decision h hg hc hw hs

/-- `open` returns nothing exactly while no stream credit remains (or the connection is closed) -/
theorem open_none_iff {s s' : State} {d : Dir} {r : Option Nat} (h : s.open_ d = some (s', r)) :
    r = none ↔ (s.connClosed = true ∨ s.max.get d ≤ s.next.get d) :=
  Streams.open_none_iff h

/-- new writes never take `unacked_data` past the configured send window -/
theorem snd_window {s s' : State} {id n k : Nat} (h : s.write id n = some (s', .ok k)) :
    s'.unackedData = s.unackedData + k ∧ k ≤ s.sendWindow - s.unackedData := by
  obtain ⟨x, s0, hg, w⟩ := write_ok h
  refine ⟨by rw [w.unacked, getOrInsertSend_unacked hg], ?_⟩
  rw [w.amount]
  exact Nat.le_trans (Nat.min_le_right _ _) (Nat.le_trans (Nat.min_le_left _ _) (Nat.min_le_right _ _))

/-- loss, retransmission, (re)transmission and acknowledgement consume no credit: connection
    accounting and every surviving stream's offset and limit are unchanged (a half instantiated by
    the operation has offset 0) -/
theorem retransmit_not_counted {s s' : State} {o : Op} {out : Out} (h : step s o = some (s', out))
    (ho : (match o with
      | .lost .. | .transmit .. | .ack .. | .rstAck _ | .rtx0 => true
      | _ => false) = true) :
    s'.dataSent = s.dataSent ∧ s'.maxData = s.maxData ∧
    ∀ id x', s'.send.find? id = some (some x') →
      (∃ x, s.send.find? id = some (some x) ∧ x'.pending.offset = x.pending.offset ∧ x'.maxData = x.maxData) ∨
      x'.pending.offset = 0 := by
  -- the second alternative is never needed (`retransmit_sub`)
  have f := retransmit_sub h ho
  refine ⟨congrArg Core.dataSent f.core, congrArg Core.maxData f.core, fun id x' hx' => Or.inl ?_⟩
  have hh := f.old id x'.credit (by simp only [State.vw, State.cv, hx'])
  simp only [State.vw, State.cv] at hh
  split at hh
  · next x hx =>
    obtain ⟨h1, h2⟩ := Prod.mk.inj (Option.some.inj hh)
    exact ⟨x, hx, h1.symm, h2.symm⟩
  · cases hh

/-- `reset` returns the stream's unacknowledged bytes to the send window -/
theorem reset_restores_window {s s' : State} {id code : Nat} (h : s.reset id code = some (s', true)) :
    ∃ x s1 u, s.getOrInsertSend id = some (x, s1) ∧ x.pending.unacked = some u ∧
      s'.unackedData + u = s.unackedData :=
  Streams.reset_restores_window h

/-! ### 0-RTT rejection: limits restart from the newly negotiated values

All theorems above hold for histories that contain a rejection (`Reach.rejected`: early operations,
then `zero_rtt_rejected` + `set_params p` with ANY `p`, in particular smaller limits than the
remembered ones): the ghost maxima restart at the rejection, so "conveyed" then means conveyed by
the new parameters or by frames received afterwards. -/

/-- after `zero_rtt_rejected` + `set_params p` the connection-level credit is exactly the newly
    negotiated one, nothing counts as sent or unacknowledged, and stream numbering restarts -/
theorem rejected_limits_are_new {s s1 : State} (p : Params) (h : s.zeroRttRejected = some s1) :
    (s1.setParams p).maxData = p.initialMaxData ∧ (s1.setParams p).unackedData = 0 ∧
    (s1.setParams p).dataSent = 0 ∧ (s1.setParams p).next = ⟨0, 0⟩ ∧
    (s1.setParams p).max = ⟨p.initialMaxStreamsBidi, p.initialMaxStreamsUni⟩ := by
  obtain ⟨z1, z2, z3, z4, _⟩ := zeroRttRejected_scalars h
  simp only [State.setParams, State.receivedMaxData, z1, z2, z3, z4, natMax_eq, Nat.zero_max, and_self]

/-- after a rejection only the new limit counts: as long as no MAX_DATA frame arrives, everything
    written since stays within the newly negotiated `initial_max_data`, whatever was remembered -/
theorem rejected_then_bounded {c : Config} {h h' : Hist} {s' : State} {p : Params}
    (r' : Reach c (h' ++ (.params p, .ok) :: (.rejected, .ok) :: h) s')
    (hno : ∀ e ∈ h', (match e.1 with | .maxData _ | .params _ | .rejected => false | _ => true) = true) :
    s'.dataSent ≤ p.initialMaxData := by
  have i := (snd_conn_limit r')
  have hp : peerMaxData (h' ++ (.params p, .ok) :: (.rejected, .ok) :: h) = p.initialMaxData := by
    clear i r'
    induction h' with
    | nil => simp [peerMaxData]
    | cons e t ih =>
      obtain ⟨o, out⟩ := e
      have ho := hno (o, out) (List.mem_cons_self ..)
      have iht := ih (fun e he' => hno e (List.mem_cons_of_mem _ he'))
      exact (peerMaxData.eq_5 _ _ (fun _ e => by cases e; cases ho) (fun _ _ e => by cases e; cases ho)
        (fun _ _ e => by cases e; cases ho)).trans iht
  omega

-- non-vacuity: a reachable state with data written, a finished stream and credit consumed
example : ∃ s h, Reach ⟨.client, 2, 2, 1000, 1000, 1000⟩ h s ∧ s.dataSent = 250 ∧ peerMaxData h = 400 := by
  have r := reach_start ⟨.client, 2, 2, 1000, 1000, 1000⟩ ⟨100, 200, 300, 4, 5, 100⟩ (by decide)
  have r2 := reach_run' r [.open_ .bi, .write 0 150, .maxData 400, .write 0 150, .finish 0, .transmit 1200 true]
    (by decide) (by decide)
  exact ⟨_, _, r2, by decide, by decide⟩

-- non-vacuity: the history of findings F10/F11 — remembered max_data 1 000 000, 13 bytes written in 0-RTT,
-- rejected, newly negotiated max_data 2 000 — is a reachable history, and a 10 000 byte write is cut to 2 000
example : ∃ s h, Reach ⟨.client, 0, 0, 1000000, 1000000, 1000000⟩ h s ∧ s.maxData = 2000 ∧
    s.dataSent = 2000 ∧ s.unackedData = 2000 ∧ peerMaxData h = 2000 := by
  have r := reach_start ⟨.client, 0, 0, 1000000, 1000000, 1000000⟩ ⟨100000, 100000, 100000, 10, 10, 1000000⟩ (by decide)
  have r1 := reach_run' r [.open_ .bi, .write 0 13] (by decide) (by decide)
  have r2 := Reach.rejected (p := ⟨100000, 100000, 100000, 10, 10, 2000⟩) r1 (by decide)
    (Option.some_get (by decide)).symm
  have r3 := reach_run' r2 [.open_ .bi, .write 0 10000] (by decide) (by decide)
  exact ⟨_, _, r3, by decide, by decide, by decide, by decide⟩

end QM.Props.C05
