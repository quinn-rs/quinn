import QuinnModel.Lemmas.Datagrams
/-
C16 — Unreliable datagrams: intact, at most once, never oversized.

Subject: the `DatagramState` model (Data/Datagrams.lean) started from `DatagramState::default()`.
`exec init ops` is the state after ANY sequence `ops` of operations (send / received / recv / write / the
packet loop / drop_oversized / the black-hole glue / the purge, with arbitrary arguments per call); `Op.WF` only says
that a send-buffer size is a `usize` and that the maximum passed to `send` came out of `max_size()`
(< 2^62; it is in fact bounded by the u16 MTU).  Every theorem is about the next operation after an arbitrary
such prefix, or about the whole run.
-/
namespace QM.Props.C16
open QM QM.Datagrams

/-- accounting: after any run `outgoing_total` equals the payload bytes queued for sending and `recv_buffered`
    equals what the buffered incoming datagrams are charged (`recv_cost`: the length, an empty datagram one byte) -/
theorem totals_eq_sums (ops : List Op) (hw : ∀ op ∈ ops, op.WF) :
    (exec init ops).outgoingTotal = sumLen (exec init ops).outgoing
    ∧ (exec init ops).recvBuffered = sumCost (exec init ops).incoming :=
  ⟨(exec_inv ops init init_inv hw).out, (exec_inv ops init init_inv hw).inc⟩

/-- the charge of a datagram: its length, but never less than one byte -/
theorem recv_cost_spec (d : Bytes) : recvCost d = (if d.length = 0 then 1 else d.length) ∧ 1 ≤ recvCost d :=
  ⟨by
    show max d.length 1 = _
    split
    · rw [‹d.length = 0›]; rfl
    · exact Nat.max_eq_left (Nat.pos_of_ne_zero ‹_›), recvCost_pos d⟩

/-- no operation of any run panics (checked arithmetic, varint unwrap) or spins (eviction loop) -/
theorem no_panic_no_hang (ops : List Op) (hw : ∀ op ∈ ops, op.WF) :
    ∀ e ∈ trace init ops, e.2 ≠ .panic ∧ e.2 ≠ .hang :=
  trace_no_panic ops init init_inv hw

/-- `send` accepts exactly the datagrams that fit the reported maximum and the send buffer:
    enabled locally, supported by the peer, `len ≤ min(max_size, send_buffer_size)`, and either `drop` or the
    admission predicate `outgoing_total + len ≤ send_buffer_size` -/
theorem send_accepts_iff (ops : List Op) (hw : ∀ op ∈ ops, op.WF) (d : Bytes) (drop en : Bool) (max : Option Nat)
    (b : Nat) (hop : (Op.send d drop en max b).WF) :
    (send (exec init ops) d drop en max b).2 = .sendOk ↔
      en = true ∧ ∃ m, max = some m ∧ d.length ≤ Nat.min m b
        ∧ (drop = true ∨ (exec init ops).outgoingTotal + d.length ≤ b) := by
  have h := send_sent _ (exec_inv ops init init_inv hw) d drop en max b hop.1
  generalize send (exec init ops) d drop en max b = r at h
  cases h with
  | disabled => exact ⟨nofun, fun h' => nomatch h'.1⟩
  | unsupported => exact ⟨nofun, fun ⟨_, m', hm', _⟩ => nomatch hm'⟩
  | tooLarge hlt => exact ⟨nofun, fun ⟨_, m', hm', hle, _⟩ => by cases hm'; exact absurd hle (Nat.not_le_of_lt hlt)⟩
  | blocked _ hfull => exact ⟨nofun, fun ⟨_, m', _, _, hor⟩ => hor.elim nofun (fun h' => absurd h' (Nat.not_le_of_lt hfull))⟩
  | queued hle hfit => exact ⟨fun _ => ⟨rfl, _, rfl, hle, Or.inr hfit⟩, fun _ => rfl⟩
  | evicted k hle => exact ⟨fun _ => ⟨rfl, _, rfl, hle, Or.inl rfl⟩, fun _ => rfl⟩

/-- the complete result table of `send` (error precedence Disabled > UnsupportedByPeer > TooLarge > Blocked, the
    exact successor state in each case; eviction only with `drop`, oldest first, no more than necessary) -/
theorem send_table (ops : List Op) (hw : ∀ op ∈ ops, op.WF) (d : Bytes) (drop en : Bool) (max : Option Nat)
    (b : Nat) (hop : (Op.send d drop en max b).WF) :
    let s := exec init ops
    (en = false ∧ send s d drop en max b = (s, .sendErr .disabled))
    ∨ (en = true ∧ max = none ∧ send s d drop en max b = (s, .sendErr .unsupportedByPeer))
    ∨ (∃ m, en = true ∧ max = some m ∧ Nat.min m b < d.length ∧ send s d drop en max b = (s, .sendErr .tooLarge))
    ∨ (∃ m, en = true ∧ max = some m ∧ d.length ≤ Nat.min m b ∧ drop = false ∧ b < s.outgoingTotal + d.length
          ∧ send s d drop en max b = ({ s with sendBlocked := true }, .sendErr (.blocked d)))
    ∨ (∃ m, en = true ∧ max = some m ∧ d.length ≤ Nat.min m b ∧ drop = false ∧ s.outgoingTotal + d.length ≤ b
          ∧ send s d drop en max b =
              ({ s with outgoing := s.outgoing ++ [d], outgoingTotal := s.outgoingTotal + d.length }, .sendOk))
    ∨ (∃ m k, en = true ∧ max = some m ∧ d.length ≤ Nat.min m b ∧ drop = true
          ∧ sumLen (s.outgoing.drop k) + d.length ≤ b
          ∧ (∀ j, j < k → b < sumLen (s.outgoing.drop j) + d.length)
          ∧ send s d drop en max b =
              ({ s with outgoing := s.outgoing.drop k ++ [d], outgoingTotal := sumLen (s.outgoing.drop k) + d.length }, .sendOk)) := by
  intro s
  have h := send_sent s (exec_inv ops init init_inv hw) d drop en max b hop.1
  generalize send s d drop en max b = r at h
  cases h with
  | disabled => exact .inl ⟨rfl, rfl⟩
  | unsupported => exact .inr (.inl ⟨rfl, rfl, rfl⟩)
  | tooLarge hlt => exact .inr (.inr (.inl ⟨_, rfl, rfl, hlt, rfl⟩))
  | blocked hle hfull => exact .inr (.inr (.inr (.inl ⟨_, rfl, rfl, hle, rfl, hfull, rfl⟩)))
  | queued hle hfit => exact .inr (.inr (.inr (.inr (.inl ⟨_, rfl, rfl, hle, rfl, hfit, rfl⟩))))
  | evicted k hle hfit hmin => exact .inr (.inr (.inr (.inr (.inr ⟨_, k, rfl, rfl, hle, rfl, hfit, hmin, rfl⟩))))

/-- queued bytes never grow except by an accepted `send`, and an accepted `send` leaves
    `outgoing_total ≤ send_buffer_size` (the size passed to that call) -/
theorem out_total_le_buffer (ops : List Op) (hw : ∀ op ∈ ops, op.WF) (op : Op) (hop : op.WF) :
    (step (exec init ops) op).1.outgoingTotal ≤ (exec init ops).outgoingTotal
    ∨ ∃ d drop en max b, op = .send d drop en max b ∧ (step (exec init ops) op).2 = .sendOk
        ∧ (step (exec init ops) op).1.outgoingTotal ≤ b :=
  step_total _ (exec_inv ops init init_inv hw) op hop

/-- with the connection's single configured `datagram_send_buffer_size` the bound holds in every reachable state -/
theorem out_total_le_fixed_buffer (b : Nat) (ops : List Op)
    (hw : ∀ op ∈ ops, op.WF ∧ ∀ d drop en max b', op = .send d drop en max b' → b' = b) :
    (exec init ops).outgoingTotal ≤ b :=
  total_le_fixed b ops init init_inv (Nat.zero_le _) hw

/-- `received`: unexpected / oversized frames are rejected without effect; a datagram charged more than the whole
    buffer — only an empty one offered to a zero-sized buffer — is dropped (no error, nothing buffered); otherwise
    the datagram is appended intact after evicting a minimal prefix (the OLDEST datagrams) and `recv_buffered` =
    charge of what is buffered ≤ window, WITHOUT any condition on the window -/
theorem received_table (ops : List Op) (hw : ∀ op ∈ ops, op.WF) (d : Bytes) (window : Option Nat) :
    let s := exec init ops
    (window = none ∧ received s d window = (s, .rcvErr .unexpected))
    ∨ (∃ w, window = some w ∧ w < d.length ∧ received s d window = (s, .rcvErr .oversized))
    ∨ (∃ w, window = some w ∧ d.length ≤ w ∧ w < recvCost d ∧ received s d window = (s, .rcvOk false))
    ∨ (∃ w k, window = some w ∧ recvCost d ≤ w
        ∧ received s d window =
            ({ s with incoming := s.incoming.drop k ++ [d], recvBuffered := sumCost (s.incoming.drop k) + recvCost d },
             .rcvOk (decide (s.recvBuffered = 0)))
        ∧ sumCost (s.incoming.drop k) + recvCost d ≤ w
        ∧ ∀ j, j < k → w < sumCost (s.incoming.drop j) + recvCost d) :=
  received_char _ (exec_inv ops init init_inv hw).inc d window

/-- the third case of `received_table` is exactly: empty datagram, zero-sized buffer -/
theorem dropped_unbuffered_iff (d : Bytes) (w : Nat) (h : d.length ≤ w) : w < recvCost d ↔ (w = 0 ∧ d = []) := by
  show w < max d.length 1 ↔ _
  constructor
  · intro hlt; exact ⟨by omega, List.eq_nil_of_length_eq_zero (by omega)⟩
  · rintro ⟨rfl, rfl⟩; exact Nat.zero_lt_one

/-- `recv_buffered` never exceeds the window of a `received` call, whatever the window (also 0) and whatever
    windows earlier calls used: every call leaves `recv_buffered ≤ window` or leaves it unchanged (rejected /
    dropped datagram) -/
theorem received_keeps_buffered_le_window (ops : List Op) (hw : ∀ op ∈ ops, op.WF) (d : Bytes) (w : Nat) :
    let r := received (exec init ops) d (some w)
    r.1.recvBuffered ≤ w ∨ r.1 = exec init ops := by
  rcases received_table ops hw d (some w) with
    ⟨hn, _⟩ | ⟨w', _, _, h⟩ | ⟨w', _, _, _, h⟩ | ⟨w', k, hw', _, h, hb, _⟩
  · cases hn
  · right; rw [h]
  · right; rw [h]
  · cases hw'; left; rw [h]; exact hb

/-- the NUMBER of datagrams buffered for the application (and their payload bytes, and `recv_buffered`) is bounded
    by the configured `datagram_receive_buffer_size` in every reachable state: a peer cannot make the queue grow
    without bound by sending empty DATAGRAM frames (audit SD-9).  `received` is called with the connection's one
    window `w`; no side condition on `w`. -/
theorem buffered_datagram_count_le_window (w : Nat) (ops : List Op)
    (hw : ∀ op ∈ ops, op.WF ∧ ∀ d w', op = .received d (some w') → w' = w) :
    (exec init ops).incoming.length ≤ w ∧ sumLen (exec init ops).incoming ≤ w ∧ (exec init ops).recvBuffered ≤ w := by
  have hb := buffered_le_fixed w ops init init_inv (Nat.zero_le _) hw
  -- every buffered datagram is charged at least its length and at least one byte
  have hc : sumCost (exec init ops).incoming ≤ w := (exec_inv ops init init_inv (fun o ho => (hw o ho).1)).inc ▸ hb
  exact ⟨Nat.le_trans (length_le_sumCost _) hc, Nat.le_trans (sumLen_le_sumCost _) hc, hb⟩

/-- the same bound per call, whatever windows earlier calls used: after `received` BUFFERED a datagram with window
    `w` at most `w` datagrams are buffered -/
theorem received_leaves_count_le_window (ops : List Op) (hw : ∀ op ∈ ops, op.WF) (d : Bytes) (w : Nat)
    (h : (received (exec init ops) d (some w)).1 ≠ exec init ops) :
    (received (exec init ops) d (some w)).1.incoming.length ≤ w := by
  have hs := (step_ok _ (exec_inv ops init init_inv hw) (.received d (some w)) trivial).inv
  rcases received_keeps_buffered_le_window ops hw d w with hb | he
  · exact Nat.le_trans (length_le_sumCost _) (Nat.le_trans (Nat.le_of_eq hs.inc.symm) hb)
  · exact absurd he h

/-- `was_empty` (the `DatagramReceived` wake-up) is reported exactly when no datagram was buffered -/
theorem was_empty_iff_queue_empty (ops : List Op) (hw : ∀ op ∈ ops, op.WF) :
    (exec init ops).recvBuffered = 0 ↔ (exec init ops).incoming = [] := by
  rw [(exec_inv ops init init_inv hw).inc]; exact sumCost_eq_zero_iff _

/-- the eviction loop of `received` terminates from ANY state (also one with corrupted accounting): it leaves
    when `recv()` finds the queue empty -/
theorem eviction_loop_terminates (s : State) (cost w : Nat) :
    (evict cost w (s.incoming.length + 1) s).2 ≠ .hang :=
  evict_never_hangs cost w _ s (Nat.lt_succ_self _)

/-- `recv` hands out the oldest buffered datagram, unchanged, and removes it -/
theorem recv_returns_head (ops : List Op) (hw : ∀ op ∈ ops, op.WF) :
    let s := exec init ops
    (s.incoming = [] ∧ recv s = (s, .recvNone))
    ∨ (∃ x rest, s.incoming = x :: rest
        ∧ recv s = ({ s with incoming := rest, recvBuffered := sumCost rest }, .recvSome x)) :=
  recv_char _ (exec_inv ops init init_inv hw).inc

/-- FIFO, intact, at most once: over any run, the datagrams returned by `recv` followed by those still buffered
    form a subsequence of the accepted datagrams — same bytes, same order, none twice, none invented
    (what is missing was evicted oldest-first by `received_table`) -/
theorem recv_fifo (ops : List Op) (hw : ∀ op ∈ ops, op.WF) :
    (delivered (trace init ops) ++ (exec init ops).incoming).Sublist (accepted (trace init ops)) :=
  -- `init.incoming ++ l` reduces to `l`
  fifo_general ops init init_inv hw

/-- `write` encodes the oldest datagram entirely — one frame `fr` of exactly `Datagram::size(true)` bytes that
    fits the budget — or leaves the state and the buffer untouched (and it refuses only if the queue is empty or
    the frame does not fit) -/
theorem write_whole_or_nothing (ops : List Op) (hw : ∀ op ∈ ops, op.WF) (buf : Bytes) (max : Nat) :
    let s := exec init ops
    (write s buf max = (s, .wrote false buf)
      ∧ (s.outgoing = [] ∨ ∃ d rest fs, s.outgoing = d :: rest ∧ frameSize d = some fs ∧ max < buf.length + fs))
    ∨ (∃ d rest fs fr, s.outgoing = d :: rest ∧ frameSize d = some fs ∧ encodeFrame d = some fr ∧ fr.length = fs
        ∧ buf.length + fs ≤ max
        ∧ write s buf max = ({ s with outgoing := rest, outgoingTotal := sumLen rest }, .wrote true (buf ++ fr))) :=
  write_char _ (exec_inv ops init init_inv hw) buf max

/-- a frame produced for a datagram parses back (type 0x31, varint length, payload) to exactly that datagram and
    the untouched remainder; its size is within `len + SIZE_BOUND` -/
theorem frame_roundtrip (d : Bytes) (h : d.length < 2^62) :
    ∃ fs fr, frameSize d = some fs ∧ encodeFrame d = some fr ∧ fr.length = fs ∧ fs ≤ d.length + Gen.dgSizeBound
      ∧ ∀ rest, decodeFrame (fr ++ rest) = some (d, rest) :=
  frame_ok d h

/-- the DATAGRAM loop of `populate_packet` emits whole frames of a prefix of the queue, within the budget, and
    clears `send_blocked` (emitting `DatagramsUnblocked`) exactly when it was set and something was sent -/
theorem packet_loop_whole_frames (ops : List Op) (hw : ∀ op ∈ ops, op.WF) (buf : Bytes) (max : Nat) :
    let s := exec init ops
    ∃ k, k ≤ s.outgoing.length
      ∧ writeLoop s buf max =
        ({ s with outgoing := s.outgoing.drop k, outgoingTotal := sumLen (s.outgoing.drop k),
                  sendBlocked := s.sendBlocked && decide (k = 0) },
         .loop k (buf ++ encAll (s.outgoing.take k)) (s.sendBlocked && decide (0 < k)))
      ∧ (0 < k → (buf ++ encAll (s.outgoing.take k)).length ≤ max) :=
  writeLoop_char _ (exec_inv ops init init_inv hw) buf max

/-- the black-hole glue (`drop_oversized(max_size())` when `max_size()` is `Some`) keeps exactly the strictly
    shorter datagrams and clears `send_blocked` (emitting `DatagramsUnblocked`) exactly when it was set and
    something was dropped -/
theorem black_hole_glue (ops : List Op) (hw : ∀ op ∈ ops, op.WF) (max : Option Nat) :
    let s := exec init ops
    (max = none ∧ blackHoleGlue s max = (s, .glue none))
    ∨ (∃ m, max = some m
        ∧ blackHoleGlue s max =
          ({ s with outgoing := s.outgoing.filter (keep m), outgoingTotal := sumLen (s.outgoing.filter (keep m)),
                    sendBlocked := s.sendBlocked && !(s.outgoing.any (fun d => !keep m d)) },
           .glue (some (s.outgoing.any (fun d => !keep m d), s.outgoing.any (fun d => !keep m d) && s.sendBlocked)))) :=
  blackHoleGlue_char _ (exec_inv ops init init_inv hw).out max

/-- the blocked flag agrees with `has_send_buffer_space` as the code defines it: `send` answers `Blocked` iff the
    size checks pass, `drop` is false and the predicate is false; exactly then the flag is set (nothing else
    changes), otherwise `send` leaves the flag alone -/
theorem blocked_flag_agrees (ops : List Op) (hw : ∀ op ∈ ops, op.WF) (d : Bytes) (drop en : Bool) (max : Option Nat)
    (b : Nat) (hop : (Op.send d drop en max b).WF) :
    let s := exec init ops
    ((send s d drop en max b).2 = .sendErr (.blocked d) ↔
      en = true ∧ (∃ m, max = some m ∧ d.length ≤ Nat.min m b) ∧ drop = false ∧ hasSendBufferSpace s d.length b = false)
    ∧ ((send s d drop en max b).2 = .sendErr (.blocked d) → (send s d drop en max b).1 = { s with sendBlocked := true })
    ∧ ((send s d drop en max b).2 ≠ .sendErr (.blocked d) → (send s d drop en max b).1.sendBlocked = s.sendBlocked) := by
  intro s
  have hsp : hasSendBufferSpace s d.length b = false ↔ b < s.outgoingTotal + d.length := hasSpace_false_iff _ _ _ hop.1
  have h := send_sent s (exec_inv ops init init_inv hw) d drop en max b hop.1
  generalize send s d drop en max b = r at h
  cases h with
  | disabled => exact ⟨⟨nofun, fun h' => nomatch h'.1⟩, nofun, fun _ => rfl⟩
  | unsupported => exact ⟨⟨nofun, fun ⟨_, ⟨m', hm', _⟩, _⟩ => nomatch hm'⟩, nofun, fun _ => rfl⟩
  | tooLarge hlt =>
    exact ⟨⟨nofun, fun ⟨_, ⟨m', hm', hle⟩, _⟩ => by cases hm'; exact absurd hle (Nat.not_le_of_lt hlt)⟩, nofun, fun _ => rfl⟩
  | blocked hle hfull =>
    exact ⟨⟨fun _ => ⟨rfl, ⟨_, rfl, hle⟩, rfl, hsp.2 hfull⟩, fun _ => rfl⟩, fun _ => rfl, fun h' => absurd rfl h'⟩
  | queued _ hfit => exact ⟨⟨nofun, fun ⟨_, _, _, hns⟩ => absurd hfit (Nat.not_le_of_lt (hsp.1 hns))⟩, nofun, fun _ => rfl⟩
  | evicted => exact ⟨⟨nofun, fun ⟨_, _, hdf, _⟩ => nomatch hdf⟩, nofun, fun _ => rfl⟩

/-- `send_buffer_space()` agrees with the admission predicate: a datagram of at most that many bytes is admitted
    without eviction, a longer one is not -/
theorem send_buffer_space_agrees (b : Nat) (hb : b < 2^64) (ops : List Op)
    (hw : ∀ op ∈ ops, op.WF ∧ ∀ d drop en max b', op = .send d drop en max b' → b' = b) (len : Nat) :
    len ≤ sendBufferSpace (exec init ops) b ↔ hasSendBufferSpace (exec init ops) len b = true := by
  have hle := total_le_fixed b ops init init_inv (Nat.zero_le _) hw
  unfold hasSendBufferSpace
  rw [hasSpace_iff _ _ _ hb, sendBufferSpace_eq]
  omega

/-- `drop_oversized(max_payload)` keeps, in order, exactly the datagrams strictly shorter than `max_payload`,
    keeps the accounting, and reports whether anything was dropped -/
theorem drop_oversized_keeps_shorter (ops : List Op) (hw : ∀ op ∈ ops, op.WF) (m : Nat) :
    let s := exec init ops
    dropOversized s m =
      ({ s with outgoing := s.outgoing.filter (fun d => decide (d.length < m)),
                outgoingTotal := sumLen (s.outgoing.filter (fun d => decide (d.length < m))) },
       .dropped (s.outgoing.any (fun d => !decide (d.length < m)))) := by
  -- `keep m d` unfolds to `decide (d.length < m)`
  exact dropOversized_char _ (exec_inv ops init init_inv hw).out m

/-- `max_size()`: `None` iff the peer did not advertise support; it panics iff the MTU is below overhead +
    SIZE_BOUND; otherwise `max + overhead + SIZE_BOUND ≤ current_mtu` and `max ≤ peer limit − SIZE_BOUND`
    (it is exactly the smaller of the two budgets) -/
theorem max_size_le_packet (mtu oh : Nat) (peer : Option Nat) :
    (maxSize mtu oh peer = none ↔ mtu < oh + Gen.dgSizeBound)
    ∧ ∀ r, maxSize mtu oh peer = some r →
        (r = none ↔ peer = none)
        ∧ ∀ m, r = some m → m + oh + Gen.dgSizeBound ≤ mtu
            ∧ ∃ p, peer = some p ∧ m ≤ p - Gen.dgSizeBound
            ∧ m = Nat.min (p - Gen.dgSizeBound) (mtu - oh - Gen.dgSizeBound) :=
  ⟨maxSize_none_iff mtu oh peer, fun r h => maxSize_some mtu oh peer r h⟩

/-- with a legal path MTU (≥ 1200) and legal CID lengths `max_size()` cannot panic, with 1-RTT keys (`scid = none`)
    or with 0-RTT keys only (`scid = some l`, long header) -/
theorem max_size_no_panic (mtu cid : Nat) (scid : Option Nat) (peer : Option Nat) (hm : Gen.initialMtu ≤ mtu)
    (hc : cid ≤ 20) (hs : ∀ l, scid = some l → l ≤ 20) :
    maxSize mtu (overhead cid scid) peer ≠ none := by
  intro h
  have h1 := (maxSize_none_iff mtu (overhead cid scid) peer).1 h
  have h2 := overhead_le cid scid hc hs
  simp only [Gen.initialMtu, Gen.dgSizeBound] at *
  omega

/-- never oversized: every datagram `send` can accept (`len ≤ max_size()`) fits, as one whole frame, the frame
    budget `current_mtu − overhead` of an otherwise empty 1-RTT packet -/
theorem accepted_datagram_fits_packet (mtu oh : Nat) (peer : Option Nat) (m : Nat)
    (h : maxSize mtu oh peer = some (some m)) (hmtu : mtu < 2^62) (d : Bytes) (hd : d.length ≤ m) :
    ∃ fs, frameSize d = some fs ∧ fs ≤ mtu - oh := by
  have hs := ((maxSize_some mtu oh peer _ h).2 m rfl).1
  obtain ⟨fs, hfs, hle⟩ := frameSize_le d (by omega)
  exact ⟨fs, hfs, by omega⟩

/-- never oversized, on the packet as it is really built (layouts from RFC 9000 §17.2.3 / §17.3.1, not from the
    code): every datagram `send` can accept (`len ≤ max_size()`) fits as one whole frame a packet of at most
    `current_mtu` bytes with the header really in use — the 1-RTT short header with the current remote CID
    (`scid = none`) or, while only 0-RTT keys exist, the 0-RTT long header with the local CID of `l` bytes
    (`scid = some l`) — for every packet-number length (audit SD-13) -/
theorem accepted_datagram_fits_real_packet (mtu dcid : Nat) (scid : Option Nat) (peer : Option Nat) (m : Nat)
    (h : maxSize mtu (overhead dcid scid) peer = some (some m)) (hmtu : mtu < 2^62) (d : Bytes) (hd : d.length ≤ m)
    (pn : Nat) (hpn : pn ≤ 4) :
    ∃ fs, frameSize d = some fs ∧ dataPacketLen dcid scid pn fs Gen.dgTagLenGuess ≤ mtu := by
  obtain ⟨fs, hfs, hle⟩ := accepted_datagram_fits_packet mtu _ peer m h hmtu d hd
  have hs := ((maxSize_some mtu _ peer _ h).2 m rfl).1
  exact ⟨fs, hfs, Nat.le_trans (dataPacketLen_le dcid scid pn fs hpn) (by omega)⟩

/-- the purge at the top of every `poll_transmit` (`drop_unsendable_datagrams`): with `max_size() = Some(m)` it
    removes exactly the maximal prefix of queued datagrams longer than `m` — nothing that still fits, nothing
    behind a datagram that fits —, keeps the accounting, and clears `send_blocked` (emitting `DatagramsUnblocked`)
    exactly when it was set and something was dropped -/
theorem purge_glue (ops : List Op) (hw : ∀ op ∈ ops, op.WF) (max : Option Nat) :
    let s := exec init ops
    (max = none ∧ purgeGlue s max = (s, .glue none))
    ∨ (∃ m, max = some m
        ∧ purgeGlue s max =
          ({ s with outgoing := s.outgoing.dropWhile (unfit m), outgoingTotal := sumLen (s.outgoing.dropWhile (unfit m)),
                    sendBlocked := s.sendBlocked && !(headUnfit m s.outgoing) },
           .glue (some (headUnfit m s.outgoing, headUnfit m s.outgoing && s.sendBlocked)))) :=
  purgeGlue_char _ (exec_inv ops init init_inv hw).out max

/-- no unsendable datagram blocks the queue: whatever made the maximum shrink since a datagram was accepted (a
    migration to a fresh path, `path_changed`, a longer remote CID, a black hole, the handshake), after the purge
    that precedes every transmission the datagram `write` takes next is within the CURRENT maximum `m` -/
theorem no_unsendable_datagram_queued (ops : List Op) (hw : ∀ op ∈ ops, op.WF) (m : Nat) (d : Bytes) (rest : List Bytes)
    (h : (purgeGlue (exec init ops) (some m)).1.outgoing = d :: rest) : d.length ≤ m := by
  rcases purge_glue ops hw (some m) with ⟨hn, _⟩ | ⟨m', hm', hp⟩
  · cases hn
  · cases hm'
    rw [hp] at h
    exact head_dropWhile_fits m _ d rest h

/-- ... and is therefore really written: after the purge with `m = max_size()`, `write` into an empty packet with
    the frame budget `current_mtu − overhead` succeeds whenever the queue is not empty (liveness of the queue) -/
theorem purged_head_is_written (ops : List Op) (hw : ∀ op ∈ ops, op.WF) (mtu oh : Nat) (peer : Option Nat) (m : Nat)
    (hm : maxSize mtu oh peer = some (some m)) (hmtu : mtu < 2^62) :
    let s := (purgeGlue (exec init ops) (some m)).1
    s.outgoing = [] ∨ ∃ buf, (write s [] (mtu - oh)).2 = .wrote true buf := by
  intro s
  have hi := exec_inv ops init init_inv hw
  have hs : Inv s := (step_ok _ hi (.purgeGlue (some m)) trivial).inv
  rcases write_char s hs [] (mtu - oh) with ⟨_, hq | ⟨d, rest, fs, hq, hfs, hlt⟩⟩ | ⟨d, rest, fs, fr, _, _, _, _, _, hwr⟩
  · exact Or.inl hq
  · have hd := no_unsendable_datagram_queued ops hw m d rest hq
    obtain ⟨fs', hfs', hle⟩ := accepted_datagram_fits_packet mtu oh peer m hm hmtu d hd
    rw [hfs] at hfs'; cases hfs'
    simp only [List.length_nil, Nat.zero_add] at hlt
    omega
  · exact Or.inr ⟨_, by rw [hwr]⟩

def b (n : Nat) : Bytes := List.replicate n 7

/-! ### RFC 9221 §3: the two `max_datagram_frame_size` limits (audit SD-17, SD-26) — full statements, the
    counterexamples the current code admits, and what does hold -/

/-- RECEIVER (RFC 9221 §3: "An endpoint that receives a DATAGRAM frame that is larger than the value it sent in
    its max_datagram_frame_size transport parameter MUST terminate the connection with an error of type
    PROTOCOL_VIOLATION").  The value sent is `Gen.dgAdvertisedFrameSize window` and covers type, length and
    payload; the smallest frame carrying `d` (no length field) has `1 + d.length` bytes.  Full statement:
    `received` answers "oversized datagram" exactly when even that smallest frame exceeds the advertised value. -/
def received_oversized_iff_frame_gt_advertised_statement : Prop :=
  ∀ (d : Bytes) (w : Nat),
    (received init d (some w)).2 = .rcvErr .oversized ↔ Gen.dgAdvertisedFrameSize w < 1 + d.length

/-- witness: receive buffer (= advertised frame size) 5, payload 5: a frame of at least 6 bytes is accepted -/
def oversizedWitness : Bytes × Nat := (b 5, 5)

/-- FINDING (key `dgram-oversized-vs-advertised`): the code compares the PAYLOAD with the buffer size -/
theorem received_oversized_iff_frame_gt_advertised_counterexample :
    ¬ received_oversized_iff_frame_gt_advertised_statement := by
  intro h
  have := (h oversizedWitness.1 oversizedWitness.2).2 (by decide)
  revert this; decide

/-- what holds: the code rejects exactly the payloads longer than the buffer, and such a rejection is never wrong
    (every frame carrying the payload exceeds the advertised value); the converse fails by at most the frame
    overhead (`w.min 65535 - 1 < len ≤ w`) -/
theorem received_oversized_partial (ops : List Op) (hw : ∀ op ∈ ops, op.WF) (d : Bytes) (w : Nat) :
    ((received (exec init ops) d (some w)).2 = .rcvErr .oversized ↔ w < d.length)
    ∧ (w < d.length → Gen.dgAdvertisedFrameSize w < 1 + d.length) := by
  refine ⟨?_, fun h => Nat.lt_of_le_of_lt (Nat.min_le_left w 65535) (Nat.lt_of_lt_of_le h (Nat.le_add_left _ _))⟩
  rcases received_table ops hw d (some w) with
    ⟨hn, _⟩ | ⟨w', hw', hlt, h⟩ | ⟨w', hw', hle, _, h⟩ | ⟨w', k, hw', hc, h, _, _⟩
  · cases hn
  · cases hw'; rw [h]; exact ⟨fun _ => hlt, fun _ => rfl⟩
  · cases hw'; rw [h]; exact ⟨nofun, fun h' => absurd hle (Nat.not_le_of_lt h')⟩
  · cases hw'; rw [h]
    exact ⟨nofun, fun h' => absurd (Nat.le_trans (len_le_recvCost d) hc) (Nat.not_le_of_lt h')⟩

/-- SENDER (RFC 9221 §3: the peer's max_datagram_frame_size bounds the whole frame; 0 = DATAGRAM not supported).
    Full statement: the frame written for any datagram `send` can accept is within the peer's limit. -/
def send_respects_peer_limit_statement : Prop :=
  ∀ (mtu oh p m : Nat) (d : Bytes), maxSize mtu oh (some p) = some (some m) → mtu < 2^62 → d.length ≤ m →
    ∃ fs, frameSize d = some fs ∧ fs ≤ p

/-- FINDING (key `dgram-send-exceeds-peer-limit`): peer limit 0 ("unsupported") or 1 gives `max_size() = Some(0)`
    and an empty datagram is sent as a 2-byte frame -/
theorem send_respects_peer_limit_counterexample : ¬ send_respects_peer_limit_statement := by
  intro h
  obtain ⟨fs, hfs, hle⟩ := h 1200 29 0 0 [] (by decide) (by decide) (by decide)
  have : frameSize [] = some 2 := by decide
  rw [this] at hfs; cases hfs; omega

/-- what holds: for every peer limit of at least 2 bytes the frame is within the limit -/
theorem send_respects_peer_limit_partial (mtu oh p m : Nat) (d : Bytes) (h : maxSize mtu oh (some p) = some (some m))
    (hmtu : mtu < 2^62) (hp : 2 ≤ p) (hd : d.length ≤ m) : ∃ fs, frameSize d = some fs ∧ fs ≤ p := by
  obtain ⟨hfit, p', hp', hmp, _⟩ := (maxSize_some mtu oh (some p) _ h).2 m rfl
  cases hp'
  by_cases h0 : d.length = 0
  · have : d = [] := List.eq_nil_of_length_eq_zero h0
    subst this
    exact ⟨2, by decide, hp⟩
  · obtain ⟨fs, hfs, hbound⟩ := frameSize_le d (by omega)
    exact ⟨fs, hfs, by omega⟩

/-! non-vacuity: concrete runs meeting the hypotheses -/

/-- three sends into a 10-byte buffer: the third blocks, the fourth (drop) evicts only the oldest -/
def demoOps : List Op :=
  [.send (b 4) false true (some 100) 10, .send (b 5) false true (some 100) 10,
   .send (b 3) false true (some 100) 10, .send (b 3) true true (some 100) 10]

example : ∀ op ∈ demoOps, op.WF := by
  intro op h
  simp only [demoOps, List.mem_cons, List.mem_nil_iff, or_false] at h
  rcases h with rfl | rfl | rfl | rfl <;> exact ⟨by decide, fun m hm => by cases hm; decide⟩
example : (exec init demoOps).outgoing = [b 5, b 3] ∧ (exec init demoOps).outgoingTotal = 8
    ∧ (exec init demoOps).sendBlocked = true := by decide
example : (trace init demoOps).map (·.2) = [.sendOk, .sendOk, .sendErr (.blocked (b 3)), .sendOk] := by decide
example : (send (exec init demoOps) (b 11) true true (some 100) 10).2 = .sendErr .tooLarge := by decide

/-- receive window 6: the third datagram evicts the oldest only; recv then returns the survivors in order -/
def demoRecv : List Op :=
  [.received (b 2) (some 6), .received (b 3) (some 6), .received (b 2) (some 6), .recv, .received (b 7) (some 6), .recv, .recv]

example : accepted (trace init demoRecv) = [b 2, b 3, b 2] ∧ delivered (trace init demoRecv) = [b 3, b 2]
    ∧ (exec init demoRecv).incoming = [] := by decide
example : (received (exec init demoRecv) (b 7) (some 6)).2 = .rcvErr .oversized := by decide

/-- a flood of empty DATAGRAM frames into a 2-byte receive buffer (corpus/dgram/zero-length-flood.ops): two stay -/
def demoFlood : List Op := List.replicate 5 (.received [] (some 2))

example : ∀ op ∈ demoFlood, op.WF ∧ ∀ d w', op = .received d (some w') → w' = 2 := by
  intro op h
  simp only [demoFlood, List.mem_replicate] at h
  rcases h with ⟨_, rfl⟩
  exact ⟨trivial, fun d w' h => by cases h; rfl⟩
example : (exec init demoFlood).incoming = [[], []] ∧ (exec init demoFlood).recvBuffered = 2 := by decide
example : (exec init [.received [] (some 0), .received [] (some 0)]).incoming = []
    ∧ (received init [] (some 0)).2 = .rcvOk false := by decide
example : (write (exec init demoOps) [0xee] 8).2 = .wrote true [0xee, 0x31, 5, 7, 7, 7, 7, 7]
    ∧ (write (exec init demoOps) [0xee] 7).2 = .wrote false [0xee] := by decide
example : (writeLoop (exec init demoOps) [] 12).2 = .loop 1 [0x31, 5, 7, 7, 7, 7, 7] true := by decide
example : maxSize 1200 (overhead 8 none) (some 65535) = some (some 1162) ∧ maxSize 37 (overhead 8 none) none = none
    ∧ maxSize 1200 (overhead 8 (some 8)) (some 65535) = some (some 1146) := by decide
/-- a 1162-byte datagram in a 1-RTT packet (8-byte CID, 4-byte packet number): 1194 ≤ 1200; the same datagram in a
    0-RTT packet would need 1210 bytes — `max_size()` is 1146 there, and 1146 bytes make 1194 again -/
example : dataPacketLen 8 none 4 (1 + 2 + 1162) 16 = 1194 ∧ dataPacketLen 8 (some 8) 4 (1 + 2 + 1162) 16 = 1210
    ∧ dataPacketLen 8 (some 8) 4 (1 + 2 + 1146) 16 = 1194 := by decide
/-- the queue of `demoOps` ([5 bytes, 3 bytes], blocked) after the maximum shrank to 4: the purge drops the head,
    reports `DatagramsUnblocked`, and the 3-byte datagram is written -/
example : (purgeGlue (exec init demoOps) (some 4)).1.outgoing = [b 3]
    ∧ (purgeGlue (exec init demoOps) (some 4)).2 = .glue (some (true, true))
    ∧ (purgeGlue (exec init demoOps) (some 5)).2 = .glue (some (false, false)) := by decide
example : decodeFrame ([0x31, 2, 9, 8] ++ [1]) = some ([9, 8], [1]) := by decide

/-- OBSERVATION (not a violation: datagrams may be dropped): after a black hole the glue calls
    `drop_oversized(max_size())`, which also discards a queued datagram of exactly `max_size()` bytes although
    `send` accepts that length and it still fits a packet (`<` where `send` uses `≤`) -/
theorem drop_oversized_drops_exact_max :
    (send init (b 5) false true (some 5) 10).2 = .sendOk
    ∧ (blackHoleGlue (send init (b 5) false true (some 5) 10).1 (some 5)).1.outgoing = [] := by decide

end QM.Props.C16
