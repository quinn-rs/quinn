import QuinnModel.Lemmas.MtudState
import QuinnModel.Conn.Sizing
/-
C13 — Datagrams never exceed the validated path MTU or peer limits.
Core: the MTU discovery state machine (`MtuDiscovery`, mtud.rs) that owns `current_mtu` and emits the probes.

`s0` is any `MtuDiscovery` as constructed by `new` (not panicking) or `disabled` (`Start s0`), with ANY arguments;
`exec s0 ops` is the state after ANY sequence of calls (poll_transmit / on_acked / on_probe_lost /
on_non_probe_lost / black_hole_detected / on_peer_max_udp_payload_size_received / reset, any arguments);
a panic ends a run.  Theorems without further hypotheses hold for every such run.  Where the code relies on its
caller or on the configuration this is an explicit hypothesis:
  `okRun Contract`  — `on_probe_lost` is called only while a probe is in flight (Connection::detect_lost_packets);
  `3 ≤ minimum_change` — see the counterexamples at the end for 0, 1 and 2 (default: 20).
The model follows the code after `fix: black-hole fallback must not raise the MTU estimate above the peer's
max_udp_payload_size` and `fix: MtuDiscovery::reset with discovery disabled must keep respecting the peer's
max_udp_payload_size` (both findings of this check).
-/
namespace QM.Props.C13
open QM QM.Mtud

/-- every probe size returned by `poll_transmit` is at most the peer's max_udp_payload_size as stored by the
    component (`MAX_UDP_PAYLOAD` before the transport parameters arrive).  No assumptions. -/
theorem probe_le_peer_max (s0 : State) (h0 : Start s0) (ops : List Op) (now pn p : Nat)
    (h : (step (exec s0 ops) (.poll now pn)).2 = .probe (some p)) :
    ∃ e, (exec s0 ops).state = some e ∧ p ≤ e.peerMax :=
  poll_probe_le_peer _ (exec_ginv s0 (start_ginv s0 h0) ops) now pn p h

/-- with `minimum_change ≥ 3` and the caller contract: `poll_transmit` never panics, and every probe is strictly
    larger than `current_mtu`, at most the configured upper bound and at most the peer limit; it is emitted
    only when no probe is in flight and is then the probe in flight -/
theorem probe_bounds (s0 : State) (h0 : Start s0) (h3 : ∀ cfg, configOf s0 = some cfg → 3 ≤ cfg.minimumChange)
    (ops : List Op) (hc : okRun Contract s0 ops) (now pn : Nat) :
    (step (exec s0 ops) (.poll now pn)).2 ≠ .panic
    ∧ ∀ p, (step (exec s0 ops) (.poll now pn)).2 = .probe (some p) →
        ∃ e, (exec s0 ops).state = some e ∧ (exec s0 ops).currentMtu < p ∧ p ≤ e.config.upperBound ∧ p ≤ e.peerMax
          ∧ inFlightMtuProbe (exec s0 ops) = none
          ∧ inFlightMtuProbe (step (exec s0 ops) (.poll now pn)).1 = some pn :=
  poll_ok _ (exec_sinv s0 (start_sinv s0 h0 h3) ops hc) now pn

/-- at most one probe in flight: a caller that remembers the last emitted probe and forgets it on a probe result
    (ack of it, `on_probe_lost`, `reset`, detected black hole) always agrees with the component's in-flight slot
    (packet number and size), and a probe is only ever emitted while nothing is outstanding.  No assumptions. -/
theorem one_probe_in_flight (s0 : State) (h0 : Start s0) (ops : List Op) :
    ghost none (trace s0 ops) = slot (exec s0 ops)
    ∧ (slot (exec s0 ops)).map (·.1) = inFlightMtuProbe (exec s0 ops)
    ∧ ∀ now pn p, (step (exec s0 ops) (.poll now pn)).2 = .probe (some p) →
        ghost none (trace s0 ops) = none ∧ slot (step (exec s0 ops) (.poll now pn)).1 = some (pn, p) := by
  have hg : ghost none (trace s0 ops) = slot (exec s0 ops) := by
    have := ghost_trace ops s0; rwa [start_slot s0 h0] at this
  refine ⟨hg, slot_inflight _, fun now pn p h => ?_⟩
  rw [hg]; exact probe_only_when_idle _ now pn p h

/-- `current_mtu` changes only by: the ack (in the Data space) of the in-flight probe — to exactly the size of
    that probe; a peer limit — down to that limit; a detected black hole — down to `min_mtu`; or `reset`.
    No assumptions. -/
theorem mtu_changes_only_by (s0 : State) (ops : List Op) (op : Op)
    (hne : (step (exec s0 ops) op).1.currentMtu ≠ (exec s0 ops).currentMtu) :
    (∃ pn len e st, op = .acked true pn len ∧ (exec s0 ops).state = some e ∧ e.phase = .searching st
        ∧ st.inFlightProbe = some pn ∧ slot (exec s0 ops) = some (pn, st.lastProbedMtu)
        ∧ (step (exec s0 ops) op).1.currentMtu = st.lastProbedMtu ∧ (step (exec s0 ops) op).2 = .bool true)
    ∨ (∃ v, op = .peerMax v ∧ (step (exec s0 ops) op).1.currentMtu = v ∧ v < (exec s0 ops).currentMtu)
    ∨ (∃ now, op = .blackHole now ∧ (step (exec s0 ops) op).2 = .bool true
        ∧ (step (exec s0 ops) op).1.currentMtu = (exec s0 ops).det.minMtu
        ∧ (exec s0 ops).det.minMtu < (exec s0 ops).currentMtu)
    ∨ (∃ c m, op = .reset c m) :=
  (mtu_change (exec s0 ops) op hne).imp
    (fun ⟨pn, len, e, st, h1, h2, h3, h4, h5, h6⟩ => ⟨pn, len, e, st, h1, h2, h3, h4, slot_of_search h2 h3 h4, h5, h6⟩) id

/-- `current_mtu` rises only after a probe of exactly that size was acknowledged (or by `reset`, which restores the
    configured initial MTU clamped by the peer limit) — no assumptions; and with `minimum_change ≥ 3` and the
    contract the ack of the in-flight probe always raises it -/
theorem mtu_rises_only_on_probe_ack (s0 : State) (h0 : Start s0)
    (h3 : ∀ cfg, configOf s0 = some cfg → 3 ≤ cfg.minimumChange) (ops : List Op) (hc : okRun Contract s0 ops) (op : Op) :
    ((exec s0 ops).currentMtu < (step (exec s0 ops) op).1.currentMtu →
        (∃ pn len p, op = .acked true pn len ∧ slot (exec s0 ops) = some (pn, p) ∧ (step (exec s0 ops) op).1.currentMtu = p)
        ∨ (∃ c m, op = .reset c m))
    ∧ (∀ pn len p, op = .acked true pn len → slot (exec s0 ops) = some (pn, p) →
        (step (exec s0 ops) op).2 = .bool true ∧ (step (exec s0 ops) op).1.currentMtu = p ∧ (exec s0 ops).currentMtu < p) := by
  have hi := exec_sinv s0 (start_sinv s0 h0 h3) ops hc
  generalize exec s0 ops = s at hi ⊢
  refine ⟨fun hlt => ?_, fun pn len p hop hslot => ?_⟩
  · rcases mtu_change s op (by omega) with ⟨pn, len, e, st, h1, h2, h3', h4, h5, _⟩ | ⟨v, _, h2, h3'⟩ | ⟨now, _, _, h3', h4⟩ | h
    · left; exact ⟨pn, len, st.lastProbedMtu, h1, slot_of_search h2 h3' h4, h5⟩
    · omega
    · omega
    · right; exact h
  · subst hop
    obtain ⟨e, st, hst, hph, hq, rfl⟩ := search_of_slot hslot
    have hs := step_stepped s (.acked true pn len)
    generalize step s (.acked true pn len) = r at hs ⊢
    cases hs with
    | ackedOther hno => exact absurd hq (hno e st hst hph)
    | ackedProbe e' st' he' hph' =>
      rw [hst] at he'; cases he'; rw [hph] at hph'; cases hph'
      exact ⟨rfl, rfl, acked_raises s hi e st pn hst hph hq⟩

/-- with `minimum_change ≥ 3` and the contract `current_mtu` falls only by a peer limit (to exactly that limit),
    a detected black hole (to `min_mtu`) or `reset` — never through the search itself -/
theorem mtu_falls_only_by (s0 : State) (h0 : Start s0)
    (h3 : ∀ cfg, configOf s0 = some cfg → 3 ≤ cfg.minimumChange) (ops : List Op) (hc : okRun Contract s0 ops) (op : Op)
    (hlt : (step (exec s0 ops) op).1.currentMtu < (exec s0 ops).currentMtu) :
    (∃ v, op = .peerMax v ∧ (step (exec s0 ops) op).1.currentMtu = v)
    ∨ (∃ now, op = .blackHole now ∧ (step (exec s0 ops) op).2 = .bool true
        ∧ (step (exec s0 ops) op).1.currentMtu = (exec s0 ops).det.minMtu)
    ∨ (∃ c m, op = .reset c m) := by
  have hi := exec_sinv s0 (start_sinv s0 h0 h3) ops hc
  rcases mtu_change (exec s0 ops) op (by omega) with ⟨pn, len, e, st, _, h2, h3', h4, h5, _⟩ | ⟨v, h1, h2, _⟩ | ⟨now, h1, h2, h3', _⟩ | h
  · have := acked_raises _ hi e st pn h2 h3' h4; omega
  · left; exact ⟨v, h1, h2⟩
  · right; left; exact ⟨now, h1, h2, h3'⟩
  · right; right; exact h

/-- floor, in the property's form: the estimate never FALLS below the smaller of the configured minimum and the
    peer's max_udp_payload_size — whenever a call lowers `current_mtu`, the new value is at least
    `min(min_mtu, peer limit)` of the resulting state.  Needs `minimum_change ≥ 3`, the contract, and `reset(c, m)`
    called with `m ≤ c` (what `PathData::reset` passes). -/
theorem mtu_never_falls_below_floor (s0 : State) (h0 : Start s0)
    (h3 : ∀ cfg, configOf s0 = some cfg → 3 ≤ cfg.minimumChange) (ops : List Op) (hc : okRun Contract s0 ops) (op : Op)
    (hr : ResetContract (exec s0 ops) op)
    (hlt : (step (exec s0 ops) op).1.currentMtu < (exec s0 ops).currentMtu) :
    Nat.min (step (exec s0 ops) op).1.det.minMtu (step (exec s0 ops) op).1.peerMax ≤ (step (exec s0 ops) op).1.currentMtu :=
  fall_not_below_floor _ op (exec_sinv s0 (start_sinv s0 h0 h3) ops hc) hr hlt

/-- floor as a state invariant: `current_mtu ≥ min(min_mtu, peer max_udp_payload_size)` in every reachable state,
    enabled or disabled, under the same assumptions and if a later peer limit is never larger than an earlier one
    (with a larger second limit the floor itself would rise above an estimate the first limit had clamped) -/
theorem mtu_floor (s0 : State) (h0 : StartOk s0) (h3 : ∀ cfg, configOf s0 = some cfg → 3 ≤ cfg.minimumChange)
    (ops : List Op) (hc : okRun FloorRun s0 ops) :
    Nat.min (exec s0 ops).det.minMtu (exec s0 ops).peerMax ≤ (exec s0 ops).currentMtu :=
  exec_floor s0 (start_ginv s0 h0.start) (start_sinv s0 h0.start h3) (start_floor s0 h0) ops hc

/-- ceiling, unconditional: `current_mtu` never exceeds the peer's max_udp_payload_size (as last received;
    `MAX_UDP_PAYLOAD` = 65527 before that) — for ANY calls, with discovery enabled or disabled, including black-hole
    fallback and `reset` … -/
theorem mtu_le_peer_max (s0 : State) (h0 : Start s0) (hi : s0.currentMtu ≤ Gen.maxUdpPayload) (ops : List Op) :
    (exec s0 ops).currentMtu ≤ (exec s0 ops).peerMax :=
  exec_ceil s0 (start_ginv s0 h0) (start_ceil s0 h0 hi) ops

/-- … and even for an (impossible) initial MTU above 65527 from the moment the peer's limit has been received -/
theorem mtu_le_peer_max_once_received (s0 : State) (h0 : Start s0) (ops1 : List Op) (v : Nat)
    (hp : (step (exec s0 ops1) (.peerMax v)).2 ≠ .panic) (ops2 : List Op) :
    (exec (step (exec s0 ops1) (.peerMax v)).1 ops2).currentMtu ≤ (exec (step (exec s0 ops1) (.peerMax v)).1 ops2).peerMax :=
  exec_ceil _ (step_ginv _ _ (exec_ginv s0 (start_ginv s0 h0) ops1) hp) (peerMax_ceil _ v) ops2

/-- the remembered limit is exactly what was received last (or the default) -/
theorem peer_max_is_last_received (s : State) (v : Nat) : (step s (.peerMax v)).1.peerMax = v :=
  (step_peerMax_eq s v).2

/-- the binary search terminates: within one search (`searchOf` before and after the call) no call increases
    `measure`, every probe result (ack of the in-flight probe, loss of it) strictly decreases it, and a poll with
    nothing in flight emits a probe or ends the search.  A search therefore sees at most
    `measure ≤ 4 * (upper_bound − lower_bound) + 3` probe results.  Needs `minimum_change ≥ 3` and the contract. -/
theorem search_terminates (s0 : State) (h0 : Start s0) (h3 : ∀ cfg, configOf s0 = some cfg → 3 ≤ cfg.minimumChange)
    (ops : List Op) (hc : okRun Contract s0 ops) :
    (∀ op st st', Contract (exec s0 ops) op → (step (exec s0 ops) op).2 ≠ .panic →
        searchOf (exec s0 ops) = some st → searchOf (step (exec s0 ops) op).1 = some st' →
        measure st' ≤ measure st ∧ (isProbeResult op (step (exec s0 ops) op).2 = true → measure st' < measure st))
    ∧ (∀ now pn st, searchOf (exec s0 ops) = some st → st.inFlightProbe = none →
        (∃ p, (step (exec s0 ops) (.poll now pn)).2 = .probe (some p))
        ∨ ((step (exec s0 ops) (.poll now pn)).2 = .probe none ∧ searchOf (step (exec s0 ops) (.poll now pn)).1 = none)) := by
  have hi := exec_sinv s0 (start_sinv s0 h0 h3) ops hc
  exact ⟨fun op st st' hco hp h h' => measure_step _ op hi hco hp st st' h h',
    fun now pn st h hfl => poll_progress _ hi now pn st h hfl⟩

/-- a detected black hole lowers `current_mtu` to `min_mtu` (never raises it: `min(current_mtu, min_mtu)`), keeps the
    peer limit, clears the burst table and suspends the search until `now + black_hole_cooldown`; it is detected
    exactly when, after closing the current loss burst, more than `BLACK_HOLE_THRESHOLD` bursts are suspicious.
    No assumptions. -/
theorem black_hole_resets_to_min (s : State) (now : Nat) :
    ((step s (.blackHole now)).2 = .bool true ↔ Gen.mtudBlackHoleThreshold < s.det.finishLossBurst.bursts.length)
    ∧ ((step s (.blackHole now)).2 = .bool true →
        (step s (.blackHole now)).1.currentMtu = Nat.min s.currentMtu s.det.minMtu
        ∧ (step s (.blackHole now)).1.peerMax = s.peerMax
        ∧ (step s (.blackHole now)).1.det.minMtu = s.det.minMtu
        ∧ (step s (.blackHole now)).1.det.bursts = []
        ∧ (step s (.blackHole now)).1.det.current = none
        ∧ (∀ e, s.state = some e →
            (step s (.blackHole now)).1.state = some { e with phase := .complete (now + e.config.blackHoleCooldown) })
        ∧ (s.state = none → (step s (.blackHole now)).1.state = none)) := by
  have hs := step_stepped s (.blackHole now)
  generalize step s (.blackHole now) = r at hs ⊢
  cases hs with
  | noBlackHole d hb => exact ⟨⟨nofun, fun h => nomatch (blackHoleDetected_result s.det d _ hb).iff.2 h⟩, nofun⟩
  | blackHole d hb =>
    have hr := blackHoleDetected_result s.det d _ hb
    exact ⟨⟨fun _ => hr.iff.1 rfl, fun _ => rfl⟩, fun _ => ⟨congrArg (Nat.min s.currentMtu) hr.minMtu, rfl, hr.minMtu,
      hr.cleared rfl, hr.current,
      fun e he => by simp only [he, Option.map_some, Enabled.onBlackHoleDetected],
      fun hn => by simp only [hn, Option.map_none]⟩⟩

/-- in every state that satisfies floor and ceiling (all reachable states under `mtu_floor` / `mtu_le_peer_max`) that
    fallback value is exactly the smaller of `min_mtu` and the peer's max_udp_payload_size -/
theorem black_hole_falls_to_min_of_limits (s : State) (hc : s.currentMtu ≤ s.peerMax)
    (hf : Nat.min s.det.minMtu s.peerMax ≤ s.currentMtu) :
    Nat.min s.currentMtu s.det.minMtu = Nat.min s.det.minMtu s.peerMax := by
  simp only [natMin] at hf ⊢
  omega

/-- "when the path starts dropping large packets the connection falls back": an acknowledgement of a packet of
    `len` bytes clears the suspicion of exactly those loss bursts whose smallest lost packet was no larger than
    `len` — every burst of LARGER packets stays suspicious (so traffic of intermediate size that still gets through
    cannot keep the detector from reaching its threshold), and nothing else is kept.  The comparison is the one
    regenerated from `BlackHoleDetector::on_non_probe_acked` (`Gen.mtudBurstStays`).  No assumptions. -/
theorem larger_bursts_stay_suspicious (d : Detector) (pn len b : Nat) (hb : b ∈ d.bursts) (hl : len < b) :
    b ∈ (d.onNonProbeAcked pn len).bursts := by
  unfold Detector.onNonProbeAcked
  split
  · exact hb
  · exact List.mem_filter.mpr ⟨hb, by simp [Gen.mtudBurstStays, hl]⟩

theorem only_larger_bursts_stay_suspicious (d : Detector) (pn len b : Nat)
    (hn : Gen.mtudAckedNoop len d.ackedMtu = false) (hb : b ∈ (d.onNonProbeAcked pn len).bursts) :
    b ∈ d.bursts ∧ len < b := by
  unfold Detector.onNonProbeAcked at hb
  simp only [hn] at hb
  have h := List.mem_filter.mp hb
  exact ⟨h.1, by simpa [Gen.mtudBurstStays] using h.2⟩

/-- non-vacuity: bursts of 1452-byte packets survive the acknowledgement of a 1220-byte datagram, a burst of
    1210-byte packets does not -/
example : ({ bursts := [1452, 1210, 1452], current := none, largestPostLoss := 0, ackedMtu := 1200, minMtu := 1200 } : Detector).onNonProbeAcked 7 1220
    = { bursts := [1452, 1452], current := none, largestPostLoss := 7, ackedMtu := 1220, minMtu := 1200 } := by decide

/-- the detector never stores more than `BLACK_HOLE_THRESHOLD + 1` suspicious bursts.  No assumptions. -/
theorem burst_table_bounded (s0 : State) (h0 : Start s0) (ops : List Op) :
    (exec s0 ops).det.bursts.length ≤ Gen.mtudBlackHoleThreshold + 1 :=
  (exec_ginv s0 (start_ginv s0 h0) ops).bursts

/-- widths: with `u16` peer limits, every bound and probe size of a running search is below 2^16, so none of the
    `as u16` casts in `next_mtu_to_probe` truncates (the model computes in ℕ) -/
theorem sizes_fit_u16 (s0 : State)
    (h0 : (∃ i m p cfg, Mtud.new i m p cfg = some s0 ∧ ∀ v, p = some v → v < 65536) ∨ (∃ i m, s0 = disabled i m))
    (ops : List Op) (hc : okRun U16Args s0 ops) :
    ∀ e st, (exec s0 ops).state = some e → e.phase = .searching st →
      st.lowerBound < 65536 ∧ st.upperBound < 65536 ∧ st.lastProbedMtu < 65536 := by
  have hs : Start s0 := h0.imp (fun ⟨i, m, p, cfg, h, _⟩ => ⟨i, m, p, cfg, h⟩) id
  exact exec_u16 s0 (start_ginv s0 hs) (start_u16 s0 h0) ops hc

/-- the deliberate panic ("Transport parameters received after MTU probing started") fires exactly while a search
    is running; `on_non_probe_lost` panics exactly when packet numbers of one burst go backwards; `new` exactly
    when `initial_plpmtu < min_mtu`.  No assumptions. -/
theorem panics_exactly (s : State) :
    (∀ v, (step s (.peerMax v)).2 = .panic ↔ ∃ st, searchOf s = some st)
    ∧ (∀ pn len, (step s (.nonProbeLost pn len)).2 = .panic ↔ ∃ c, s.det.current = some c ∧ pn < c.latest)
    ∧ (∀ i m p cfg, Mtud.new i m p cfg = none ↔ i < m) := by
  refine ⟨fun v => ?_, fun pn len => ?_, new_panics_iff⟩
  · have hs := step_stepped s (.peerMax v)
    generalize step s (.peerMax v) = r at hs ⊢
    have running : ∀ e0, s.state = some e0 → (∃ st, searchOf s = some st) → ∃ st, e0.phase = .searching st := by
      rintro e0 he0 ⟨st, hst⟩
      obtain ⟨e, he, hph⟩ := (searchOf_iff s st).1 hst
      rw [he0] at he; cases he; exact ⟨st, hph⟩
    cases hs with
    | peerMaxOff hn => exact ⟨nofun, fun ⟨st, hst⟩ => by simp only [searchOf, hn] at hst; cases hst⟩
    | peerMaxPanic e st he hph => exact ⟨fun _ => ⟨st, (searchOf_iff s st).2 ⟨e, he, hph⟩⟩, fun _ => rfl⟩
    | peerMax e he hns => exact ⟨nofun, fun h => let ⟨st, hph⟩ := running e he h; absurd hph (hns st)⟩
  · simp only [step, onNonProbeLost, Detector.onNonProbeLost]
    cases hc : s.det.current with
    | none => simp
    | some c =>
      by_cases hlt : pn < c.latest
      · simp [hlt]
      · simp [hlt]

/-- "loss probes never exceed 1200 bytes": whenever a loss-probe credit is pending in the space being sent in — Initial,
    Handshake or Data alike — the datagram started for it is limited to at most INITIAL_MTU = 1200 bytes, whatever the
    MTU estimate; and it consumes exactly one credit -/
theorem loss_probe_datagram_le_1200 (credits segmentSize : Nat) (h : 0 < credits) :
    (Sizing.nextDatagramLimit credits segmentSize).2 ≤ 1200 ∧
    (Sizing.nextDatagramLimit credits segmentSize).1 + 1 = credits := by
  cases credits with
  | zero => omega
  | succ n =>
    have hm : Gen.initialMtu = 1200 := by decide
    show min segmentSize Gen.initialMtu ≤ 1200 ∧ n + 1 = n + 1
    rw [hm]
    exact ⟨Nat.min_le_right _ _, rfl⟩

/-- without a pending credit the limit is the segment size (the MTU estimate) and nothing is consumed -/
theorem ordinary_datagram_limit (segmentSize : Nat) : Sizing.nextDatagramLimit 0 segmentSize = (0, segmentSize) := rfl

example : Sizing.nextDatagramLimit 2 1452 = (1, 1200) := by decide

/-! ### what is FALSE of the code (proved on the model; each is replayed on the real code by the harness).
Two findings (reset with discovery disabled forgot the peer limit; a black hole set `current_mtu = min_mtu` above the
peer limit) are fixed in quinn: `mtu_le_peer_max` holds, and their witnesses are regression examples at the end (and
corpus/mtud/fixed-*.ops for the real code). -/

/-- a run from `new(initial, min, peer, config(interval, upper_bound, minimum_change, cooldown))` -/
def runNew (i m : Nat) (p : Option Nat) (cfg : Config) (ops : List Op) : Option State :=
  (Mtud.new i m p cfg).map (fun s => exec s ops)

/-- the probe sizes returned by the polls of such a run -/
def probesNew (i m : Nat) (p : Option Nat) (cfg : Config) (ops : List Op) : Option (List Nat) :=
  (Mtud.new i m p cfg).map (fun s => (trace s ops).filterMap (fun e => match e.2 with | .probe (some p) => some p | _ => none))

/-- four separate loss bursts of 1350-byte packets, then the detector is asked -/
def blackHoleOps : List Op :=
  [.nonProbeLost 0 1350, .nonProbeLost 2 1350, .nonProbeLost 4 1350, .nonProbeLost 6 1350, .blackHole 0]

/-- three losses of the probe in flight, each followed by the next poll -/
def lose3 (pn : Nat) : List Op :=
  [.probeLost, .poll 0 (pn + 1), .probeLost, .poll 0 (pn + 2), .probeLost, .poll 0 (pn + 3)]

/-- FINDING (configuration, companion of F8): `minimum_change = 1`, upper bound 1201: after the probe of 1201 is
    given up the search probes 1200 = current_mtu, after that one is given up it probes 1199 < current_mtu, and the
    ack of that probe lowers current_mtu below min_mtu.  All calls respect the contract. -/
def mc1Ops : List Op := [.poll 0 1] ++ lose3 1 ++ lose3 4 ++ [.acked true 7 1199]

theorem probe_below_mtu_minimum_change_1 :
    probesNew 1200 1200 none (Config.make 0 1201 1 0) mc1Ops = some [1201, 1201, 1201, 1200, 1200, 1200, 1199]
    ∧ (runNew 1200 1200 none (Config.make 0 1201 1 0) mc1Ops).map (·.currentMtu) = some 1199 := by decide

theorem mtu_floor_counterexample_minimum_change_1 :
    ∃ s, runNew 1200 1200 none (Config.make 0 1201 1 0) mc1Ops = some s
      ∧ ∃ e, s.state = some e ∧ s.currentMtu < Nat.min s.det.minMtu e.peerMax := by decide

/-- `minimum_change = 2`: the search can still probe exactly `current_mtu` (never below) -/
theorem probe_equals_mtu_minimum_change_2 :
    probesNew 1200 1200 none (Config.make 0 1202 2 0) ([.poll 0 1] ++ lose3 1) = some [1202, 1202, 1202, 1200] := by decide

/-- FINDING F8: `minimum_change = 0`: the search never ends — from the state `stuck` every poll emits a probe of
    the current MTU and its ack leads back to `stuck`, for any number of rounds -/
theorem search_diverges_minimum_change_0 (n : Nat) (d : Detector) :
    (∃ d', rounds n (stuck d) = stuck d')
    ∧ ∀ d' pn, (step (stuck d') (.poll 0 pn)).2 = .probe (some 1200) :=
  ⟨stuck_forever n d, fun d' pn => (stuck_round d' pn).1⟩

/-- `stuck` is reached from `new(1200, 1200, None, minimum_change = 0)` by one poll and the ack of that probe -/
theorem stuck_reachable :
    (runNew 1200 1200 none cfg0 [.poll 0 0, .acked true 0 1200]) = some (stuck ((Detector.new 1200).onProbeAcked 0 1200)) := by
  decide

/-- without the caller contract (an `on_probe_lost` with no probe in flight) even the default configuration
    "retransmits" a probe of exactly `current_mtu` -/
theorem probe_not_above_mtu_without_contract :
    (Mtud.new 1200 1200 none Config.default).map
        (fun s => (trace s [.poll 0 1, .acked true 1 1326, .probeLost, .poll 0 2]).map (·.2))
      = some [.probe (some 1326), .bool true, .unit, .probe (some 1326)] := by decide

/-! ### non-vacuity: a default-configuration search against a 1400-byte link -/

def demo : List Op :=
  [.poll 0 1, .acked true 1 1326, .poll 0 2] ++ lose3 2 ++ [.acked true 5 1357, .poll 0 6, .probeLost, .poll 0 7]

example : ∃ s0, Mtud.new 1200 1200 none Config.default = some s0 ∧ Start s0 ∧ okRun Contract s0 demo
    ∧ (∀ cfg, configOf s0 = some cfg → 3 ≤ cfg.minimumChange) := by
  refine ⟨_, rfl, Or.inl ⟨1200, 1200, none, Config.default, rfl⟩, by decide, ?_⟩
  intro cfg h; cases h; decide
example : probesNew 1200 1200 none Config.default demo = some [1326, 1389, 1389, 1389, 1357, 1388, 1388] := by decide
example : (runNew 1200 1200 none Config.default demo).map (·.currentMtu) = some 1357 := by decide
example : (runNew 1400 1250 none Config.default blackHoleOps).map (fun s => (s.currentMtu, s.det.bursts)) = some (1250, []) := by decide

-- regressions of the two fixed findings: the peer limit survives `reset` with discovery disabled and black holes
example : (exec (disabled 1400 1200) [.peerMax 1300, .reset 1400 1200]).currentMtu = 1300 := by decide
example : (runNew 1400 1300 (some 1250) Config.default blackHoleOps).map (fun s => (s.currentMtu, s.peerMax)) = some (1250, 1250) := by decide
example : (exec (disabled 1400 1300) ([.peerMax 1250] ++ blackHoleOps)).currentMtu = 1250 := by decide

end QM.Props.C13
