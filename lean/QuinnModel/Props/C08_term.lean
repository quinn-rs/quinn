import QuinnModel.Lemmas.Termination
/-
C08 — termination clauses not covered by Props/C08.lean: the negotiated idle timeout and the idle / closing periods
against the RFC text (`QuinnModel/Spec/Idle.lean`, written from RFC 9000 10.1 / 10.2 / 18.2 only; the functions and
factors on quinn's side are regenerated from the source), the three-PTO deadline for closes that are NOT local
(peer close, protocol error), and "the reason is reported at least once".
-/
namespace QM.Props.C08_term
open QM QM.Life

/-- the idle timeout quinn negotiates is the RFC's: the minimum of the two advertised non-zero values, the only
    one advertised, or none -/
theorem negotiated_idle_is_rfc (localMs peerMs : Option Nat) :
    Life.negotiatedIdle localMs peerMs = Spec.negotiatedIdle localMs peerMs := by
  rcases localMs with _ | (_ | x) <;> rcases peerMs with _ | (_ | y) <;> rfl

/-- both endpoints compute the same value -/
theorem negotiated_idle_symmetric (a b : Option Nat) : Life.negotiatedIdle a b = Life.negotiatedIdle b a := by
  rw [negotiated_idle_is_rfc, negotiated_idle_is_rfc]
  rcases a with _ | (_ | a) <;> rcases b with _ | (_ | b) <;> simp [Spec.negotiatedIdle, Spec.advertised, Nat.min_comm]

/-- the idle period is the negotiated timeout raised to at least three probe timeouts: never shorter than the
    negotiated timeout ("no earlier than"), never longer than the larger of the two ("no later than") -/
theorem idle_period_is_rfc (timeout pto : Nat) :
    Life.idlePeriod timeout pto = max timeout (3 * pto) ∧ timeout ≤ Life.idlePeriod timeout pto := by
  rw [idlePeriod_eq_spec]
  exact ⟨rfl, Nat.le_max_left _ _⟩

/-- a connection whose idle timer was restarted at `now` does not time out before `now + negotiated timeout` -/
theorem idle_timeout_not_before_negotiated (l : L) (ho : l.st.isClosed = false) (now timeout pto t : Nat)
    (ht : t < now + timeout) :
    fireIdle (step l (.authed now (Life.idlePeriod timeout pto))) t = step l (.authed now (Life.idlePeriod timeout pto)) := by
  have hle := (idle_period_is_rfc timeout pto).2
  rw [step_open ho]
  exact fireIdle_future _ t fun _ h => Option.some.inj h ▸ Nat.lt_of_lt_of_le ht (Nat.add_le_add_left hle now)

/-- the closing period is three probe timeouts -/
theorem closing_period_is_3pto (pto : Nat) : Life.closePeriod pto = 3 * pto := by
  rw [closePeriod_eq_spec]; rfl

/-- peer-initiated close: once the peer's CONNECTION_CLOSE is processed at `now`, whatever happens next the close
    timer stays at `now + 3·PTO` until the connection is drained … -/
theorem peer_close_deadline_kept (l : L) (hi : Inv l) (ho : l.st.isClosed = false) (now pto : Nat) (evs : List Ev)
    (hw : WD (step l (.peerClose now (Life.closePeriod pto))) evs) :
    Closing (now + 3 * pto) (run (step l (.peerClose now (Life.closePeriod pto))) evs) := by
  rw [closing_period_is_3pto] at *
  exact run_closing _ evs _ hw (by rw [step_open ho]; exact .inr ⟨.inr rfl, rfl⟩)

/-- … the same for a close frame in an Initial/Handshake packet … -/
theorem peer_close_early_deadline_kept (l : L) (hi : Inv l) (ho : l.st.isClosed = false) (now pto : Nat) (evs : List Ev)
    (hw : WD (step l (.peerCloseEarly now (Life.closePeriod pto))) evs) :
    Closing (now + 3 * pto) (run (step l (.peerCloseEarly now (Life.closePeriod pto))) evs) := by
  rw [closing_period_is_3pto] at *
  exact run_closing _ evs _ hw (by rw [step_open ho]; exact .inr ⟨.inr rfl, rfl⟩)

/-- … and for a protocol error (or any other error of packet processing) on an open connection -/
theorem pkt_err_deadline_kept (l : L) (hi : Inv l) (ho : l.st.isClosed = false) (k : PktErr) (sp : Bool) (now pto : Nat)
    (evs : List Ev) (hw : WD (step l (.pktErr k now (Life.closePeriod pto) sp)) evs) :
    Closing (now + 3 * pto) (run (step l (.pktErr k now (Life.closePeriod pto) sp)) evs) := by
  rw [closing_period_is_3pto] at *
  refine run_closing _ evs _ hw ?_
  rw [step_open ho]
  cases k with
  | toClosed => exact .inr ⟨.inl rfl, rfl⟩
  | toDraining => exact .inr ⟨.inr rfl, rfl⟩
  | toDrained => exact .inl rfl

/-- (with `Props.C08.drained_within_3pto`: servicing the timers at or after that deadline drains it) -/
theorem peer_close_drained_within_3pto (l : L) (hi : Inv l) (ho : l.st.isClosed = false) (now pto t : Nat)
    (ht : now + 3 * pto ≤ t) (hw : WD (step l (.peerClose now (Life.closePeriod pto))) []) :
    (step (step l (.peerClose now (Life.closePeriod pto))) (.timeout t)).st = .drained :=
  timeout_drains _ t _ (peer_close_deadline_kept l hi ho now pto [] hw) ht

/-- "reports the reason … at least once": over every well-driven history, a connection that is drained and was never
    closed by its own application has had ConnectionLost delivered, or has it pending for the next poll -/
theorem drained_implies_reported (evs : List Ev) (hw : WD init evs)
    (hd : (run init evs).st = .drained) (hl : (run init evs).localClose = false) :
    1 ≤ (run init evs).lost + b2n (run init evs).error :=
  run_reported evs init init_inv hw init_reported (by rw [hd]; rfl) hl

/-- … and polling delivers it: afterwards the count is at least one and nothing is pending -/
theorem drained_then_poll_delivers (evs : List Ev) (hw : WD init evs)
    (hd : (run init evs).st = .drained) (hl : (run init evs).localClose = false) :
    1 ≤ (step (run init evs) .poll).lost ∧ (step (run init evs) .poll).error = false := by
  have h := drained_implies_reported evs hw hd hl
  cases he : (run init evs).error <;> simp_all [step, b2n]

example : Life.negotiatedIdle (some 30000) (some 2000) = some 2000 := by decide
example : Life.negotiatedIdle none (some 0) = none := by decide
example : Life.negotiatedIdle (some 0) (some 300) = some 300 := by decide
example : Life.idlePeriod 300 250 = 750 := by decide
example : (run init [.established, .authed 5 1000, .timeout 1005]).st = .drained
    ∧ (run init [.established, .authed 5 1000, .timeout 1005]).localClose = false := by decide
example : WD init [.established, .authed 5 1000, .timeout 1005] := by
  simp [WD, step, init, St.isClosed, Ev.isPacket]
example : Closing (10 + 3 * 7) (run (step (step init .established) (.peerClose 10 (Life.closePeriod 7))) [.pollTransmit, .poll]) := by
  simp [Closing, run, step, init, St.isClosed, stopTimers, afterPacket, closePeriod, Gen.closePtoFactor]

end QM.Props.C08_term
