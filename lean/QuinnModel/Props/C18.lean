import QuinnModel.Lemmas.Wake
/-
C18 — Async API: no lost wakeups, cancellation-safe registrations, clean teardown.
Model: QuinnModel/Async/Wake.lean — the locked wake protocol of the `quinn` crate (application poll = check and,
on failure, register under the same lock; driver step = apply events, then wake-and-remove the waiters of every
condition that became true; terminate wakes and removes all; drops remove registrations), for any number of
tasks and conditions, conditions that become false again, and `slot` conditions (per-stream waker maps
`blocked_readers`/`blocked_writers`, whose entry outlives a dropped future until the stream handle is dropped or
the stream is woken) versus `Notified` conditions (deregistered when the future is dropped).
Every theorem quantifies over ALL interleavings: arbitrary event lists from the initial state, every `slot`.
The model is tied to the Rust text by the shape anchors in Gen/C18.lean and to its behaviour by the `asyncsim`
harness (real quinn futures under a deterministic executor); it is NOT compared with the code line by line.
-/
namespace QM.Props.C18
open QM QM.Wake

/-- whenever a task's last poll on condition `c` returned Pending and `c` holds now (or the connection is
    lost), the task's waker has been invoked since that poll -/
theorem no_lost_wakeup (slot : Cond → Bool) (evs : List Ev) (t : Task) (c : Cond)
    (hw : (run slot init evs).waiting t = some c)
    (hc : (run slot init evs).holds c = true ∨ (run slot init evs).dead = true) :
    (run slot init evs).woken t = true :=
  woken_of_waiting_ready slot _ (inv_reach slot evs) t c hw hc

/-- … and the poll that any scheduler eventually gives a woken task completes -/
theorem woken_task_completes (slot : Cond → Bool) (s : St) (t : Task) (c : Cond) (consume : Bool)
    (hw : s.waiting t = some c) (hc : s.holds c = true ∨ s.dead = true) :
    (s.poll slot t c consume).2 = true := by
  rw [poll_eq, pollStart_of_waiting slot hw, pollCore_ready]
  rcases hc with hc | hc <;> simp [hc]

/-- `terminate` leaves no registration and has woken every task that was Pending -/
theorem terminate_wakes_all (slot : Cond → Bool) (evs : List Ev) :
    (step slot (run slot init evs) .terminate).regs = [] ∧
    (step slot (run slot init evs) .terminate).dead = true ∧
    ∀ t c, (run slot init evs).waiting t = some c → (step slot (run slot init evs) .terminate).woken t = true :=
  ⟨rfl, rfl, terminate_woken slot _ (inv_reach slot evs)⟩

/-- after `terminate`, whatever happens next, nothing is ever registered again and every poll completes -/
theorem after_terminate_nothing_pends (slot : Cond → Bool) (evs evs' : List Ev) :
    (run slot (step slot (run slot init evs) .terminate) evs').regs = [] ∧
    ∀ t c consume, ((run slot (step slot (run slot init evs) .terminate) evs').poll slot t c consume).2 = true :=
  have hd := dead_run slot evs' (step slot (run slot init evs) .terminate) rfl
  ⟨regs_nil_of_dead slot _ (inv_run slot evs' _ (inv_step slot _ .terminate (inv_reach slot evs))) hd,
    fun t c consume => poll_ready_of_dead slot _ t c consume hd⟩

/-- dropping a pending future leaves no registration on a `Notified` condition … -/
theorem drop_leaves_no_registration (slot : Cond → Bool) (evs : List Ev) (t : Task) (c : Cond) (hs : slot c = false) :
    (c, t) ∉ (step slot (run slot init evs) (.dropFut t)).regs :=
  fun hr => by have := (dropFut_regs_left slot _ (inv_reach slot evs) t c hr).1; rw [hs] at this; cases this

/-- … on a waker-map condition the one entry that may stay is recorded as a leftover … -/
theorem drop_future_leftover_recorded (slot : Cond → Bool) (evs : List Ev) (t : Task) (c : Cond)
    (hr : (c, t) ∈ (step slot (run slot init evs) (.dropFut t)).regs) :
    slot c = true ∧ (step slot (run slot init evs) (.dropFut t)).left t c = true :=
  dropFut_regs_left slot _ (inv_reach slot evs) t c hr

/-- … which dropping the stream handle removes, and which a single wake of that stream uses up -/
theorem drop_handle_leaves_no_registration (slot : Cond → Bool) (s : St) (t : Task) (c : Cond) :
    (c, t) ∉ (step slot s (.dropHandle t c)).regs ∧ (step slot s (.dropHandle t c)).left t c = false :=
  ⟨fun h => by simpa using (List.mem_filter.1 h).2, if_pos ⟨rfl, rfl⟩⟩

theorem leftover_woken_at_most_once (s : St) (c : Cond) (t : Task) :
    (s.wakeCond c).left t c = false ∧ (c, t) ∉ (s.wakeCond c).regs :=
  ⟨if_pos rfl, fun h => by simpa using (List.mem_filter.1 h).2⟩

/-- a poll that completes leaves the task unregistered for that condition and not waiting -/
theorem poll_ready_clears_registration (slot : Cond → Bool) (evs : List Ev) (t : Task) (c : Cond) (consume : Bool)
    (hr : ((run slot init evs).poll slot t c consume).2 = true) :
    (c, t) ∉ ((run slot init evs).poll slot t c consume).1.regs ∧
    ((run slot init evs).poll slot t c consume).1.waiting t = none := by
  rw [poll_eq] at hr ⊢
  exact pollCore_done slot _ (inv_pollStart slot _ t c (inv_reach slot evs)) t c consume hr

/-- every registration belongs to a task that is waiting on exactly that condition, or is a recorded
    waker-map leftover of a dropped future (never on a `Notified` condition) -/
theorem registrations_only_of_pending_tasks (slot : Cond → Bool) (evs : List Ev) (t : Task) (c : Cond)
    (hr : (c, t) ∈ (run slot init evs).regs) :
    (run slot init evs).waiting t = some c ∨ (slot c = true ∧ (run slot init evs).left t c = true) :=
  (inv_reach slot evs).regOwned t c hr

/-- registrations exist only for conditions that do not hold, on a connection that is not lost: every change
    of a condition to true wakes and removes its waiters in the same locked step -/
theorem registered_only_while_false (slot : Cond → Bool) (evs : List Ev) (t : Task) (c : Cond)
    (hr : (c, t) ∈ (run slot init evs).regs) :
    (run slot init evs).holds c = false ∧ (run slot init evs).dead = false :=
  (inv_reach slot evs).regFalse t c hr

/-- the leftover record is exact: a recorded leftover is a waker-map entry that is still registered -/
theorem leftover_is_registered (slot : Cond → Bool) (evs : List Ev) (t : Task) (c : Cond)
    (hl : (run slot init evs).left t c = true) :
    slot c = true ∧ (c, t) ∈ (run slot init evs).regs :=
  (inv_reach slot evs).leftReg t c hl

/-- several waiters on one condition: at every reachable state no task is both Pending and unregistered unless
    its waker has fired since its last poll … -/
theorem pending_is_registered_or_woken (slot : Cond → Bool) (evs : List Ev) (t : Task) (c : Cond)
    (hw : (run slot init evs).waiting t = some c) :
    (run slot init evs).woken t = true ∨ (c, t) ∈ (run slot init evs).regs :=
  (inv_reach slot evs).pendingCovered t c hw

/-- … because every poll that returns Pending registers the task again — in particular the poll of a woken
    "loser" that finds the condition already consumed by another task (the retry loop of `poll_accept`,
    `poll_open`, `ReadDatagram`, `SendDatagram`, `Accept`: a fresh `Notified` is POLLED before Pending is returned) … -/
theorem loser_reregisters (slot : Cond → Bool) (s : St) (t : Task) (c : Cond) (consume : Bool)
    (hr : (s.poll slot t c consume).2 = false) :
    (c, t) ∈ (s.poll slot t c consume).1.regs ∧ (s.poll slot t c consume).1.waiting t = some c ∧
    (s.poll slot t c consume).1.woken t = false := by
  rw [poll_eq] at hr ⊢
  exact pollCore_pending _ t c consume hr

/-- … and a wake of a condition reaches every task registered for it, however many (`notify_waiters`) -/
theorem wake_reaches_every_waiter (s : St) (c : Cond) (t : Task) (hr : (c, t) ∈ s.regs) :
    (s.wakeCond c).woken t = true :=
  by simp [St.wakeCond, (reg_iff s c t).2 hr]

/-- `SendStream::reset` (an APPLICATION call, not a driver event) makes the `stopped` condition of its stream
    hold: in the same locked step every task pending in `stopped()` on that stream is woken and unregistered.
    (`St.appSet` takes what `reset` does from the source, `Gen.c18ResetNotifiesStopped`; with a `reset` that
    does not notify this theorem, `no_lost_wakeup` and `registered_only_while_false` all fail to check.) -/
theorem local_reset_wakes_stopped_waiters (slot : Cond → Bool) (evs : List Ev) (t : Task) (c : Cond)
    (hw : (run slot init evs).waiting t = some c) :
    (step slot (run slot init evs) (.appSet c)).holds c = true ∧
    (step slot (run slot init evs) (.appSet c)).woken t = true ∧
    (c, t) ∉ (step slot (run slot init evs) (.appSet c)).regs :=
  appSet_wakes slot _ (inv_reach slot evs) t c hw

/-- dropping the handle of a REJECTED 0-RTT stream touches no registration: the waker that a stream opened after
    the handshake registered under the same stream id stays (`Gen.c18RejectedDropKeepsWaker`) -/
theorem rejected_drop_keeps_registrations (slot : Cond → Bool) (s : St) (c : Cond) :
    step slot s (.dropRejected c) = s :=
  dropRejected_eq s c

/-- endpoint scope (`Endpoint::accept` on `incoming`, `Endpoint::wait_idle` on `idle`), all interleavings of
    polls, driver steps, dropped futures and the LOSS OF THE ENDPOINT DRIVER (fatal socket error): a task whose
    last poll returned Pending and whose condition holds now — or whose endpoint has lost its driver — has been
    woken since that poll -/
theorem endpoint_no_lost_wakeup (evs : List EpEv) (t : Task) (c : EpCond)
    (hw : (epRun init evs).waiting t = some c.code)
    (hc : (epRun init evs).holds c.code = true ∨ (epRun init evs).dead = true) :
    (epRun init evs).woken t = true :=
  woken_of_waiting_ready noSlot _ (ep_reach evs).1 t c.code hw hc

/-- `Drop for EndpointDriver` (what it notifies is read from the source): no registration is left and every task
    pending in `accept()` or `wait_idle()` has been woken -/
theorem endpoint_driver_loss_wakes_all (evs : List EpEv) :
    (epStep (epRun init evs) .driverLost).regs = [] ∧
    (epStep (epRun init evs) .driverLost).dead = true ∧
    ∀ t c, (epRun init evs).waiting t = some c → (epStep (epRun init evs) .driverLost).woken t = true :=
  have ⟨_, h2, h3⟩ := inv_lose noSlot _ epDriverDropNotifies (ep_reach evs).1 (ep_reach evs).2
  ⟨h2, rfl, h3⟩

-- Conditions 0,1 are waker-map slots (streams), 2.. are Notified conditions; tasks 7, 8.
def slotEx : Cond → Bool := fun c => c < 2

/-- task 7 reads stream 0 (Pending), data arrives, another reader (8) consumes it, 7 is woken and pends again,
    data arrives again -/
def histA : List Ev := [.poll 7 0 true, .drive [0] [], .poll 8 0 true, .poll 7 0 true, .drive [0, 3] [1]]
example : (run slotEx init histA).waiting 7 = some 0 ∧ (run slotEx init histA).holds 0 = true ∧
    (run slotEx init histA).woken 7 = true ∧ (run slotEx init histA).regs = [] := by decide +kernel
example : (run slotEx init (histA.take 4)).waiting 7 = some 0 ∧ (run slotEx init (histA.take 4)).holds 0 = false ∧
    (run slotEx init (histA.take 4)).woken 7 = false ∧ (run slotEx init (histA.take 4)).regs = [(0, 7)] := by decide +kernel
/-- pending accept (cond 2) and pending read (cond 1) at terminate -/
def histB : List Ev := [.poll 7 2 false, .poll 8 1 true]
example : (run slotEx init histB).waiting 7 = some 2 ∧ (run slotEx init histB).waiting 8 = some 1 ∧
    (run slotEx init histB).regs = [(1, 8), (2, 7)] ∧
    (step slotEx (run slotEx init histB) .terminate).woken 7 = true ∧
    (step slotEx (run slotEx init histB) .terminate).woken 8 = true := by decide +kernel
/-- dropped futures: the Notified registration (cond 2) goes, the waker-map entry (cond 1) stays as a leftover
    until the handle is dropped or the stream is woken once -/
example : (step slotEx (run slotEx init histB) (.dropFut 7)).regs = [(1, 8)] ∧
    (step slotEx (run slotEx init histB) (.dropFut 8)).regs = [(1, 8), (2, 7)] ∧
    (step slotEx (run slotEx init histB) (.dropFut 8)).left 8 1 = true ∧
    (run slotEx init (histB ++ [.dropFut 8, .dropHandle 8 1])).regs = [(2, 7)] ∧
    (run slotEx init (histB ++ [.dropFut 8, .drive [1] []])).woken 8 = true ∧
    (run slotEx init (histB ++ [.dropFut 8, .drive [1] []])).left 8 1 = false := by decide +kernel
/-- a completing poll -/
example : ((run slotEx init [.poll 7 0 true, .drive [0] []]).poll slotEx 7 0 true).2 = true ∧
    ((run slotEx init [.poll 7 0 true, .drive [0] []]).poll slotEx 7 0 true).1.holds 0 = false := by decide +kernel
/-- the protocol matters: a driver that sets the condition WITHOUT waking loses the wakeup (state not reachable) -/
example : ({ (run slotEx init [.poll 7 0 true]) with holds := fun _ => true } : St).woken 7 = false := by decide +kernel
/-- two acceptors (7, 8) wait on the same Notified condition 2; a stream arrives: both are woken; 7 wins and
    consumes it; the loser 8 polls, finds nothing, is registered again; the next stream wakes it -/
def histC : List Ev := [.poll 7 2 true, .poll 8 2 true, .drive [2] [], .poll 7 2 true, .poll 8 2 true]
example : (run slotEx init (histC.take 3)).woken 7 = true ∧ (run slotEx init (histC.take 3)).woken 8 = true ∧
    (run slotEx init (histC.take 3)).regs = [] ∧
    (run slotEx init histC).waiting 7 = none ∧ (run slotEx init histC).holds 2 = false ∧
    (run slotEx init histC).waiting 8 = some 2 ∧ (run slotEx init histC).woken 8 = false ∧
    (run slotEx init histC).regs = [(2, 8)] ∧
    (run slotEx init (histC ++ [.drive [2] []])).woken 8 = true := by decide +kernel
example : anchors.length = 23 := by decide +kernel
/-- stopped() of stream 5 pending in tasks 7 and 8 (one shared Notify), the owner resets the stream -/
def histD : List Ev := [.poll 7 5 false, .poll 8 5 false]
example : (run slotEx init histD).waiting 7 = some 5 ∧ (run slotEx init histD).regs = [(5, 8), (5, 7)] ∧
    (step slotEx (run slotEx init histD) (.appSet 5)).woken 7 = true ∧
    (step slotEx (run slotEx init histD) (.appSet 5)).woken 8 = true ∧
    (step slotEx (run slotEx init histD) (.appSet 5)).regs = [] ∧
    ((step slotEx (run slotEx init histD) (.appSet 5)).poll slotEx 7 5 false).2 = true := by decide +kernel
/-- … a `reset` that only changes the state (the code before the repair) leaves both parked for ever -/
example : ({ (run slotEx init histD) with holds := upd (run slotEx init histD).holds 5 true } : St).woken 7 = false ∧
    ({ (run slotEx init histD) with holds := upd (run slotEx init histD).holds 5 true } : St).regs = [(5, 8), (5, 7)] := by decide +kernel
/-- accept() (task 7) and wait_idle() (tasks 8, 9) parked, the endpoint driver is lost -/
def histE : List EpEv := [.poll 7 .incoming true, .poll 8 .idle false, .poll 9 .idle false]
example : (epRun init histE).waiting 8 = some EpCond.idle.code ∧ (epRun init histE).regs = [(1, 9), (1, 8), (0, 7)] ∧
    (epStep (epRun init histE) .driverLost).woken 7 = true ∧ (epStep (epRun init histE) .driverLost).woken 8 = true ∧
    (epStep (epRun init histE) .driverLost).woken 9 = true ∧
    ((epStep (epRun init histE) .driverLost).poll noSlot 8 EpCond.idle.code false).2 = true := by decide +kernel
example : (epRun init (histE ++ [.driverLost])).dead = true ∧ (epRun init (histE ++ [.driverLost])).waiting 8 = some 1 ∧
    (epRun init (histE ++ [.driverLost])).woken 8 = true := by decide +kernel
/-- … a `Drop for EndpointDriver` that notifies `incoming` only (the code before the repair): the endpoint is dead,
    a fresh wait_idle() completes, the parked ones are never woken -/
example : ((epRun init histE).lose [EpCond.incoming.code]).dead = true ∧
    ((epRun init histE).lose [EpCond.incoming.code]).woken 7 = true ∧
    ((epRun init histE).lose [EpCond.incoming.code]).woken 8 = false ∧
    ((epRun init histE).lose [EpCond.incoming.code]).regs = [(1, 9), (1, 8)] := by decide +kernel
/-- a writer (task 8) of the stream opened after a 0-RTT rejection is parked on slot 1; the rejected early handle
    of the same stream id is dropped: nothing changes; removing the slot entry (the code before the repair) would
    leave the writer Pending, unregistered and not woken -/
example : (run slotEx init [.poll 8 1 true, .dropRejected 1]).regs = [(1, 8)] ∧
    ({ (run slotEx init [.poll 8 1 true]) with regs := (run slotEx init [.poll 8 1 true]).regs.filter (fun r => r.1 != 1) } : St).regs = [] ∧
    (run slotEx init [.poll 8 1 true]).waiting 8 = some 1 ∧ (run slotEx init [.poll 8 1 true]).woken 8 = false := by decide +kernel

end QM.Props.C18
