import QuinnModel.Lemmas.CidQueue
/-!
C04, stateless-reset clause: "a stateless reset carrying exactly the token the peer issued for the connection ID in
use". `Connection` hands the endpoint the token that `CidQueue::insert` / `CidQueue::next` return whenever the
active remote CID changes (`set_reset_token`). These theorems say, for every queue state and every frame, that the
token returned is the token stored with the CID that is active afterwards.
-/
namespace QM.Props.C04_token
open QM QM.CidQueue

/-- NEW_CONNECTION_ID retiring the CID in use: the token reported is the one issued with the CID in use afterwards. -/
theorem insert_reports_token_of_cid_in_use (q : CidQueue) (seq rpt : Nat) (cid tok : Bytes) (q' : CidQueue)
    (a z : Nat) (t : Bytes) (h : insert q seq rpt cid tok = (q', .retired a z t)) :
    ∃ e, activeEntry q' = some e ∧ e.token = some t :=
  insert_token q seq rpt cid tok q' a z t h

/-- Local switch to the next CID (`CidQueue::next`): same. -/
theorem next_reports_token_of_cid_in_use (q q' : CidQueue) (t : Bytes) (a z : Nat) (h : next q = (q', .ok t a z)) :
    ∃ e, activeEntry q' = some e ∧ e.token = some t :=
  next_token q q' t a z h

/-- `active()` returns the CID stored in that entry. -/
theorem active_is_active_entry (q : CidQueue) (hc : q.cursor < LEN) (e : Entry) (h : activeEntry q = some e) :
    active q = some e.cid :=
  active_of_get hc h

/-- non-vacuity: CID 0 in use; the peer supplies seq 1 (token [7]); then seq 2 (token [9]) arrives with
retire_prior_to = 1: seq 1 becomes the CID in use and the token reported is [7], the one issued with seq 1 — not the
token [9] carried by the frame. With retire_prior_to = 2 it is seq 2 and [9]. -/
example :
    let q1 := (insert (new [1]) 1 0 [2] [7]).1
    (insert q1 2 1 [3] [9]).2 = .retired 0 1 [7] ∧ (insert q1 2 2 [3] [9]).2 = .retired 0 2 [9] := by decide

end QM.Props.C04_token
