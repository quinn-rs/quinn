import QuinnModel.Lemmas.Receive
/-
C04 — closed-connection rows: a connection that is closed, draining or drained is changed only by packets
protected with its keys (and by the stateless reset the property admits).
Model: `Receive.Closed.step` (Conn/Receive.lean), enlarged state = lifecycle state, pending error (what `poll()`
reports), close-owed flag, duplicate filter, failure counter, CONNECTION_CLOSE frames counted.
`Gen.closedDiscardsUnprotected` is regenerated from `handle_packet` on every run.
-/
namespace QM.Props.C04_closed
open QM QM.Receive QM.Receive.Closed

/-- a Retry or Version Negotiation packet (no packet protection: anyone who knows a CID can make one, with ANY
    payload — empty, bytes that parse as CONNECTION_CLOSE, a valid Retry integrity tag) addressed to a closed,
    draining or drained connection changes nothing at all -/
theorem unprotected_packet_no_effect_when_closed (c : CC) (p : CPkt) (hk : p.kind ≠ .protectedPkt)
    (hr : p.reset = false) : step c p = c := by
  unfold Closed.step
  simp only [hr, Bool.false_eq_true, if_false]
  cases hkind : p.kind with
  | protectedPkt => exact absurd hkind hk
  | retry => simp [Gen.closedDiscardsUnprotected]
  | versionNegotiation => simp [Gen.closedDiscardsUnprotected]

/-- a forged / corrupted / cross-connection protected packet changes the failure counter only -/
theorem forged_no_effect_when_closed (c : CC) (p : CPkt) (hk : p.kind = .protectedPkt) (ha : p.authentic = false)
    (hr : p.reset = false) : step c p = { c with authFailures := c.authFailures + 1 } := by
  unfold Closed.step
  simp [hr, hk, ha]

/-- converse form: whatever changes the lifecycle state, the reason `poll()` will report, the close-owed flag or the
    CONNECTION_CLOSE counter of a closed connection is a stateless reset or an authentic protected packet -/
theorem closed_state_changes_only_by_authentic (c : CC) (p : CPkt)
    (h : (step c p).st ≠ c.st ∨ (step c p).error ≠ c.error ∨ (step c p).close ≠ c.close ∨
         (step c p).closeFramesRx ≠ c.closeFramesRx) :
    p.reset = true ∨ (p.kind = .protectedPkt ∧ p.authentic = true) := by
  cases hr : p.reset with
  | true => exact .inl rfl
  | false =>
    right
    by_cases hk : p.kind = .protectedPkt
    · refine ⟨hk, ?_⟩
      cases ha : p.authentic with
      | true => rfl
      | false => rw [forged_no_effect_when_closed c p hk ha hr] at h; simp at h
    · rw [unprotected_packet_no_effect_when_closed c p hk hr] at h; simp at h

-- the unprotected packets of scenario `closedinj` on a locally closed connection (no error pending, close already sent)
example : step ⟨.closed, false, false, Dedup.init, 0, 0⟩
    ⟨.versionNegotiation, 0, false, false, true, false, true, false⟩ = ⟨.closed, false, false, Dedup.init, 0, 0⟩ := by decide
example : step ⟨.closed, false, false, Dedup.init, 0, 0⟩
    ⟨.retry, 0, true, true, false, true, true, false⟩ = ⟨.closed, false, false, Dedup.init, 0, 0⟩ := by decide
-- the rows are not trivial: an AUTHENTIC packet with a CONNECTION_CLOSE moves Closed to Draining, any other authentic
-- packet from the path makes a Closed connection owe its CONNECTION_CLOSE again
example : (step ⟨.closed, false, false, Dedup.init, 0, 0⟩ ⟨.protectedPkt, 7, true, true, false, true, true, false⟩).st = .draining := by decide
example : (step ⟨.closed, false, false, Dedup.init, 0, 0⟩ ⟨.protectedPkt, 7, true, true, false, false, true, false⟩).close = true := by decide

end QM.Props.C04_closed
