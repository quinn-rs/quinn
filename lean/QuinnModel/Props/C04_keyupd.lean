import QuinnModel.Lemmas.KeyUpdate
/-
C04 — "... interleaved arbitrarily with genuine traffic and key updates": the key-phase logic of the 1-RTT receive
pipeline (Conn/KeyUpdate.lean: decrypt_packet_body, decrypt_packet, update_keys, force_key_update, the KeyDiscard
timer, the routine update of PacketBuilder::new).

Vocabulary.  A key is named by its generation g (0 = the 1-RTT keys of the handshake); a packet carries a number `pn`,
a key-phase bit and `sealGen` = the generation it was sealed with (`none`: forged / corrupted — ideal AEAD).  `par g` =
the key-phase bit of generation g.  `installed s` = generations whose receive keys the connection holds (current,
previous while retained, next).  `Reachable s` = s is reached from the established connection by SOME sequence of requests
(packets of any kind, forced updates, sends, clock steps, timeouts); `run` / `processed` quantify over ALL sequences.
-/
namespace QM.Props.C04_keyupd
open QM QM.KeyUpdate

/-- totality: no request sequence — in particular no input of a peer, with or without keys — reaches one of the
    `unwrap()` / `expect()` of decrypt_packet_body (`zero_rtt_crypto`, `spaces[..].crypto`, `next_crypto`), update_keys
    (`next_1rtt_keys`, `crypto`, `next_crypto`), set_key_discard_timer ("no previous keys", "update not acknowledged
    yet") or of the integrity-limit test on `None` -/
theorem no_panic (ops : List Op) : run init ops ≠ none := by
  obtain ⟨s', h, _⟩ := run_good ops init_wf
  rw [h]; simp

/-- a packet that authenticates under no installed generation — forged, corrupted, sealed with a discarded or not yet
    derived generation, or carrying the key-phase bit of another generation than its own — is a no-op on everything
    but the failure counter: key phase, installed keys, duplicate filter, largest packet number, authenticated count
    and the clock of the key phase are untouched, nothing is opened and nothing is processed.  Only once the counter
    passes the integrity limit the connection is abandoned (RFC 9001 6.6). -/
theorem forged_changes_only_the_failure_counter {s : State} (hr : Reachable s) (p : Pkt)
    (hforged : ∀ g, p.sealGen = some g → g ∉ installed s ∨ p.bit ≠ par g) :
    handlePacket s p = (countFailure s, .res false false) ∧
    ((countFailure s).phase = s.phase ∧ (countFailure s).cur = s.cur ∧ (countFailure s).prev = s.prev ∧
      (countFailure s).next = s.next ∧ (countFailure s).sess = s.sess ∧ (countFailure s).dedup = s.dedup ∧
      (countFailure s).rxPacket = s.rxPacket ∧ (countFailure s).authed = s.authed ∧ (countFailure s).swk = s.swk ∧
      (countFailure s).phaseSize = s.phaseSize ∧ (countFailure s).now = s.now ∧ (countFailure s).fail = s.fail + 1) ∧
    (s.fail + 1 ≤ s.limit ∨ s.life ≠ .est → countFailure s = { s with fail := s.fail + 1 }) :=
  ⟨unauthentic_only_counts (reachable_wf hr) p hforged,
    by rcases countFailure_cases s with h | h <;> rw [h] <;> exact ⟨rfl, rfl, rfl, rfl, rfl, rfl, rfl, rfl, rfl, rfl, rfl, rfl⟩,
    countFailure_counts s⟩

/-- the key phase flips — and then the current generation becomes exactly the former next one — only on an
    authenticated packet of the next generation that passes the RFC 9001 6.2 / 6.4 tests, or on a local update
    (forced, or the routine one when a packet is built) of an established connection that retains no previous keys -/
theorem key_phase_moves_only_by_authenticated_update_or_local_update {s s' : State} (hr : Reachable s) {o : Op}
    (h : step s o = some s') (hne : s'.phase ≠ s.phase) :
    s'.cur = s.next ∧
    ((∃ p, o = .rx p ∧ p.sealGen = s.next ∧ p.bit ≠ s.phase ∧
        Gen.kuUpdateInvalid p.pn s.rxPacket (prevUnacked s) = false) ∨
     ((o = .update ∨ o = .send) ∧ s.life = .est ∧ s.prev = none)) :=
  phase_change (reachable_wf hr) h hne

/-- RFC 9001 6.1 ("An endpoint MUST NOT initiate a subsequent key update unless it has received an acknowledgment for a
    packet that was sent protected with keys from the current key phase"), over ALL request sequences: a LOCAL update
    (`force_key_update`, or the routine one when a packet is built) takes effect only if no key update - ours or the
    peer's - has taken place yet (generation 0), or the largest acknowledged packet is one that was sent with the keys of
    the current generation (`sentLog` is the ghost record of every packet sent with its generation) -/
theorem local_update_only_after_current_phase_acked {s s' : State} (hr : Reachable s) {o : Op}
    (ho : o = .update ∨ o = .send) (h : step s o = some s') (hne : s'.phase ≠ s.phase) :
    s.cur = some 0 ∨ ∃ a g, s.largestAcked = some a ∧ s.cur = some g ∧ (a, g) ∈ s.sentLog :=
  local_update_acked (reachable_wf hr) (reachable_inv hr).2 ho h hne

/-- each packet number is processed at most once over EVERY request sequence: the packet-number space and its
    duplicate filter are shared by all generations, so at-most-once survives any number of key updates (a fortiori
    each (generation, packet number) pair is processed at most once) -/
theorem processed_at_most_once (ops : List Op) : (processed init ops).Nodup :=
  (processed_fresh ops init (fun _ => False) init_wf Dedup.init_inv).1

/-- whatever opens carries the key-phase bit of an installed generation and was sealed with it (errors included:
    KEY_UPDATE_ERROR and the reserved-bit PROTOCOL_VIOLATION arise only after AEAD success) -/
theorem opened_packet_matches_an_installed_generation {s : State} (hr : Reachable s) (p : Pkt) {b : Bool}
    (h : (handlePacket s p).2 = .res true b) : ∃ g, p.sealGen = some g ∧ g ∈ installed s ∧ p.bit = par g :=
  opened_generation (reachable_wf hr) p h

/-- a genuine packet of the current generation that the duplicate filter reports fresh is processed -/
theorem genuine_current_generation_processed {s : State} (hr : Reachable s) (hl : s.life = .est) {p : Pkt}
    (hseal : p.sealGen = s.cur) (hbit : p.bit = s.phase) (hrsv : p.rsv = false)
    (hfresh : (Dedup.insert s.dedup p.pn).2 = false) : (handlePacket s p).2 = .res true true :=
  genuine_current (reachable_wf hr) hl hseal hbit hrsv hfresh

/-- ... and so is one of the previous generation while it is retained, provided it is numbered below the packet that
    ended that generation (true of every packet of a sender that numbers packets in sending order) -/
theorem genuine_previous_generation_processed {s : State} (hr : Reachable s) (hl : s.life = .est) {p : Pkt} {pv : Prev}
    (hp : s.prev = some pv) (hseal : p.sealGen = some pv.gen) (hbit : p.bit ≠ s.phase) (hrsv : p.rsv = false)
    (hbelow : ∀ e te, pv.endPacket = some (e, te) → p.pn < e)
    (hfresh : (Dedup.insert s.dedup p.pn).2 = false) : (handlePacket s p).2 = .res true true :=
  genuine_previous (reachable_wf hr) hl hp hseal hbit hrsv hbelow hfresh

/-- ... and the peer's key update (next generation, numbered above everything received, after we answered its previous
    update, not below the end of a retained generation) is processed and installs the next generation -/
theorem peer_update_accepted {s : State} (hr : Reachable s) (hl : s.life = .est) {p : Pkt} (hseal : p.sealGen = s.next)
    (hbit : p.bit ≠ s.phase) (hrsv : p.rsv = false)
    (hprev : ∀ pv, s.prev = some pv → pv.unacked = false ∧ ∃ e te, pv.endPacket = some (e, te) ∧ e ≤ p.pn)
    (hpn : s.rxPacket < p.pn) (hfresh : (Dedup.insert s.dedup p.pn).2 = false) :
    (handlePacket s p).2 = .res true true ∧ (handlePacket s p).1.cur = s.next ∧
    (handlePacket s p).1.phase = (!s.phase) :=
  genuine_next (reachable_wf hr) hl hseal hbit hrsv hprev hpn hfresh

/-- the previous receive keys are retained until the discard rule says so: they vanish only when timeouts are
    serviced at or after (receipt time of the first packet of the new generation) + keyDiscardPtoFactor * PTO;
    in particular never while our own update is unconfirmed (`endPacket = none`), never by a packet, forged or not -/
theorem previous_keys_kept_until_discard_rule {s s' : State} (hr : Reachable s) {o : Op} (h : step s o = some s')
    {pv : Prev} (hp : s.prev = some pv) (hgone : s'.prev = none) :
    o = .timeout ∧ ∃ e te, pv.endPacket = some (e, te) ∧ te + s.pto * Gen.keyDiscardPtoFactor ≤ s.now :=
  prev_removed (reachable_wf hr) h hp hgone

/-- ... and never longer: servicing timeouts at or after that deadline discards them -/
theorem previous_keys_discarded_on_time {s : State} (hr : Reachable s) (hl : s.life = .est) {pv : Prev} {e te : Nat}
    (hp : s.prev = some pv) (he : pv.endPacket = some (e, te))
    (hdue : te + s.pto * Gen.keyDiscardPtoFactor ≤ s.now) : (timeout s).prev = none :=
  prev_removed_on_time (reachable_wf hr) hl hp he hdue

/-- RFC 9001 6.4: a packet that opens under the next keys but is numbered at or below a packet already received ends
    the connection with KEY_UPDATE_ERROR, touching no key -/
theorem lower_numbered_packet_under_newer_keys_is_key_update_error {s : State} (hr : Reachable s) (hl : s.life = .est)
    {p : Pkt} (hp : s.prev = none) (hseal : p.sealGen = s.next) (hbit : p.bit ≠ s.phase) (hrsv : p.rsv = false)
    (hpn : p.pn ≤ s.rxPacket) :
    (handlePacket s p).1 = { s with err := some .keyUpdateError, life := .closed, kd := none,
                                    closeT := some (s.now + Gen.closeTimerPtoFactor * s.pto) } :=
  invalid_update_aborts (reachable_wf hr) hl (select_next hbit (by rw [hp]; nofun)) hseal hrsv
    (by simp [Gen.kuUpdateInvalid, hpn])

/-- RFC 9001 6.2: a second update by the peer while we have sent nothing since its first one (`unacked`) ends the
    connection with KEY_UPDATE_ERROR -/
theorem consecutive_peer_update_is_key_update_error {s : State} (hr : Reachable s) (hl : s.life = .est) {p : Pkt}
    {pv : Prev} {e te : Nat} (hp : s.prev = some pv) (hun : pv.unacked = true) (he : pv.endPacket = some (e, te))
    (hle : e ≤ p.pn) (hseal : p.sealGen = s.next) (hbit : p.bit ≠ s.phase) (hrsv : p.rsv = false) :
    (handlePacket s p).1 = { s with err := some .keyUpdateError, life := .closed, kd := none,
                                    closeT := some (s.now + Gen.closeTimerPtoFactor * s.pto) } :=
  invalid_update_aborts (reachable_wf hr) hl
    (select_next hbit (by rw [hp]; rintro _ ⟨⟩; exact ⟨e, te, he, hle⟩)) hseal hrsv
    (by simp [Gen.kuUpdateInvalid, prevUnacked, hp, hun])

-- concrete runs; a packet is ⟨pn, bit, sealGen, rsv⟩

/-- genuine 0,1 · our update · old-generation 2 · new-generation 3 (confirms) · replay of 1 and 3 · forged 4 -/
def demo : List Op :=
  [.rx ⟨0, false, some 0, false⟩, .rx ⟨1, false, some 0, false⟩, .update, .rx ⟨2, false, some 0, false⟩,
   .rx ⟨3, true, some 1, false⟩, .rx ⟨1, false, some 0, false⟩, .rx ⟨3, true, some 1, false⟩,
   .rx ⟨4, true, none, false⟩, .rx ⟨4, false, none, false⟩]

example : processed init demo = [0, 1, 2, 3] := by decide +kernel
example : (run init demo).map (fun s => s.phase) = some true := by decide +kernel
example : (run init demo).map (fun s => s.cur) = some (some 1) := by decide +kernel
example : (run init demo).map (fun s => s.prev) = some (some ⟨0, some (3, 0), false⟩) := by decide +kernel
example : (run init demo).map (fun s => s.fail) = some 2 := by decide +kernel
example : (run init demo).map (fun s => s.kd) = some (some 975000) := by decide +kernel

/-- a reachable state with retained previous keys -/
def afterPeerUpdate : State := (handlePacket (handlePacket init ⟨0, false, some 0, false⟩).1 ⟨1, true, some 1, false⟩).1

example : Reachable afterPeerUpdate := ⟨[.rx ⟨0, false, some 0, false⟩, .rx ⟨1, true, some 1, false⟩], by decide⟩
example : afterPeerUpdate.phase = true ∧ afterPeerUpdate.cur = some 1 ∧
    afterPeerUpdate.prev = some ⟨0, some (1, 0), true⟩ ∧ installed afterPeerUpdate = [1, 0, 2] := by decide +kernel
-- forged with either bit, a stale tag, the retained generation with the wrong bit: counter only
example : (handlePacket afterPeerUpdate ⟨2, false, none, false⟩).1 = { afterPeerUpdate with fail := 1 } := by decide +kernel
example : (handlePacket afterPeerUpdate ⟨2, true, some 0, false⟩).1 = { afterPeerUpdate with fail := 1 } := by decide +kernel
example : (handlePacket afterPeerUpdate ⟨2, true, some 3, false⟩).1 = { afterPeerUpdate with fail := 1 } := by decide +kernel
-- the retained generation: a late packet 0 < end_packet is a duplicate here, a fresh one is impossible (pn < 1),
-- so retention is shown after a local update instead
example : (handlePacket (handlePacket init ⟨5, false, some 0, false⟩).1 ⟨3, false, some 0, false⟩).2 = .res true true := by
  decide +kernel
example : ((forceKeyUpdate init).map fun s => (handlePacket s ⟨3, false, some 0, false⟩).2) = some (.res true true) := by
  decide +kernel
-- consecutive update of the peer: KEY_UPDATE_ERROR
example : (handlePacket afterPeerUpdate ⟨2, false, some 2, false⟩).1.err = some .keyUpdateError := by decide +kernel
-- after we sent a packet the same update is accepted
example : ((send afterPeerUpdate).map fun r => (handlePacket r.1 ⟨2, false, some 2, false⟩).1.cur) = some (some 2) := by
  decide +kernel
-- lower-numbered packet under the next keys
example : (handlePacket (handlePacket init ⟨5, false, some 0, false⟩).1 ⟨3, true, some 1, false⟩).1.err
    = some .keyUpdateError := by decide +kernel
-- the discard rule
example : (timeout { afterPeerUpdate with now := 974999 }).prev ≠ none ∧
    (timeout { afterPeerUpdate with now := 975000 }).prev = none := by decide +kernel

-- RFC 9001 6.1: after following the peer's update and discarding the old keys a forced update is refused until a
-- packet sent in the current phase is acknowledged (sim progress seed 3000349 / corpus K3)
def followedPeer : List Op :=
  [.rx ⟨0, false, some 0, false⟩, .rx ⟨1, true, some 1, false⟩, .tick 975000, .timeout]
example : (run init (followedPeer ++ [.update])).map (fun s => (s.cur, s.prev)) = some (some 1, none) := by decide +kernel
example : (run init (followedPeer ++ [.send, .update])).map (fun s => s.cur) = some (some 1) := by decide +kernel
example : (run init (followedPeer ++ [.send, .ackd 0, .update])).map (fun s => (s.cur, s.firstPn)) =
    some (some 2, some 1) := by decide +kernel
-- an acknowledgement of a packet sent BEFORE the phase began does not count
example : (run init ([.send] ++ followedPeer ++ [.send, .ackd 0, .update])).map (fun s => s.cur) = some (some 1) := by
  decide +kernel
example : (run init ([.send] ++ followedPeer ++ [.send, .ackd 1, .update])).map (fun s => s.cur) = some (some 2) := by
  decide +kernel
-- the first update needs no acknowledgement; the routine update obeys the same guard
example : (run init [.update]).map (fun s => s.cur) = some (some 1) := by decide +kernel

end QM.Props.C04_keyupd
