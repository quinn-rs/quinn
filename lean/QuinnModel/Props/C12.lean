import QuinnModel.Lemmas.InFlight
import QuinnModel.Lemmas.Controllers
import QuinnModel.Lemmas.Gate
import QuinnModel.Lemmas.LossDetection
/-
C12 — Sending respects the congestion window; loss accounting balances.

Part 1: `SentPackets` is a finite map; every packet handed to `PathData::sent` is resolved
exactly once (acknowledged, lost, or abandoned = discarded with its space / forgotten non-ack-eliciting
tail) and the path's in-flight counters are exactly the totals over the packets still tracked.
Part 2: the built-in controllers never report a window below two datagrams, from construction on, for all
call histories and all values of the float-derived quantities (F7 repaired in bbr/mod.rs).
Part 3: what the congestion test of `poll_transmit` guarantees.
Part 4: the packet- and time-threshold loss decision of `detect_lost_packets` declares nothing lost on a loss-free
in-order path, and tolerates reordering within its thresholds.
-/
namespace QM.Props.C12
open QM QM.SentPackets QM.InFlight

/-- every operation of the ring commutes with the abstraction `abs : Ring → (pn ↦ packet)`:
    `insert` = map update, `get` = lookup, `remove` = lookup + erase -/
theorem sent_packets_refines_map (r : Ring) (pn : Nat) (v : Pkt) :
    ((insert r pn v).2 = .ok () → ∀ q, abs (insert r pn v).1 q = if q = pn then some v else abs r q) ∧
    get r pn = abs r pn ∧
    ((remove r pn).2 ≠ .panic →
      (remove r pn).2 = .ok (abs r pn) ∧ ∀ q, abs (remove r pn).1 q = if q = pn then none else abs r q) :=
  ⟨abs_insert r pn v, get_eq_abs r pn, abs_remove r pn⟩

/-- the `in_flight` counter of the ring is the number of tracked packets with `size != 0`, for every ring
    reachable by inserts and removes, and `remove` never underflows it -/
theorem ring_in_flight_counter (r : Ring) (hw : RingWF r) (pn : Nat) (v : Pkt) :
    (remove r pn).2 ≠ .panic ∧ RingWF (remove r pn).1 ∧
    ((insert r pn v).2 = .ok () → RingWF (insert r pn v).1) ∧
    (hasInFlight r = true ↔ ∃ e ∈ entries r, e.2.size ≠ 0) :=
  ⟨(remove_wf r pn hw).1, (remove_wf r pn hw).2, ringWF_insert r pn v hw, hasInFlight_iff r hw⟩

/-- iteration = the entries of the map inside the bounds, in ascending packet-number order; it never
    indexes out of bounds.  (`entries` lists exactly the map, strictly ascending.) -/
theorem range_is_ascending_filter (r : Ring) (lo hi : Bound) (hlo : lo.small) (hhi : hi.small) :
    range r lo hi = .ok ((entries r).filter (fun e => lo.lowerOk e.1 && hi.upperOk e.1)) ∧
    (entries r).Pairwise (fun a b => a.1 < b.1) ∧
    (∀ q w, (q, w) ∈ entries r ↔ abs r q = some w) ∧
    values r = (entries r).map (·.2) :=
  ⟨range_eq_filter r lo hi hlo hhi, entries_sorted r, fun q w => (abs_eq_some_iff r q w).symm, values_eq r⟩

theorem remove_then_get_none (r : Ring) (pn : Nat) (h : (remove r pn).2 ≠ .panic) :
    get (remove r pn).1 pn = none := by
  rw [get_eq_abs, (abs_remove r pn h).2 pn, if_pos rfl]

theorem front_reclamation_preserves_contents (off : Nat) (slots : List (Option Pkt)) (pn : Nat) :
    absSlots (reclaim off slots).1 (reclaim off slots).2 pn = absSlots off slots pn :=
  Option.ext fun w => by rw [absSlots_eq_some_iff, absSlots_eq_some_iff, entriesFrom_reclaim]

/-- ledger: for every way `f` of weighing packets, what was sent = acked + lost + abandoned + still tracked,
    after ANY history that did not panic (no assumption on the caller) -/
theorem ledger_balances (ops : List Op) (hp : ((G.run {} ops).lg.panicked = false)) (f : Sp → Pkt → Nat) :
    ltot f (G.run {} ops).lg.sent = ltot f (G.run {} ops).lg.acked + ltot f (G.run {} ops).lg.lost
      + ltot f (G.run {} ops).lg.abandoned + ltot f (outstanding (G.run {} ops).st) :=
  run_balanced ops {} balanced_init hp f

/-- conservation: bytes_sent_tracked = acked + lost + abandoned + in_flight.bytes, and the same for the
    ack-eliciting count, after any non-panicking history in which sent packets carry the path's generation -/
theorem conservation (ops : List Op) (hg : GenDisc {} ops) (hp : (G.run {} ops).lg.panicked = false) :
    ltot szF (G.run {} ops).lg.sent = ltot szF (G.run {} ops).lg.acked + ltot szF (G.run {} ops).lg.lost
        + ltot szF (G.run {} ops).lg.abandoned + (G.run {} ops).st.inFlight.bytes ∧
    ltot aeF (G.run {} ops).lg.sent = ltot aeF (G.run {} ops).lg.acked + ltot aeF (G.run {} ops).lg.lost
        + ltot aeF (G.run {} ops).lg.abandoned + (G.run {} ops).st.inFlight.ae := by
  have ht := run_tracks ops {} tracks_init hg hp
  rw [ht.bytes, ht.ae]
  exact ⟨ledger_balances ops hp szF, ledger_balances ops hp aeF⟩

/-- counters never underflow (and no `unwrap`/`debug_assert` of the accounting code fails): a history that
    respects the caller discipline `Disc` never panics.  `Disc` excludes exactly: foreign path generations,
    non-increasing or ≥ 2^62 packet numbers, more than 2^64 bytes/packets ever sent, and a
    non-ack-eliciting packet sent in a space that was emptied by `mem::take` while its
    non-ack-eliciting-tail counter was above the limit (the counter is not reset there). -/
theorem counters_never_underflow (ops : List Op) (hd : Disciplined {} {} ops) :
    (G.run {} ops).lg.panicked = false :=
  (disciplined_runInv ops {} {} runInv_init hd).elim fun _ hn => hn.ok

/-- each packet is resolved exactly once: packets handed to `sent` are pairwise distinct, and each of them
    is in exactly one of acked / lost / abandoned / still tracked -/
theorem each_packet_resolved_once (ops : List Op) (hd : Disciplined {} {} ops) (k : Sp × Pkt) :
    (G.run {} ops).lg.sent.Nodup ∧
    (G.run {} ops).lg.acked.count k + (G.run {} ops).lg.lost.count k + (G.run {} ops).lg.abandoned.count k
      + (outstanding (G.run {} ops).st).count k = (G.run {} ops).lg.sent.count k ∧
    (G.run {} ops).lg.sent.count k ≤ 1 := by
  obtain ⟨_, hn⟩ := disciplined_runInv ops {} {} runInv_init hd
  -- the balance, weighing with the indicator of `k`
  have hb := hn.bal (fun i p => if (i, p) = k then 1 else 0)
  simp only [Ledger.resolved, ltot_indicator] at hb
  exact ⟨hn.nodup, hb.symm, List.nodup_iff_count.1 hn.nodup k⟩

/-- bytes in flight return to zero when everything has been resolved -/
theorem in_flight_zero_when_all_resolved (ops : List Op) (hg : GenDisc {} ops)
    (hp : (G.run {} ops).lg.panicked = false) (hall : outstanding (G.run {} ops).st = []) :
    (G.run {} ops).st.inFlight.bytes = 0 ∧ (G.run {} ops).st.inFlight.ae = 0 := by
  have ht := run_tracks ops {} tracks_init hg hp
  rw [ht.bytes, ht.ae, hall]
  exact ⟨rfl, rfl⟩

-- non-vacuity: a disciplined history with a skipped number, a hole, front reclamation, a loss and a discard
def sampleOps : List Op :=
  [.sent .data 0 1200 true 0, .sent .data 1 40 false 0, .sent .data 3 1200 true 0, .sent .initial 0 1200 true 0,
   .ack .data 1, .lost .data 0, .ack .data 1, .discard .initial, .sent .data 4 0 false 0]

example : Disciplined {} {} sampleOps := by
  simp only [sampleOps, Disciplined, Disc, G.step]
  decide

example : (G.run {} sampleOps).st.inFlight = ⟨1200, 1⟩ ∧ (G.run {} sampleOps).lg.panicked = false
    ∧ (G.run {} sampleOps).lg.abandoned.length = 1 ∧ (G.run {} sampleOps).st.s2.ring.offset = 3 := by decide

example : range { offset := 5, slots := [some ⟨5, 10, true, 0⟩, none, some ⟨7, 0, false, 0⟩], inFlight := 1 }
    (.excl 5) .unb = .ok [(7, ⟨7, 0, false, 0⟩)] := by decide

section controllers
open QM.Controllers

/-- NewReno: `window ≥ minimum_window = 2·current_mtu` after every trait call, given it held initially -/
theorem newreno_floor (ops : List RenoOp) (c : Reno) (h : 2 * c.mtu ≤ c.window) :
    2 * (c.run ops).mtu ≤ (c.run ops).window :=
  List.foldlRecOn (motive := Reno.Floor) ops _ h fun c hc op _ => reno_step_floor c op hc

/-- Cubic: the same, for ALL values of the opaque float-derived inputs carried by the ops
    (`w_cubic`, `w_est`, `cubic_inc`, the β-reductions) -/
theorem cubic_floor (ops : List CubicOp) (c : Cubic) (h : 2 * c.mtu ≤ c.st.window) :
    2 * (c.run ops).mtu ≤ (c.run ops).st.window :=
  List.foldlRecOn (motive := Cubic.Floor) ops _ h fun c hc op _ => cubic_step_floor c op hc

/-- the initial hypothesis holds unconditionally: the constructors start at
    `max(configured initial window, minimum window)`, for EVERY configured window and EVERY initial MTU -/
theorem floor_initial_hypothesis_witness (initialWindow mtu : Nat) :
    2 * (Reno.newWith initialWindow mtu).mtu ≤ (Reno.newWith initialWindow mtu).window ∧
    2 * (Cubic.newWith initialWindow mtu).mtu ≤ (Cubic.newWith initialWindow mtu).st.window ∧
    (Bbr.newWith initialWindow mtu).Inv :=
  ⟨floor_clamp _ (Nat.le_refl _), floor_clamp _ (Nat.le_refl _), bbr_newWith_inv initialWindow mtu⟩

/-- NewReno / Cubic from construction: for every configured window, initial MTU and call history -/
theorem newreno_cubic_floor_from_new (initialWindow mtu : Nat) (ro : List RenoOp) (co : List CubicOp) :
    2 * ((Reno.newWith initialWindow mtu).run ro).mtu ≤ ((Reno.newWith initialWindow mtu).run ro).window ∧
    2 * ((Cubic.newWith initialWindow mtu).run co).mtu ≤ ((Cubic.newWith initialWindow mtu).run co).st.window :=
  have h := floor_initial_hypothesis_witness initialWindow mtu
  ⟨newreno_floor ro _ h.1, cubic_floor co _ h.2.1⟩

/-- BBR (after the F7 repair: `on_mtu_update` raises `recovery_window` with `min_cwnd`): `window()` is at
    least two datagrams after every call history (no call ending in an overflow panic), for every configured
    initial window, every initial MTU, every MTU change and ALL values of the opaque float-derived inputs
    (`tc`, target windows, the mode machine) -/
theorem bbr_floor (initialWindow mtu0 : Nat) (ops : List BbrOp) (c : Bbr) (tc : Option Nat) (w : Nat)
    (hr : (Bbr.newWith initialWindow mtu0).run ops = some c) (hw : c.window tc = some w) : 2 * c.mtu ≤ w :=
  bbr_window_floor c (bbr_run_inv ops _ c (bbr_newWith_inv initialWindow mtu0) hr) tc w hw

-- non-vacuity
example : (Reno.new 1200).run [.ack 5 1200 false, .cong 10 7 false false 1200, .mtu 9000, .cong 20 15 true false 9000]
    = { mtu := 9000, window := 18000, ssthresh := 18000, rst := 20, bytesAcked := 0 } := by decide
example : ((Cubic.new 1200).run [.cong 10 7 false false 1200 (some ⟨8400, 0, none⟩),
      .ack 20 15 1200 false (some ⟨false, 0, 9000, some 85⟩), .mtu 9000, .spurious]).st.window = 18000 := by decide
example : (Reno.new 9000).window = 18000 ∧ (Cubic.new 65535).st.window = 131070 ∧ (Bbr.new 65535).cwnd = 262140 := by decide
-- the F7 history (`f7Witness`) ends in recovery, PROBE_BW, with recovery_window = 36000 and window() = 36000 ≥ 18000
example : ((Bbr.new 1200).run f7Witness).bind (fun c => c.window none) = some 36000 := f7_window

end controllers

section gate
open QM.Gate

/-- the generated test admits a datagram iff `in_flight + bytes_to_send < window`; hence after an admitted
    datagram of any final size `≤ bytes_to_send` the bytes in flight are still strictly below the window
    (the window may be *reached* by less than one datagram only through packets exempt from the test), and a
    refused datagram would have reached or exceeded it -/
theorem cc_gate (inFlight bytesToSend window size : Nat) (hs : size ≤ bytesToSend) :
    (admitted inFlight bytesToSend window = true ↔ inFlight + bytesToSend < window) ∧
    (admitted inFlight bytesToSend window = true → inFlight + size < window) ∧
    (admitted inFlight bytesToSend window = false → window ≤ inFlight + bytesToSend) :=
  ⟨admitted_iff _ _ _, gate_guarantee _ _ _ _ hs⟩

/-- any burst of gate-admitted datagrams (each finally tracked with at most the size the gate assumed) ends
    strictly below the window, for a window that does not shrink meanwhile -/
theorem cc_gate_burst (window : Nat) (sizes : List (Nat × Nat)) (inFlight : Nat)
    (hall : ∀ p ∈ sizes, p.1 ≤ p.2) (final : Nat)
    (hf : sizes.foldl (fun (acc : Option Nat) p =>
        match acc with
        | some f => if admitted f p.2 window then some (f + p.1) else none
        | none => none) (some inFlight) = some final) (hne : sizes ≠ []) : final < window := by
  change sizes.foldl (burst window) (some inFlight) = some final at hf
  induction sizes generalizing inFlight with
  | nil => exact absurd rfl hne
  | cons p t ih =>
    rw [List.foldl_cons, burst] at hf
    split at hf
    next ha =>
      have hlt := (gate_guarantee inFlight p.2 window p.1 (hall p List.mem_cons_self)).1 ha
      cases t with
      | nil => exact Option.some.inj hf ▸ hlt
      | cons q t' => exact ih _ (List.forall_mem_cons.1 hall).2 (List.cons_ne_nil _ _) hf
    next => rw [foldl_burst_none] at hf; cases hf

example : admitted 10558 1442 12000 = false ∧ admitted 10557 1442 12000 = true := by decide

end gate

section loss
open QM.LossDetection

/-- the decision, spelled out: a tracked packet is declared lost iff it is below the largest acknowledged
    packet and (it was sent at least `loss_delay` ago, or at least `packet_threshold` newer numbers are
    acknowledged); `loss_delay ≥ TIMER_GRANULARITY` whatever the float-derived `rtt·time_threshold` is -/
theorem loss_decision (now largest thr scaledRtt : Nat) (p : Nat × Nat) :
    (declaredLost now largest thr (lossDelay scaledRtt) p = true ↔
      p.1 < largest ∧ (lossDelay scaledRtt ≤ now - p.2 ∨ p.1 + thr ≤ largest)) ∧
    Gen.c12TimerGranularityNs ≤ lossDelay scaledRtt ∧ scaledRtt ≤ lossDelay scaledRtt :=
  ⟨declaredLost_iff now largest thr (lossDelay scaledRtt) p, lossDelay_ge scaledRtt⟩

/-- reordering by fewer than `packet_threshold` packets and less than `loss_delay` never causes a loss
    declaration -/
theorem reordering_within_thresholds_tolerated (now largest thr delay : Nat) (p : Nat × Nat)
    (hp : largest < p.1 + thr) (ht : now - p.2 < delay) : declaredLost now largest thr delay p = false :=
  Bool.eq_false_iff.2 fun h =>
    ((declaredLost_iff ..).1 h).2.elim (fun h => Nat.lt_irrefl _ (Nat.lt_of_lt_of_le ht h))
      fun h => Nat.lt_irrefl _ (Nat.lt_of_lt_of_le hp h)

/-- on a loss-free in-order path (every ACK frame acknowledges a prefix of what was sent) no packet is ever
    declared lost: for ALL send/ack/loss-timer schedules, all packet thresholds, all timestamps (so in
    particular any constant delay) and all values of the float-derived `rtt·time_threshold` -/
theorem no_spurious_loss (thr : Nat) (evs : List Ev) (hw : WF thr {} evs) : (run thr {} evs).lost = [] :=
  (run_inv thr evs {} inv_init hw).nolost

-- non-vacuity: delayed cumulative ACKs, a stale ACK, timers long after; and a reordered ACK that DOES declare
-- a loss (outside the hypothesis: it skips packet 0 — here modelled by tracking 0 again after the ack)
example : WF 3 {} [.send 0 0, .send 5 1, .send 9 2, .ack 100 1 50, .send 120 4, .timer 5000000000 1, .ack 130 4 0, .ack 131 2 7] := by
  simp only [WF, wf, step]; decide
example : detect [(0, 0), (5, 10)] 2000000 3 3 0 = [0] ∧ detect [(0, 0), (5, 10)] 999999 2 3 0 = [] := by decide
example : Gen.defaultPacketThreshold = 3 ∧ Gen.c12TimerGranularityNs = 1000000 := by decide

end loss

end QM.Props.C12
