import QuinnModel.Lemmas.DriverWake
/-
C18 — "every pending operation … completes as soon as its condition holds … under any interleaving of tasks":
the DRIVER-wake rule.
Model: QuinnModel/Async/DriverWake.lean. A pending operation of the peer completes when this side transmits the
frames that make its condition true; frames are transmitted only by the connection driver task; so every
application-side call that queues frames must wake the driver. The table `wakes` (which call wakes under which
guard) is READ FROM THE SOURCE on every run (Gen/C18DrvWake.lean: every `State::wake()` call site of
quinn/src/{recv_stream,send_stream,connection}.rs with the condition it sits under); `mayQueue` is the quinn-proto
API contract. The behaviour of the real code is observed by `asyncsim` (per-call oracle `c18-driver-not-woken`,
end-to-end oracle on quiescent connections `c18-lost-wakeup-frames-queued-driver-asleep`).
-/
namespace QM.Props.C18_drvwake
open QM QM.DriverWake

/-- table, from the source: at every entry point, for every outcome of its proto call and every value of whatever
    else its wake is guarded by, a call that may have queued frames wakes the driver -/
theorem every_queueing_call_wakes (op : Op) (r u1 u2 : Bool) (h : mayQueue op r = true) :
    wakes op r u1 u2 = true :=
  wakes_covers op r u1 u2 h

/-- every `State::wake()` call site of the three files is one of the table's rows (a new or removed site changes
    the count), and the driver loop has the shape the model's `driverPoll` assumes -/
theorem sites_accounted : sitesIn 0 = Gen.c18dwSitesRecv ∧ sitesIn 1 = Gen.c18dwSitesSend ∧
    sitesIn 2 = Gen.c18dwSitesConn ∧ Gen.c18dwDriverLoopShape = 1 :=
  by decide

/-- per call, in any state: an application-side call that may queue frames leaves the driver runnable -/
theorem queueing_call_leaves_driver_runnable (s : St) (op : Op) (r u1 u2 queued : Bool)
    (h : mayQueue op r = true) : (step wakes s (.app op r u1 u2 queued)).drv = .runnable :=
  app_leaves_runnable wakes wakes_covers s op r u1 u2 queued h

/-- over ALL interleavings of application calls, driver polls and external wake-ups: whenever the driver is
    asleep and frames are pending, a wake-up is on its way (the driver is registered with the source that held
    the frames back) -/
theorem asleep_with_frames_has_wake_pending (evs : List Ev)
    (hd : (run wakes init evs).drv = .asleep) (hp : (run wakes init evs).pending = true) :
    (run wakes init evs).armed = true :=
  safe_run wakes wakes_covers evs init safe_init hd hp

/-- … equivalently: frames never sit behind a driver that nothing will wake -/
theorem frames_pending_driver_runnable_or_armed (evs : List Ev) (hp : (run wakes init evs).pending = true) :
    (run wakes init evs).drv = .runnable ∨ (run wakes init evs).armed = true := by
  cases hd : (run wakes init evs).drv with
  | runnable => exact Or.inl rfl
  | asleep => exact Or.inr (asleep_with_frames_has_wake_pending evs hd hp)

/-- the runnable driver's poll that finds nothing held back sends everything -/
theorem runnable_driver_drains (s : St) (h : s.drv = .runnable) :
    (step wakes s (.driverPoll .drained)).pending = false := by
  simp [step, h]

/-- the theorems have teeth: a source that skips the wake of `read` when a further condition fails (the read
    "consumed nothing") loses frames on a two-event interleaving — drained driver asleep, then a read that
    observes the peer's reset -/
theorem guarded_read_wake_loses_frames : ¬ Safe (run wakesGuardedRead init guardedReadTrace) :=
  by unfold Safe; decide

example : mayQueue .read true = true ∧ wakes .read true false false = true := by decide +kernel
example : (run wakes init [.driverPoll .drained, .app .read true false false true]).drv = .runnable ∧
    (run wakes init [.driverPoll .drained, .app .read true false false true]).pending = true := by decide +kernel
example : (run wakes init [.app .write true false false true, .driverPoll .blocked]).drv = .asleep ∧
    (run wakes init [.app .write true false false true, .driverPoll .blocked]).pending = true ∧
    (run wakes init [.app .write true false false true, .driverPoll .blocked]).armed = true := by decide +kernel
example : (step wakes { pending := false, drv := .asleep, armed := false } (.app .recvDrop false false false true)).drv = .runnable := by decide +kernel
example : ({ pending := true, drv := .runnable, armed := false } : St).drv = .runnable := rfl

end QM.Props.C18_drvwake
