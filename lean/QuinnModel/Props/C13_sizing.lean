import QuinnModel.Conn.Sizing
import QuinnModel.Lemmas.SendGate
/-
C13 — datagram sizing in `Connection::poll_transmit` / `PacketBuilder` (shape-anchored skeleton,
see `Conn/Sizing.lean`).  Hypotheses name what the code relies on: `WritersRespect` = every frame writer stops at
`max_size` (true for all writers that take `max_size`; NOT enforced for ACK frames, `populate_acks` has no such argument:
a finding), and `tagLen ≤ limit`.
-/
namespace QM.Props.C13_sizing
open QM QM.Sizing

/-- the frame writers stopped at `max_size`, and the header-protection minimum fits as `PacketBuilder::new` asserts -/
def WritersRespect (d : Dgram) : Prop := d.payloadEnd ≤ maxSize d ∧ d.minSize ≤ maxSize d ∧ d.start ≤ d.payloadEnd

/-- FULL statement: a finished datagram never exceeds the room it was given -/
def datagram_le_segment_statement : Prop :=
  ∀ d : Dgram, WritersRespect d → d.tagLen ≤ d.limit → finishedLen d ≤ d.limit

/-- what holds: an unpadded datagram, or a padded one whose room is at least MIN_INITIAL_SIZE, stays within its room
    (so within `segment_size`, and within 1200 for a loss probe: `C13.loss_probe_datagram_le_1200`) -/
theorem datagram_le_segment (d : Dgram) (hw : WritersRespect d) (ht : d.tagLen ≤ d.limit)
    (hp : d.pad = true → Gen.sgMinInitialSize ≤ d.limit) : finishedLen d ≤ d.limit := by
  obtain ⟨h1, h2, _⟩ := hw
  have hms : maxSize d = d.start + d.limit - d.tagLen := rfl
  -- the padded minimum, like the payload, ends within `max_size`; the tag then fills the room exactly
  have hpm : paddedMin d ≤ maxSize d := by
    unfold paddedMin; split
    · have := hp ‹_›; exact Nat.max_le.2 ⟨h2, by rw [hms]; omega⟩
    · exact h2
  have hq := Nat.max_le.2 ⟨h1, hpm⟩
  rw [hms] at hq
  show max d.payloadEnd (paddedMin d) + d.tagLen - d.start ≤ d.limit
  generalize max d.payloadEnd (paddedMin d) = q at hq ⊢
  omega

/-- the full statement is false: `pad_to` ignores `max_size`, so a padded datagram whose room is below 1200 (a later
    datagram of a GSO batch whose first datagram was shorter than 1200 bytes) overruns its segment
    (a finding, not reached by the simulator: needs > 1100 bytes of Handshake data) -/
theorem datagram_le_segment_counterexample : ¬ datagram_le_segment_statement := by
  intro h
  have := h ⟨1150, 1150, 16, 1190, 1180, true⟩ (by unfold WritersRespect maxSize; decide) (by decide)
  revert this; decide

/-- client Initial datagrams (and every datagram whose packet carries PATH_CHALLENGE / PATH_RESPONSE) are at least
    1200 bytes: `pad_datagram` is set for them and the finished datagram then has at least MIN_INITIAL_SIZE bytes -/
theorem padded_ge_min_initial (d : Dgram) (hp : d.pad = true) (ht : d.tagLen ≤ Gen.sgMinInitialSize) :
    Gen.sgMinInitialSize ≤ finishedLen d := by
  have hq := Nat.le_trans (Nat.le_max_right d.minSize (d.start + Gen.sgMinInitialSize - d.tagLen)) (Nat.le_max_right d.payloadEnd _)
  unfold finishedLen paddedMin
  rw [if_pos hp]
  show _ ≤ max d.payloadEnd (max d.minSize (d.start + Gen.sgMinInitialSize - d.tagLen)) + d.tagLen - d.start
  generalize max d.payloadEnd _ = q at hq ⊢
  omega

theorem initial_client_padded (d : Dgram) (ackEl reqPad : Bool) (ht : d.tagLen ≤ Gen.sgMinInitialSize)
    (hp : d.pad = padDatagram true true ackEl reqPad) : 1200 ≤ finishedLen d := by
  have : d.pad = true := by rw [hp]; simp [padDatagram]
  exact padded_ge_min_initial d this ht

theorem path_frames_padded (d : Dgram) (hasInitial isClient ackEl : Bool) (ht : d.tagLen ≤ Gen.sgMinInitialSize)
    (hp : d.pad = padDatagram hasInitial isClient ackEl true) : 1200 ≤ finishedLen d := by
  have : d.pad = true := by rw [hp]; simp [padDatagram]
  exact padded_ge_min_initial d this ht

/-- non-vacuity: a client Initial ACK of 60 bytes is padded to exactly 1200 -/
example : finishedLen ⟨0, 1200, 16, 60, 40, padDatagram true true false false⟩ = 1200 := by decide

/-! ### "loss probes never exceed 1200 bytes" over ALL runs of the send loop, coalesced probes included

`Conn/SendGate.lean`: a datagram is charged to a loss probe (`isProbe`) when it is started by a space that holds a credit,
or when a packet holding a credit is coalesced into a datagram another space started.  `limit` is the
`next_datagram_size_limit` the datagram was given (`Sizing.nextDatagramLimitAhead`). -/
section LossProbes
open QM.SendGate

/-- no space from `k` on holds a loss-probe credit -/
def NoCreditFrom (s : St) (k : Nat) : Prop := (k ≤ 0 → s.lp0 = 0) ∧ (k ≤ 1 → s.lp1 = 0) ∧ s.lp2 = 0

theorem noCredit_lp (s : St) (k j : Nat) (h : NoCreditFrom s k) (hkj : k ≤ j) : lp s j = 0 := by
  obtain ⟨h0, h1, h2⟩ := h
  unfold lp
  split
  · exact h0 (by omega)
  · exact h1 (by omega)
  · exact h2

/-- invariant of the loop: a probe datagram is clamped; an unclamped datagram that is not a probe was started when no
    space from its opener on held a credit (so no credit can be coalesced into it); the opener is behind the cursor -/
structure LoopInv (s : St) : Prop where
  clamped : s.isProbe = true → s.limit ≤ Gen.initialMtu
  noCredit : s.dgram = true → s.isProbe = false → Gen.initialMtu < s.limit → NoCreditFrom s s.opener
  opener : s.dgram = true → s.opener ≤ s.cur

theorem loopInv_newCall (s : St) : LoopInv (newCall s) :=
  ⟨Bool.false_ne_true.elim, Bool.false_ne_true.elim, Bool.false_ne_true.elim⟩

theorem noCredit_lpDec (s : St) (i k : Nat) (h : NoCreditFrom s k) : NoCreditFrom (lpDec s i) k := by
  obtain ⟨h0, h1, h2⟩ := h
  unfold lpDec
  split
  · exact ⟨fun hk => by show s.lp0 - 1 = 0; rw [h0 hk], h1, h2⟩
  · exact ⟨h0, fun hk => by show s.lp1 - 1 = 0; rw [h1 hk], h2⟩
  · exact ⟨h0, h1, by show s.lp2 - 1 = 0; rw [h2]⟩

theorem start_noCredit (s : St) (i : Nat) (h0 : lp s i = 0) (hl : laterCredit s i = false) : NoCreditFrom s i := by
  unfold lp at h0
  unfold laterCredit at hl
  unfold NoCreditFrom
  split at h0
  · simp only [Bool.or_eq_false_iff, bne_eq_false_iff_eq] at hl
    exact ⟨fun _ => h0, fun _ => hl.1, hl.2⟩
  · simp only [bne_eq_false_iff_eq] at hl
    exact ⟨fun h => by omega, fun _ => h0, hl⟩
  · rename_i h1 h2
    refine ⟨fun h => ?_, fun h => ?_, h0⟩
    · exact absurd (Nat.le_zero.mp h) h1
    · have : i = 0 ∨ i = 1 := by omega
      rcases this with h | h
      · exact absurd h h1
      · exact absurd h h2

theorem step_loopInv (s : St) (o : Offer) (h : LoopInv s) (hord : s.cur ≤ o.space) : LoopInv (step s o).1 := by
  obtain ⟨k1, k2, k3⟩ := h
  -- a packet is coalesced only into an open datagram
  have open_of : ¬ (!o.coalesce || !s.dgram) = true → s.dgram = true := fun hco => by
    cases hd : s.dgram with
    | true => rfl
    | false => rw [hd] at hco; exact absurd (Bool.or_true _) hco
  -- branches: a new datagram (blocked; without a credit; charged to a credit), then a coalesced packet (blocked; the
  -- datagram becomes a probe; it stays what it was)
  fun_cases step s o
  case case1 | case4 => exact ⟨k1, k2, k3⟩
  case case2 _ _ hl =>
    refine ⟨nofun, fun _ _ hlim => ?_, fun _ => Nat.le_refl _⟩
    -- an unclamped datagram: no later space holds a credit
    cases hlc : laterCredit s o.space with
    | true =>
      have hlim' : Gen.initialMtu < (Sizing.nextDatagramLimitAhead 0 (laterCredit s o.space) o.segment).2 := hlim
      rw [hlc] at hlim'
      exact absurd (Nat.min_le_right o.segment Gen.initialMtu) (Nat.not_le_of_lt hlim')
    | false => exact start_noCredit s o.space (eq_of_beq hl) hlc
  case case3 _ _ hl =>
    refine ⟨fun _ => ?_, nofun, fun _ => Nat.le_refl _⟩
    obtain ⟨n, hn⟩ := Nat.exists_eq_succ_of_ne_zero (fun h0 : lp s o.space = 0 => hl (by rw [h0]; rfl))
    show (Sizing.nextDatagramLimitAhead (lp s o.space) _ o.segment).2 ≤ _
    rw [hn]
    exact Nat.min_le_right _ _
  case case5 hco _ _ _ _ hp =>
    have hd := open_of hco
    obtain ⟨hlp, hnp⟩ : lp s o.space ≠ 0 ∧ s.isProbe = false := by
      simpa only [bne_iff_ne, ne_eq, Bool.and_eq_true, Bool.not_eq_true'] using hp
    refine ⟨fun _ => ?_, nofun, fun _ => ?_⟩
    · -- the datagram becomes a probe: it must have been clamped
      show (lpDec s o.space).limit ≤ Gen.initialMtu
      rw [show (lpDec s o.space).limit = s.limit by unfold lpDec; split <;> rfl]
      refine Nat.le_of_not_lt fun hc => hlp ?_
      exact noCredit_lp s s.opener o.space (k2 hd hnp hc) (Nat.le_trans (k3 hd) hord)
    · show (lpDec s o.space).opener ≤ o.space
      rw [show (lpDec s o.space).opener = s.opener by unfold lpDec; split <;> rfl]
      exact Nat.le_trans (k3 hd) hord
  case case6 hco _ _ _ _ _ =>
    have hd := open_of hco
    exact ⟨k1, fun _ hp2 hlim => k2 hd hp2 hlim, fun _ => Nat.le_trans (k3 hd) hord⟩

theorem call_loopInv (os : List Offer) : ∀ s, LoopInv s → LoopInv (call s os).1 := fun s h =>
  (call_inv (P := fun _ => True) (fun s o h hord => ⟨step_loopInv s o h hord, trivial⟩) s os h).1

/-- "loss probes never exceed 1200 bytes", all runs: in every state the send loop reaches during a `poll_transmit` —
    from ANY connection state `s`, after ANY iterations — a datagram charged to a loss probe (started with a credit, or
    a credit-holding packet coalesced into it) was given a size limit of at most INITIAL_MTU = 1200 -/
theorem loss_probe_datagram_le_1200_all_runs (s : St) (os : List Offer) :
    (call (newCall s) os).1.isProbe = true → (call (newCall s) os).1.limit ≤ 1200 :=
  -- `Gen.initialMtu` is 1200
  (call_loopInv os (newCall s) (loopInv_newCall s)).clamped

/-- non-vacuity: an ACK-only Initial packet opens the datagram while the Data
    space holds a probe credit; segment size 1400: the datagram is limited to 1200 and the coalesced probe charges it -/
example :
    let s : St := ⟨0, 0, 1, false, false, false, false, 0, 0, 0, 0⟩
    let r := call (newCall s) [{ space := 0, ae := false, coalesce := false, inFlight := 5026, bytes := 1400, window := 6000, segment := 1400 },
                               { space := 2, ae := true, coalesce := true, inFlight := 5026, bytes := 1400, window := 6000, segment := 1400 }]
    r.1.isProbe = true ∧ r.1.limit = 1200 ∧ r.1.lp2 = 0 := by decide

end LossProbes

end QM.Props.C13_sizing
