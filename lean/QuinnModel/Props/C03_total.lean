import QuinnModel.Lemmas.RxPn
import QuinnModel.Lemmas.PendingAcks
import QuinnModel.Lemmas.Datagrams
import QuinnModel.Lemmas.CidQueue
import QuinnModel.Lemmas.StreamsC06
/-
C03 — "No sequence of bytes received from the network ... makes an endpoint or connection panic".
The micro-differential models print `panic` where the code panics, so a predicted panic passes the
correspondence check; the harness classifies every op as PEER / LOCAL-API / CONTRACT-VIOLATION
(harness/src/opclass*.rs) and reports a panic on a PEER op whatever the model says.  These theorems are the proof
side of that oracle: over EVERY history of PEER ops with arguments in their WIRE ranges (varints below 2^62,
truncated packet numbers of 1..4 bytes, ...) the model never reaches its panic outcome.  Hypotheses are wire
ranges only - never "the value is small because the code checked it" unless that check is itself modelled.
-/
namespace QM.Props.C03_total
open QM

/-! ## packet numbers of received packets (`packet_crypto.rs::decrypt_packet_body`), audit SD-10

RFC 9000 12.3: packet numbers are integers in 0..2^62-1.  The receiver reconstructs the full number from 1..4
bytes and its largest processed number; a peer that holds the keys chooses those bytes freely. -/
section rxpn
open QM.RxPn

/-- the code bounds the numbers it processes by 2^62-1 (T1: `Gen.rxPnBound` is read off the source) -/
theorem rx_bound_is_varint_max : Gen.rxPnBound = some (2 ^ 62 - 1) := rfl

/-- over EVERY history of received packets (any 1..4-byte truncated numbers), starting from any legal largest
    processed number: the receive path never panics (`rx_packet + 1`, the additions inside `expand`), the largest
    processed number stays a legal packet number, and so does every number a packet is processed under -/
theorem received_packet_numbers_stay_legal (rx : Nat) (hrx : rx < 2 ^ 62) (ps : List (Nat × Nat)) (hw : ∀ p ∈ ps, wire p) :
    (∃ rx', run rx ps = some rx' ∧ rx' < 2 ^ 62) ∧ ∀ n ∈ accepted rx ps, n < 2 ^ 62 := by
  obtain ⟨⟨rx', h, hb⟩, hacc⟩ := history_bounded (2 ^ 62 - 1) rx_bound_is_varint_max (by omega) ps rx (by omega) hw
  exact ⟨⟨rx', h, by omega⟩, fun n hn => by have := hacc n hn; omega⟩

/-- `expand` alone does NOT keep the result legal: the receiver state 2^62-1 (a legal number) and the one-byte
    truncated number 05 give 2^62+5.  Without the bound test in `decrypt_packet_body` that number is processed,
    enters `PendingAcks`, and the next ACK frame panics in `Ack::encode` (`VarInt::from_u64(..).unwrap()`) -/
def expand_exceeds_varint_witness : (Nat × Nat) × Nat := ((1, 5), 2 ^ 62 - 1)

theorem expand_alone_exceeds_varint :
    wire expand_exceeds_varint_witness.1 ∧ expand_exceeds_varint_witness.2 < 2 ^ 62 ∧
    PacketNumber.expand expand_exceeds_varint_witness.1 (expand_exceeds_varint_witness.2 + 1) = some (2 ^ 62 + 5) := by
  refine ⟨⟨by decide, by decide, by decide⟩, by decide, by decide⟩

/-- a single packet can move the largest processed number forward by 2^31 (4-byte truncated number): reaching
    2^62 from 0 costs a hostile peer about 2^31 packets, not 2^62 -/
theorem one_packet_advances_by_2_31 (rx : Nat) (hrx : rx + 1 + 2 ^ 31 < 2 ^ 62) :
    PacketNumber.expandW 4294967296 ((rx + 1 + 2 ^ 31) % 4294967296) (rx + 1) = some (rx + 1 + 2 ^ 31) :=
  PacketNumber.expandW_window (by decide) (by omega) (by omega) (by omega)

-- non-vacuity: a history that runs into the bound: accepted, accepted, dropped (2^62+5), accepted
example : run (2 ^ 62 - 300) [(1, 0xff), (4, 0xffffffff), (1, 5), (2, 0xfff0)] = some (2 ^ 62 - 1) := by decide
example : accepted (2 ^ 62 - 300) [(1, 0xff), (4, 0xffffffff), (1, 5)] = [2 ^ 62 - 257, 2 ^ 62 - 1] := by decide

end rxpn

/-! ## `PendingAcks` fed by the receive path: the `pn < 2^62` hypothesis of `C03.pending_acks_bounded` discharged -/
section pendingacks
open QM.PendingAcks

/-- every packet the receive path accepts (any history of truncated numbers from a legal state), inserted into
    `PendingAcks` at any times, interleaved with `subtract_below` of numbers that were accepted earlier: never a
    panic (`x + 1`, `max + 1`), at most MAX_ACK_BLOCKS ranges.  No bound on packet numbers is ASSUMED: it is the
    theorem above. -/
theorem pending_acks_total_on_received_packets (rx : Nat) (hrx : rx < 2 ^ 62) (ps : List (Nat × Nat))
    (hw : ∀ p ∈ ps, RxPn.wire p) (ops : List PendingAcks.Op)
    (hfrom : ∀ op ∈ ops, (∃ n t, op = .insert n t ∧ n ∈ RxPn.accepted rx ps) ∨ (∃ m, op = .sub m ∧ m ∈ RxPn.accepted rx ps)) :
    ∃ s', PendingAcks.run PendingAcks.init ops = some s' ∧ s'.ranges.length ≤ Gen.maxAckBlocks ∧ WF s'.ranges := by
  have hacc := (received_packet_numbers_stay_legal rx hrx ps hw).2
  refine run_bound ops PendingAcks.init (by simp [PendingAcks.init]) ⟨by simp [PendingAcks.init], by simp [PendingAcks.init]⟩ ?_
  intro op hop
  rcases hfrom op hop with ⟨n, t, rfl, hn⟩ | ⟨m, rfl, hm⟩
  · exact hacc n hn
  · exact hacc m hm

end pendingacks

/-! ## `Recv::credit_consumed_by` (STREAM / RESET_STREAM), audit SD-25 -/
section credit
open QM.Streams

/-- for EVERY stream half, frame end offset and connection accounting (all u64): the flow-control test answers - it
    never overflows `received + new_bytes`, whatever windows were configured (also VarInt::MAX) -/
theorem credit_consumed_by_total (r : Recv) (offset received maxData : Nat) (hm : maxData < 2 ^ 64) :
    (r.creditConsumedBy offset received maxData).isSome = true := by
  fun_cases Recv.creditConsumedBy r offset received maxData
  · rfl
  · rfl
  · -- the `none` arm: the sum overflows and the overflow is not the error; `hm` excludes it
    rename_i h; simp [Gen.creditOverflowIsError, hm] at h
  · rfl
  · rfl

-- non-vacuity: the state of the corpus case `credit-overflow-peer` (data_recvd = 2^64-8, a stopped stream, a frame
-- ending at 2^62-2): an error, not a panic
example : ({ (Recv.new (2 ^ 62 - 1)) with stopped := true } : Recv).creditConsumedBy (2 ^ 62 - 2) (2 ^ 64 - 8) (2 ^ 64 - 1)
    = some (.error (.flowControl "")) := by
  simp [Recv.creditConsumedBy, Recv.new, Gen.creditOverStream, Gen.creditNewBytes, Gen.creditOverflowIsError, addU]

end credit

/-! ## DATAGRAM frames (`DatagramState::received`) -/
section dgram
open QM.Datagrams

/-- over EVERY history of received DATAGRAM frames (any payloads, any configured window, also `None`) interleaved
    with the application's `recv`: never a panic, never a non-terminating eviction loop -/
theorem datagram_frames_total (ops : List Datagrams.Op) (hpeer : ∀ op ∈ ops, (∃ d w, op = .received d w) ∨ op = .recv) :
    ∀ e ∈ trace init ops, e.2 ≠ .panic ∧ e.2 ≠ .hang :=
  trace_no_panic ops init init_inv (by
    intro op hop
    rcases hpeer op hop with ⟨d, w, rfl⟩ | rfl <;> trivial)

end dgram

/-! ## NEW_CONNECTION_ID frames (`CidQueue` + the handler arm) -/
section cidq
open QM.CidQueue

/-- over EVERY history of decoded NEW_CONNECTION_ID frames (sequence a varint; ANY retire_prior_to, the handler
    rejects `retire_prior_to > sequence` itself) and transmissions of RETIRE_CONNECTION_ID: never a panic -/
theorem new_connection_id_frames_total (cid : Bytes) (server : Bool) (ops : List HOp) (hv : ∀ op ∈ ops, op.valid) :
    ∃ s', hrun ⟨new cid, [], server⟩ ops = some s' :=
  let ⟨s', h, _⟩ := hrun_inv ops ⟨new cid, [], server⟩ (new_inv cid) (by simp [J, MAXP]) hv
  ⟨s', h⟩

end cidq

end QM.Props.C03_total
