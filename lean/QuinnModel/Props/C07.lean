import QuinnModel.Lemmas.Amplification
import QuinnModel.Lemmas.Reset
/-
C07 — Unvalidated addresses are never sent more than 3x what they sent.
The gate predicate `Gen.antiAmpBlocked` and its argument `Gen.antiAmpGateArg` are regenerated from
paths.rs / connection/mod.rs on every run; the reset constants from endpoint.rs / lib.rs.
-/
namespace QM.Props.C07
open QM

/-- Over EVERY interleaving of received datagrams, validation, migrations and `poll_transmit` calls (each
    building any number of datagrams of any sizes ≤ the segment size ≤ M), an unvalidated path has been sent
    at most three times what was received from it plus the documented allowance of completing one
    datagram: `sent ≤ 3·recvd + M − 1`. -/
theorem amp_bound (M : Nat) (hM : 0 < M) (evs : List Amp.Ev) (hw : ∀ e ∈ evs, e.wf M) (r0 : Nat) :
    let p := Amp.run ⟨false, 0, r0⟩ evs
    p.validated = false → p.sent + 1 ≤ 3 * p.recvd + M :=
  Amp.run_inv M hM evs ⟨false, 0, r0⟩ hw (by intro _; simp only; omega)

/-- Per datagram: whenever the datagram loop starts datagram k of a call on an unvalidated path, strictly
    less than 3× the bytes received had been sent (earlier datagrams of the same call included) — "one
    datagram may be completed once any budget remains". -/
theorem amp_gate (p : Amp.Path) (seg : Nat) (hv : p.validated = false) (sizes : List Nat)
    (hs : ∀ s ∈ sizes, s ≤ seg) (k : Nat) (hk : k < (Amp.emit p seg 0 sizes).length) :
    p.sent + ((Amp.emit p seg 0 sizes).take k).sum < 3 * p.recvd := by
  have := Amp.emit_gate p seg hv sizes 0 0 (by omega) hs k hk
  omega

/-- A stateless reset is strictly smaller than the datagram that provoked it (every rng draw in range). -/
theorem reset_smaller (inciting draw n : Nat)
    (hdraw : Gen.resetIdealMinPaddingLen ≤ draw ∧ draw < inciting - Gen.resetTokenSize - 1)
    (h : Reset.resetSize inciting draw = some n) : n < inciting :=
  Reset.resetSize_lt_inciting inciting draw n (.inr hdraw.2) h

/-- … and when the draw is not used (small inciting datagrams) whatever the draw. -/
theorem reset_smaller_small (inciting draw n : Nat)
    (hsmall : inciting - Gen.resetTokenSize - 1 ≤ Gen.resetIdealMinPaddingLen)
    (h : Reset.resetSize inciting draw = some n) : n < inciting :=
  Reset.resetSize_lt_inciting inciting draw n (.inl hsmall) h

/-- Rate limit: over any history of unexpected datagrams with a monotone clock, any two stateless resets are
    at least `min_reset_interval` apart. -/
theorem reset_rate (mi : Nat) (h : List (Nat × Nat × Nat)) (t0 : Nat) (hm : Reset.Mono t0 h) :
    List.Pairwise (fun a b => a + mi ≤ b) (Reset.sentTimes mi ⟨none⟩ h) :=
  (Reset.sentTimes_spaced mi h ⟨none⟩ t0 hm (by intro l hl; cases hl)).2

/-- "Until a peer address is validated (by a Handshake packet from it, a valid Retry or validation token, or a
    successful path challenge)": over EVERY history that starts unvalidated, the path counts as validated at the end
    only if the history contains one of exactly these causes — a Handshake packet of the peer processed, a token the
    endpoint issued presented, a PATH_RESPONSE matching a challenge — and no migration came after it. -/
theorem validated_only_by_cause (evs : List Amp.Ev) (s r : Nat)
    (h : (Amp.run ⟨false, s, r⟩ evs).validated = true) :
    ∃ pre c post, evs = pre ++ c :: post ∧ c.isCause = true ∧ ∀ e ∈ post, ∀ n, e ≠ .migrate n := by
  rcases Amp.run_validated_cause evs _ h with ⟨hv, _⟩ | h'
  · cases hv
  · exact h'

/-- … and conversely a history without any of the causes (received datagrams of any size from any address, polls,
    migrations) never validates: the 3x bound of `amp_bound` stays in force throughout. -/
theorem no_cause_never_validated (evs : List Amp.Ev) (s r : Nat) (hc : ∀ e ∈ evs, e.isCause = false) :
    (Amp.run ⟨false, s, r⟩ evs).validated = false := by
  cases hr : (Amp.run ⟨false, s, r⟩ evs).validated with
  | false => rfl
  | true =>
    obtain ⟨pre, c, post, he, hcause, _⟩ := validated_only_by_cause evs s r hr
    rw [hc c (by rw [he]; simp)] at hcause
    cases hcause

/-- The verdict the trace validation applies to every datagram a real connection handles (`amp rx` / `amp foreign`,
    cause bits derived by the harness from the PEER's transmit record): "must stay unvalidated" is issued exactly when
    the datagram stands for no cause, "must be validated" only for a path that already was; with a cause the outcome is
    left open (the property permits validation, it does not demand it). -/
theorem rx_verdict_sound (p : Amp.Path) (hs pr b : Bool) (h : Amp.rxVerdict p.validated hs pr = some b) :
    (b = false → hs = false ∧ pr = false ∧ (Amp.run p (Amp.rxEvents hs pr)).validated = false) ∧
    (b = true → p.validated = true) := by
  unfold Amp.rxVerdict at h
  cases hv : p.validated <;> cases hs <;> cases pr <;> simp_all [Amp.rxEvents, Amp.run]

theorem rx_verdict_open (p : Amp.Path) (hs pr : Bool) (hv : p.validated = false) (hc : (hs || pr) = true) :
    Amp.rxVerdict p.validated hs pr = none ∧ (Amp.run p (Amp.rxEvents hs pr)).validated = true := by
  unfold Amp.rxVerdict
  cases hs <;> cases pr <;> simp_all [Amp.rxEvents, Amp.run, Amp.step]

example : (Amp.run ⟨false, 0, 1200⟩ [.recv 1200, .poll 1200 [1200], .handshakePacketProcessed, .poll 1200 [1200, 1200, 1200, 1200, 1200, 1200, 1200]]).validated = true := by decide
example : (Amp.run ⟨false, 0, 1200⟩ [.tokenValidated, .migrate 40, .recv 40, .foreign 1200]).validated = false := by decide
example : Amp.rxVerdict false false false = some false ∧ Amp.rxVerdict false true false = none
    ∧ Amp.rxVerdict false false true = none ∧ Amp.rxVerdict true false false = some true := by decide
example : (Amp.run ⟨false, 0, 1200⟩ [.poll 1200 [1200, 1200, 1200, 1200], .recv 50, .poll 1200 [1200, 1200]]).sent = 4800 := by decide
example : Reset.resetSize 100 40 = some 56 ∧ Reset.resetSize 21 0 = none ∧ Reset.resetSize 30 0 = some 29 := by decide
example : Reset.sentTimes 20 ⟨none⟩ [(0, 100, 40), (5, 100, 40), (20, 100, 40), (30, 100, 40), (41, 50, 30)] = [0, 20, 41] := by decide

end QM.Props.C07
