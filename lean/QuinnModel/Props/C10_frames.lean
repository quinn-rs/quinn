import QuinnModel.Lemmas.Frame
/-
C10 (frames) — Wire encodings round-trip and decoders are total: every frame kind of quinn-proto/src/frame.rs.
(model in Wire/Frame.lean, the longer proofs in Lemmas/Frame.lean)

`encode f = none` models a panic of the encoder (a field ≥ 2^62 given to `write_var`); the decoder
`decodeOne` mirrors `frame::Iter::try_next` and is a total function on byte strings.
-/
namespace QM.Props.C10_frames
open QM QM.Wire QM.Wire.Frame

/-- every well-formed frame of every kind (STREAM with all OFF/LEN/FIN combinations, ACK with and without ECN
    counts, both MAX_STREAMS / STREAMS_BLOCKED directions, both close forms, …): decoding its encoding followed
    by arbitrary bytes `r` yields the frame and exactly `r` -/
theorem frame_roundtrip (f : Frame) (h : wellFormed f) (r : Bytes) :
    ∃ e, encode f = some e ∧ decodeOne (e ++ r) = .ok (f, r) :=
  roundtrip f h r

/-- the same for the length-less STREAM / DATAGRAM form used for the last frame of a packet (r = []) -/
theorem frame_roundtrip_last (f : Frame) (h : wellFormed f) :
    ∃ e, encodeLast f = some e ∧ decodeOne e = .ok (f, []) := by
  simpa only [List.append_nil, RTW, encodeLast] using roundtrip_with false [] (fun _ => rfl) f h

/-- for ALL byte strings the decoder returns an error, or a frame together with a strictly shorter
    remainder that is a suffix of the input (it never reads past the buffer and always makes progress) -/
theorem decode_total (bs : Bytes) :
    (∃ e, decodeOne bs = .error e) ∨
    (∃ f r, decodeOne bs = .ok (f, r) ∧ r.length < bs.length ∧ r <:+ bs) := by
  cases h : decodeOne bs with
  | error e => exact .inl ⟨e, rfl⟩
  | ok p => exact .inr ⟨p.1, p.2, rfl, ((decodeOne_good bs).suffix h).2, ((decodeOne_good bs).suffix h).1⟩

/-- … and the error is never the model's `panic` outcome: the one unchecked `copy_to_slice` of
    `try_next` (the reset token of NEW_CONNECTION_ID) is covered by the length guard in front of it -/
theorem decode_no_panic (bs : Bytes) : decodeOne bs ≠ .error .panic :=
  (decodeOne_good bs).ne rfl

/-- iterating a whole payload terminates within `payload.length` steps (the fuel of the executable
    iteration is never exhausted) -/
theorem iter_terminates (payload : Bytes) (res : IterResult) (h : iter payload = some res) :
    res.outOfFuel = false := by
  unfold iter at h
  split at h
  · cases h
  · cases h
    exact iter_fuel_suffices _ _ (Nat.le_refl _)

/-- CONNECTION_CLOSE whose reason is truncated to fit `max_len` still decodes to the same error code and
    frame type and to exactly the announced prefix of the reason (`connFixed` = the bytes the budget reserves) -/
theorem close_truncation (withLen : Bool) (maxLen code : Nat) (ft : Option Nat) (reason : Bytes)
    (hc : code < 2^62) (hl : reason.length < 2^62) (hft : ∀ x, ft = some x → x < 2^62 ∧ x ≠ 0)
    (hm : connFixed (ftRaw ft) reason ≤ maxLen) (r : Bytes) :
    ∃ e, encodeWith withLen maxLen (.closeConn code ft reason) = some e ∧
      decodeOne (e ++ r) = .ok (.closeConn code ft (reason.take (connKeep maxLen (ftRaw ft) reason)), r) :=
  closeConn_trunc withLen maxLen code reason hc hl ft hft hm r

/-- the same for APPLICATION_CLOSE -/
theorem close_truncation_app (withLen : Bool) (maxLen code : Nat) (reason : Bytes)
    (hc : code < 2^62) (hl : reason.length < 2^62) (hm : appFixed code reason ≤ maxLen) (r : Bytes) :
    ∃ e, encodeWith withLen maxLen (.closeApp code reason) = some e ∧
      decodeOne (e ++ r) = .ok (.closeApp code (reason.take (appKeep maxLen code reason)), r) :=
  closeApp_trunc withLen maxLen code reason hc hl hm r

/-- for every frame kind with a `SIZE_BOUND` constant (generated from the source): the encoding is at most
    the bound plus the variable-length payload (stream / crypto / datagram data, close reason) -/
theorem encoded_size_le_bound (f : Frame) (withLen : Bool) (maxLen : Nat) (e : Bytes) (b : Nat)
    (hw : wellFormed f) (he : encodeWith withLen maxLen f = some e) (hb : sizeBound f = some b) :
    e.length ≤ b + payloadLen f :=
  Frame.encoded_size_le_bound f withLen maxLen e b hw he hb

/-- APPLICATION_CLOSE written under `max_len` occupies at most `max_len` bytes, for EVERY error code and
    reason, whenever `max_len` is at least the SIZE_BOUND the caller checks (then the budget arithmetic cannot
    underflow either: the encoder does not panic).  [`ApplicationClose::encode` budgets
    `self.error_code.size()`; with the constant `3` of `ConnectionClose::encode` it would fail for codes ≥ 2^14.] -/
theorem close_fits_max_len (withLen : Bool) (maxLen code : Nat) (reason : Bytes)
    (hc : code < 2^62) (hl : reason.length < 2^62) (hm : Gen.sizeBoundApplicationClose ≤ maxLen) :
    ∃ e, encodeWith withLen maxLen (.closeApp code reason) = some e ∧ e.length ≤ maxLen := by
  have he := (closeApp_enc withLen maxLen code reason hc hl).trans (if_pos (Nat.le_trans (appFixed_le hc hl) hm))
  exact ⟨_, he, closeApp_fits withLen maxLen code reason hc hl _ he⟩

/-- CONNECTION_CLOSE likewise, for every transport error code the crate can construct (`errors!` table and
    `Code::crypto`, maximum generated from the source; `Code` itself is a `u64` newtype, so this is an
    invariant of construction, not of the type) -/
theorem close_fits_max_len_conn (withLen : Bool) (maxLen code : Nat) (ft : Option Nat) (reason : Bytes)
    (hc : code ≤ Gen.transportErrorCodeMax) (hl : reason.length < 2^62)
    (hft : ∀ x, ft = some x → x < 2^62 ∧ x ≠ 0) (hm : Gen.sizeBoundConnectionClose ≤ maxLen) :
    ∃ e, encodeWith withLen maxLen (.closeConn code ft reason) = some e ∧ e.length ≤ maxLen := by
  have hc14 : code < 2^14 := by simp only [Gen.transportErrorCodeMax] at hc; omega
  have hty := ftRaw_lt ft hft
  have he := (closeConn_enc withLen maxLen code reason (by omega) hl ft hty).trans
    (if_pos (Nat.le_trans (connFixed_le hty hl) hm))
  exact ⟨_, he, closeConn_fits withLen maxLen code ft reason _ hc14 hl hft he⟩

-- non-vacuity: concrete well-formed frames of the interesting kinds
example : wellFormed (.stream 4 70000 true [1, 2, 3]) := by simp [wellFormed, V]
example : wellFormed (.ack 100 5 3 [(1, 2), (0, 0)] (some (1, 2, 3))) := by
  simp [wellFormed, V, ackChain]
example : wellFormed (.newConnectionId 5 2 [1, 2, 3, 4, 5] (List.replicate 16 7)) := by simp [wellFormed, V]
example : wellFormed (.closeConn 10 (some 6) [104, 105]) := by simp [wellFormed, V]
example : sizeBound (.stream 4 70000 true [1, 2, 3]) = some 25 := rfl
example : connFixed (ftRaw (some 6)) [104, 105] ≤ 8 := by
  have h1 : (encB (ftRaw (some 6))).length = 1 := encB_length_one (by decide)
  have h2 : (encB ([104, 105] : Bytes).length).length = 1 := encB_length_one (by decide)
  unfold connFixed; omega
-- `close_fits_max_len` applies to code 2^30 (an 8-byte varint), an 80-byte reason and max_len 30 ≥ SIZE_BOUND = 17
example : (2^30 : Nat) < 2^62 ∧ (List.replicate 80 (0 : Nat)).length < 2^62 ∧ Gen.sizeBoundApplicationClose ≤ 30 := by
  refine ⟨by decide, by simp, by decide⟩
example : (0x1ff : Nat) ≤ Gen.transportErrorCodeMax ∧ Gen.sizeBoundConnectionClose ≤ 26 := by decide

end QM.Props.C10_frames
