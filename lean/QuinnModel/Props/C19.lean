import QuinnModel.Lemmas.Udp
import QuinnModel.Lemmas.UdpSend
/-
C19 — The UDP layer preserves boundaries, payload and metadata.   (PARTIAL)
Proved: the arithmetic the Rust code is responsible for.  Assumed (validated on loopback sockets by the
harness, not provable here): the kernel's GSO/GRO contract `wireDatagrams` and that it reports the stride.
-/
namespace QM.Props.C19
open QM QM.Udp

/-- a coalesced receive batch (every datagram `stride` bytes, the last 1..stride) is split back into exactly
    the original datagrams by the stride loop, for every batch and stride (also stride ≥ total length) -/
theorem stride_split_inverse {α : Type} (stride : Nat) (hs : 0 < stride) (segs : List (List α)) (h : WF stride segs) :
    splitByStride stride segs.flatten.length segs.flatten = segs :=
  splitByStride_flatten stride hs segs segs.flatten.length h (Nat.le_refl _)

/-- under the kernel contract, what is sent with segmentation offload and received coalesced with the same
    stride is split back into the datagrams that were put on the wire -/
theorem gso_then_split_roundtrip {α : Type} (seg : Nat) (hs : 0 < seg) (contents : List α) (hc : contents ≠ []) :
    (wireDatagrams contents (some seg)).flatten = contents ∧ WF seg (wireDatagrams contents (some seg)) :=
  have h := splitByStride_spec seg hs contents.length contents hc (Nat.le_refl _)
  ⟨h.1, h.2.1⟩

/-- the number of datagrams of a segmented transmit is ceil(len / seg), all of size seg except the last -/
theorem segments_count {α : Type} (seg : Nat) (hs : 0 < seg) (contents : List α) (hc : contents ≠ []) :
    (wireDatagrams contents (some seg)).length = (contents.length + seg - 1) / seg :=
  (splitByStride_spec seg hs contents.length contents hc (Nat.le_refl _)).2.2

/-- `effective_segment_size` is None exactly when one datagram suffices -/
theorem effective_segment_size_spec (seg : Option Nat) (len : Nat) :
    effectiveSegmentSize seg len = none ↔ (seg = none ∨ ∃ s, seg = some s ∧ len ≤ s) := by
  cases seg <;> simp [effectiveSegmentSize]

/-- the segmentation decision at full strength: offload with segment size `s` is requested exactly when
    the transmit gives `s` and `s < len` (i.e. whenever there is more than one datagram, including one
    full segment plus a short last one) -/
theorem effective_segment_size_some_iff (seg : Option Nat) (len s : Nat) :
    effectiveSegmentSize seg len = some s ↔ (seg = some s ∧ s < len) := by
  unfold effectiveSegmentSize; grind

/-- for EVERY (len, segment size): under the kernel contract what `effective_segment_size` makes the
    kernel put on the wire is exactly the datagrams the transmit describes (`contents.chunks(s)`: full
    segments and a possibly shorter last one — never merged), their concatenation is the contents, and
    the receiver-side stride split of the (coalesced) received buffer is the inverse: it returns those
    datagrams again -/
theorem segmentation_decision_roundtrip {α : Type} (s : Nat) (hs : 0 < s) (contents : List α) (hc : contents ≠ []) :
    wireDatagrams contents (effectiveSegmentSize (some s) contents.length)
        = splitByStride s contents.length contents
    ∧ (wireDatagrams contents (effectiveSegmentSize (some s) contents.length)).flatten = contents
    ∧ splitByStride (recvStride (effectiveSegmentSize (some s) contents.length) contents.length)
        contents.length contents
        = wireDatagrams contents (effectiveSegmentSize (some s) contents.length) := by
  by_cases h : s ≥ contents.length
  · have he : effectiveSegmentSize (some s) contents.length = none := by
      simp [effectiveSegmentSize, h]
    rw [he]
    exact ⟨(splitByStride_single s contents hc h).symm, by simp [wireDatagrams], splitByStride_single _ contents hc (Nat.le_refl _)⟩
  · have he : effectiveSegmentSize (some s) contents.length = some s := by
      simp [effectiveSegmentSize, h]
    rw [he]
    exact ⟨rfl, (splitByStride_spec s hs contents.length contents hc (Nat.le_refl _)).1, rfl⟩

/-- Linux send path, any kernel behaviour: when `send` returns Ok every datagram the transmit describes
    was accepted by the kernel, in order, with its own boundaries (never silently dropped: the
    alternative is an error return, which `try_send` reports and `UdpSocketState::send` logs) -/
theorem send_ok_delivers_all (k : Kernel) (t : Tx) (hv : t.valid) (fuel : Nat) (st : SockSt) (calls : Nat)
    (h : (send k t fuel st calls).ret = none) : (send k t fuel st calls).wire = described t := by
  fun_induction send k t fuel st calls with
  | case2 _ st => exact wire_eq_described t st.einval hv    -- accepted
  | case3 _ _ _ _ _ ih => exact ih h                        -- EINTR: retried
  | case5 fuel st calls msg _ st1 s hs =>
    -- a batch refused, re-sent chunk by chunk: the chunks are what the kernel would have made of the batch
    have hw : wireOf msg = described t := wire_eq_described t st.einval hv
    simp only [wireOf, hs] at hw
    exact (sendChunks_wire k t.v4 fuel _ _ _ h).trans hw
  | case6 _ _ _ _ _ _ _ _ ih => exact ih h                  -- a plain message refused: retried without IP_TOS
  | _ => cases h

/-- "when an offload is unsupported the layer degrades to plain sends without losing, merging or
    truncating datagrams": on a kernel path that answers EIO|EINVAL to every UDP_SEGMENT message a batch is
    re-sent datagram by datagram — `send` returns Ok, exactly the described datagrams are on the wire,
    each still carries the ECN codepoint, `sendmsg_einval` is not entered, offload is halted -/
theorem gso_refused_degrades_to_plain_sends (k : Kernel) (hk : refusesGso k) (t : Tx) (hv : t.valid)
    (fuel : Nat) (st : SockSt) (calls : Nat) :
    (send k t (fuel + 2) st calls).ret = none
    ∧ (send k t (fuel + 2) st calls).wire = described t
    ∧ (send k t (fuel + 2) st calls).st.einval = st.einval
    ∧ (st.einval = false → (send k t (fuel + 2) st calls).ecnOk = true)
    ∧ ((effectiveSegmentSize t.seg t.len).isSome = true → (send k t (fuel + 2) st calls).st.maxGso ≤ 1) := by
  have hw := wire_eq_described t st.einval hv
  cases hs : (prepare t st.einval).segs with
  | none =>
    have h : send k t (fuel + 2) st calls =
        ⟨st, calls + 1, wireOf (prepare t st.einval), (prepare t st.einval).tos, none⟩ := by
      simp only [send, hk.2 _ calls hs]
    rw [h]
    exact ⟨rfl, hw, rfl, fun he => by simp [prepare, he], fun heff => by
      rw [show effectiveSegmentSize t.seg t.len = none from hs] at heff; cases heff⟩
  | some s =>
    have h : send k t (fuel + 2) st calls =
        sendChunks k t.v4 (fuel + 1) (haltGso st) (calls + 1) (chunkLens s t.len t.len) := by
      simp only [send, hk.1 _ calls (by rw [hs]; rfl), hs]
    obtain ⟨h1, h2, h3⟩ := sendChunks_refusesGso k hk t.v4 fuel (chunkLens s t.len t.len) (haltGso st) (calls + 1)
    simp only [wireOf, hs] at hw
    rw [h]
    exact ⟨h2, (sendChunks_wire k t.v4 _ _ _ _ h2).trans hw, by rw [h1, haltGso_einval],
      fun he => h3 (by rw [haltGso_einval]; exact he), fun _ => by rw [h1]; exact haltGso_maxGso st⟩

/-- the GSO fallback never disables ECN for later sends: unless the kernel answers EIO|EINVAL to a message
    WITHOUT UDP_SEGMENT, no `send` call enters the `sendmsg_einval` mode (IP_TOS omitted on IPv4) -/
theorem gso_fallback_keeps_ecn (k : Kernel) (hk : ∀ m n, m.segs = none → k m n ≠ .refused) (t : Tx)
    (fuel : Nat) (st : SockSt) (calls : Nat) : (send k t fuel st calls).st.einval = st.einval := by
  fun_induction send k t fuel st calls with
  | case3 _ _ _ _ _ ih => exact ih
  | case5 => rw [sendChunks_einval k hk, haltGso_einval]
  | case6 _ _ _ _ hx _ hs => exact absurd hx (hk _ _ hs)
  | case7 _ _ _ _ hx _ hs => exact absurd hx (hk _ _ hs)
  | _ => rfl

/-- the degradation clause as a statement about a send function; it holds for the repaired code ... -/
theorem send_degrades_statement : degrades_statement send := fun k t st hk hv =>
  have ⟨h1, h2, h3, _⟩ := gso_refused_degrades_to_plain_sends k hk t hv 6 st 0
  ⟨h1, h2, h3⟩

/-- ... and was FALSE for the code before the repair: the refused batch `oldSendWitness`
    (3 x 100 bytes, IPv4) was retried with UDP_SEGMENT still attached, dropped, and left the socket in the
    `sendmsg_einval` mode -/
theorem old_send_counterexample : ¬ degrades_statement sendOld := fun h => by
  have := (h gsoRefusingKernel oldSendWitness ⟨64, false⟩ gsoRefusingKernel_refusesGso
    ⟨by decide, by intro s hs; cases hs; decide⟩).1
  rw [oldSendWitness_run] at this
  cases this

/-- for every combination of options the control messages `prepare_msg` encodes fit the control buffer, so
    `Encoder::push` never hits its assertion (finite table, all combinations) -/
theorem cmsg_fits : ∀ o ∈ allOpts, controlLen o ≤ Gen.cmsgLen :=
  by decide

theorem allOpts_complete (o : SendOpts) : o ∈ allOpts := by
  rcases o with ⟨v, e, g, s⟩
  simp only [allOpts, List.mem_flatMap, List.mem_map, List.mem_cons, List.not_mem_nil, or_false]
  exact ⟨v, by cases v <;> simp, e, by cases e <;> simp, g, by cases g <;> simp, s, by rcases s with _ | _ | _ <;> simp, rfl⟩

/-- receive side: for every combination of the control messages the kernel attaches to a (possibly
    GRO-coalesced) received message under the socket options quinn-udp enables, they fit the control buffer,
    so nothing (ECN, destination address, stride) is lost to truncation -/
theorem recv_cmsg_fits : ∀ o ∈ allRecvOpts, recvControlLen o ≤ Gen.cmsgLen :=
  by decide

theorem allRecvOpts_complete (o : RecvOpts) : o ∈ allRecvOpts := by
  rcases o with ⟨v, g, t⟩
  simp only [allRecvOpts, List.mem_flatMap, List.mem_map, List.mem_cons, List.not_mem_nil, or_false]
  exact ⟨v, by cases v <;> simp, g, by cases g <;> simp, t, by cases t <;> simp, rfl⟩

example : splitByStride 3 8 [1,2,3,4,5,6,7,8] = [[1,2,3],[4,5,6],[7,8]] := by decide +kernel
example : WF 3 [[1,2,3],[4,5,6],[7,8]] := by simp [WF]
example : controlLen ⟨false, false, true, some false⟩ = 88 := by decide +kernel
example : effectiveSegmentSize (some 1200) 1201 = some 1200 ∧ effectiveSegmentSize (some 1200) 1200 = none := by decide +kernel
example : wireDatagrams [1,2,3,4,5] (effectiveSegmentSize (some 3) 5) = [[1,2,3],[4,5]] := by decide +kernel
example : (send gsoRefusingKernel ⟨true, some 100, 250⟩ 8 ⟨64, false⟩ 0) = ⟨⟨1, false⟩, 4, [100, 100, 50], true, none⟩ := by decide +kernel
example : refusesGso gsoRefusingKernel ∧ Tx.valid ⟨true, some 100, 250⟩ :=
  ⟨gsoRefusingKernel_refusesGso, by decide, by intro s hs; cases hs; decide⟩
example : sendOld gsoRefusingKernel oldSendWitness 8 ⟨64, false⟩ 0 = ⟨⟨1, true⟩, 2, [], true, some .refused⟩ := oldSendWitness_run
example : recvControlLen ⟨false, true, true⟩ = 120 ∧ recvControlLen ⟨true, true, true⟩ = 112 := by decide +kernel

end QM.Props.C19
