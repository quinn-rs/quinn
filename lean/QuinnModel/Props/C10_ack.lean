import QuinnModel.Lemmas.Ack
/-
C10 — Wire encodings round-trip and decoders are total: the ACK frame.
-/
namespace QM.Props.C10_ack
open QM QM.Ack

/-- ACK frames round-trip: for every non-empty list `ds` of inclusive packet-number ranges that is descending and
    disjoint with at least one missing number between neighbours (`Chain`; exactly what an `ArrayRangeSet` can
    hold and what `AckIter` yields), largest < 2^62, any delay and ECN counts < 2^62 and ANY trailing bytes:
    `Ack::encode` does not panic, and decoding its output returns the same largest, delay, ECN counts and — via
    `AckIter` — exactly `ds`, leaving the trailing bytes unread -/
theorem ack_roundtrip (lo hi : Nat) (t : List (Nat × Nat)) (hch : Chain ((lo, hi) :: t)) (hmax : hi < 2^62)
    (delay : Nat) (hd : delay < 2^62) (ecn : Option (Nat × Nat × Nat))
    (hecn : ∀ a b c, ecn = some (a, b, c) → a < 2^62 ∧ b < 2^62 ∧ c < 2^62) (tail : Bytes) :
    ∃ bytes f, Ack.encode delay (toRangeSet ((lo, hi) :: t)) ecn = some bytes ∧
      decodeAck (bytes ++ tail) = some (.ok (f, tail)) ∧
      f.largest = hi ∧ f.delay = delay ∧ f.ecn = ecn ∧ f.ranges = some ((lo, hi) :: t) := by
  obtain ⟨c1, c2, c3⟩ := hch
  obtain ⟨bytes, f, h1, h2, h3, h4, h5, h6⟩ := encode_decode delay (toRangeSet ((lo, hi) :: t)) ecn tail lo (hi + 1)
    (t.map (fun r => (r.1, r.2 + 1))) (by simp [toRangeSet]) (by omega) (by omega) (chain_canon t lo c3 c2) hd hecn
  refine ⟨bytes, f, h1, h2, h3, h4, h5, ?_⟩
  simp only [h6, List.map_map, Function.comp_def, Nat.add_sub_cancel, List.map_id']

/-- the same in the encoder's own terms: `ranges.iter().rev()` = `(s, e) :: rest`, half-open and canonical -/
theorem ack_roundtrip_rangeset (delay : Nat) (asc : List (Nat × Nat)) (ecn : Option (Nat × Nat × Nat)) (tail : Bytes)
    (s e : Nat) (rest : List (Nat × Nat)) (hrev : asc.reverse = (s, e) :: rest) (hse : s < e) (he : e ≤ 2^62)
    (hc : CanonDesc s rest) (hd : delay < 2^62)
    (hecn : ∀ a b c, ecn = some (a, b, c) → a < 2^62 ∧ b < 2^62 ∧ c < 2^62) :
    ∃ bytes f, Ack.encode delay asc ecn = some bytes ∧ decodeAck (bytes ++ tail) = some (.ok (f, tail)) ∧
      f.largest = e - 1 ∧ f.delay = delay ∧ f.ecn = ecn ∧
      f.ranges = some ((s, e - 1) :: rest.map (fun r => (r.1, r.2 - 1))) :=
  encode_decode delay asc ecn tail s e rest hrev hse he hc hd hecn

/-- the ACK scan never reads past its buffer and needs at least `2n + 1` bytes for `n` additional ranges -/
theorem ack_scan_within_buffer (buf : Bytes) (largest n k : Nat) (h : scanAckBlocks buf largest n = .ok k) :
    k ≤ buf.length ∧ 2 * n + 1 ≤ k :=
  (scanAckBlocks_spec buf largest n k h).imp_right And.left

-- non-vacuity: packets {1,2,3,5,10,11,14} as in the crate's `ack_coding` test
example : Chain [(14, 14), (10, 11), (5, 5), (1, 3)] := by simp [Chain]
example : Ack.encode 42 (toRangeSet [(14, 14), (10, 11), (5, 5), (1, 3)]) none =
    some [2, 14, 42, 3, 0, 1, 1, 3, 0, 0, 2] := by decide
example : (decodeAck ([2, 14, 42, 3, 0, 1, 1, 3, 0, 0, 2] ++ [0xaa])).map (fun r => r.map (fun p => (p.1.ranges, p.2))) =
    some (.ok (some [(14, 14), (10, 11), (5, 5), (1, 3)], [0xaa])) := rfl

end QM.Props.C10_ack
