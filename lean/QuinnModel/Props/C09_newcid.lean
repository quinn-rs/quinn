import QuinnModel.Conn.NewCidSend
/-
C09 — "This holds across connection-ID issuance, rotation and retirement": rotation must not end the connection.
RFC 9000 19.15: "The value in the Retire Prior To field MUST be less than or equal to the value in the Sequence
Number field. Receiving a value in the Retire Prior To field that is greater than that in the Sequence Number field
MUST be treated as a connection error of type FRAME_ENCODING_ERROR."  A quinn peer does exactly that
(frame.rs `Iter`: `retire_prior_to > sequence` is `Malformed`), so one such frame closes the connection.

`NewCidSend.run` is the transmit side (issuance, lifetime expiry moving `retire_seq`, the NEW_CONNECTION_ID loop of
`populate_packet`, loss and retransmission); the value written into the field is the generated
`Gen.newCidRetirePriorTo` (re-translated from connection/mod.rs on every check).  The theorems quantify over ALL
histories.  Found by the simulator scenario `multi` (`routing-sent-undecodable-frame`, `isolation-lost`).
-/
namespace QM.Props.C09_newcid
open QM QM.NewCidSend

/-- Every NEW_CONNECTION_ID frame ever emitted, first transmission or retransmission, whatever the CID lifetimes
    did in between, has Retire Prior To ≤ Sequence Number. -/
theorem retire_prior_to_le_sequence (issued : Nat) (ops : List Op) :
    ∀ f ∈ (run (init issued) ops).frames, f.2 ≤ f.1 := by
  suffices h : ∀ (ops : List Op) (s : St), (∀ f ∈ s.frames, f.2 ≤ f.1) → ∀ f ∈ (run s ops).frames, f.2 ≤ f.1 from
    h ops (init issued) (by intro f hf; cases hf)
  intro ops
  induction ops with
  | nil => intro s hs; exact hs
  | cons o os ih =>
    intro s hs
    apply ih
    fun_cases step s o
    case case5 q rest hp =>
      intro f hf
      rcases List.mem_append.mp hf with h | h
      · exact hs f h
      · cases List.mem_singleton.mp h; exact Nat.min_le_right _ _
    all_goals exact hs

/-- ... and it never asks for less retirement than the connection decided, unless the CID announced is itself
    due for retirement: the field is `retire_seq` whenever that is legal. -/
theorem retire_prior_to_is_threshold_when_legal (r q : Nat) (h : r ≤ q) : Gen.newCidRetirePriorTo r q = r :=
  Nat.min_eq_left h

/-- The statement for the code as it was (`retire_prior_to: self.local_cid_state.retire_prior_to()`). -/
def old_statement : Prop :=
  ∀ (issued : Nat) (ops : List Op), ∀ f ∈ (runOld (init issued) ops).frames, f.2 ≤ f.1

/-- Two CIDs are issued and sent, their lifetime ends (`retire_seq` = 3), the packet that carried sequence 1 is
    lost and the frame goes out again: (Sequence Number 1, Retire Prior To 3). -/
def old_witness : List Op := [.issue 2, .send, .send, .expire 3, .lost 0, .send]

theorem old_counterexample : ¬ old_statement := by
  intro h
  have := h 1 old_witness (1, 3) (by decide)
  exact absurd this (by decide)

/-- non-vacuity: a history with rotation, loss and retransmission in which four frames were emitted -/
example : (run (init 1) [.issue 2, .send, .send, .expire 3, .lost 0, .send, .issue 1, .send]).frames
    = [(1, 0), (2, 0), (1, 1), (3, 3)] := by decide

end QM.Props.C09_newcid
