import QuinnModel.Lemmas.CidEcho
/-
C14 (second half) — "a client ... completes the handshake only if the server's transport parameters echo the
connection IDs actually used"; quantifier "all single-field corruptions ... of the CID-echo transport
parameters".

`accept side c tp` is `Connection::handle_peer_params` returning `Ok` (its guard is the generated
`Gen.cidEchoReject`, re-translated from connection/mod.rs on every check); `c : Cids` are the three CIDs the
connection recorded, `tp : EchoTP` the three parameters received.  `Client` / `Client.step` is the client's CID
bookkeeping (`Connection::new`, Retry / Initial / Handshake arms of `process_decrypted_packet`; the Retry
discard test is the generated `Gen.retryDiscarded`); `honestEcho` is what `Endpoint::accept` puts into the
parameters.  All statements quantify over ALL connection IDs (arbitrary byte lists) and ALL event histories.
-/
namespace QM.Props.C14_echo
open QM QM.CidEcho

/-- Acceptance ⇔ `initial_source_connection_id` is the SCID recorded for the peer and — on a client —
    `original_destination_connection_id` is the DCID of the first Initial and `retry_source_connection_id`
    is exactly the recorded Retry SCID (both absent, or equal). -/
theorem echo_accept_iff (side : Side) (c : Cids) (tp : EchoTP) :
    accept side c tp = true ↔
      tp.initialSrc = some c.origRem ∧
      (side = .client → tp.originalDst = some c.initialDst ∧ tp.retrySrc = c.retrySrc) :=
  accept_iff side c tp

/-- The property's quantifier: starting from accepted parameters, changing any ONE parameter that this side
    authenticates to any different value — another CID, dropping it, adding it — is rejected. -/
theorem single_field_corruption_rejected (side : Side) (c : Cids) (tp : EchoTP) (f : Field) (v : Option Cid)
    (h : accept side c tp = true) (hc : checkedBy side f = true) (hv : v ≠ tp.get f) :
    accept side c (tp.set f v) = false := by
  apply accept_false_of
  intro h'
  have a := (accept_iff side c tp).mp h
  cases f <;> cases side <;> simp_all [EchoTP.set, EchoTP.get, checkedBy]

/-- ... and the same for the other half of the comparison: had the connection recorded a different CID in
    any one of the places it compares (the peer's first SCID on both sides; first DCID and Retry SCID on a
    client), the same parameters are rejected. -/
theorem single_recorded_cid_corruption_rejected (side : Side) (c : Cids) (tp : EchoTP)
    (h : accept side c tp = true) :
    (∀ v, v ≠ c.origRem → accept side { c with origRem := v } tp = false) ∧
    (side = .client → (∀ v, v ≠ c.initialDst → accept side { c with initialDst := v } tp = false) ∧
                       (∀ v, v ≠ c.retrySrc → accept side { c with retrySrc := v } tp = false)) := by
  -- the parameter cannot equal both the recorded CID and the different one
  have a := (accept_iff side c tp).mp h
  refine ⟨fun v hv => accept_false_of _ _ _ fun h' => hv (Option.some.inj (h'.1.symm.trans a.1)), ?_⟩
  rintro rfl
  have b := a.2 rfl
  exact ⟨fun v hv => accept_false_of _ _ _ fun h' => hv (Option.some.inj ((h'.2 rfl).1.symm.trans b.1)),
         fun v hv => accept_false_of _ _ _ fun h' => hv ((h'.2 rfl).2.symm.trans b.2)⟩

/-- Every honest exchange is accepted at both ends: whatever the first DCID, the client's SCID, the server's
    SCID, with or without a Retry (any Retry SCID, any non-empty token), and whatever reaches the client after
    the server's first Initial (genuine packets, injected Initials/Handshake packets with any SCID, late or
    forged Retries): the client accepts the honest server's parameters and the server the client's. -/
theorem honest_exchange_accepted (x : Exchange) :
    accept .client ((Client.connect x.d0).run x.clientEvents).cids (honestEcho x.serverView) = true ∧
    accept .server (serverCids x.serverView) (clientTP x.c) = true :=
  ⟨honest_client_accepts x, (server_accept_iff _ _).mpr rfl⟩

/-- A client follows a Retry iff no server packet was authenticated before, the integrity tag verifies and the
    token is not empty; a Retry that is not followed changes nothing. -/
theorem retry_followed_iff (s : Client) (scid : Cid) (v : Bool) (n : Nat) :
    (s.followsRetry v n = true ↔ s.authed = 0 ∧ v = true ∧ 0 < n) ∧
    (s.followsRetry v n = false → s.step (.retry scid v n) = s) :=
  ⟨followsRetry_iff s v n, step_retry_discarded s scid v n⟩

/-- Forged Retry (the integrity tag needs no secret): if the client followed a Retry with SCID `r'`, then —
    whatever arrives afterwards — every set of parameters whose `retry_source_connection_id` is not exactly
    `r'` is rejected; in particular those of a server that sent no Retry (`none`) or another one.
    Symmetrically: if the client followed no Retry (none with a valid tag and a token ever arrived), parameters
    announcing a Retry are rejected. -/
theorem forged_retry_detected :
    (∀ (s : Client) (r' : Cid) (n : Nat) (evs : List Event) (tp : EchoTP), s.authed = 0 → tp.retrySrc ≠ some r' →
        accept .client ((s.step (.retry r' true (n + 1))).run evs).cids tp = false) ∧
    (∀ (d0 : Cid) (evs : List Event) (tp : EchoTP) (r : Cid),
        (∀ scid n, Event.retry scid true (n + 1) ∉ evs) → tp.retrySrc = some r →
        accept .client ((Client.connect d0).run evs).cids tp = false) :=
  ⟨fun s r' n evs tp h0 h => accept_false_of _ _ _ fun h' => h <| by
    rw [step_retry_followed s r' n h0] at h'
    exact (h'.2 rfl).2.trans (run_fixed _ evs Nat.one_pos).retrySrc,
   fun d0 evs tp r hno h => accept_false_of _ _ _ fun h' =>
    nomatch h.symm.trans ((h'.2 rfl).2.trans (run_no_retry (Client.connect d0) evs rfl hno))⟩

/-- What a server checks and what it does not (exactly as the code): a server accepts iff
    `initial_source_connection_id` equals the SCID of the client's first packet; the other two parameters and
    its own `initial_dst_cid` / `retry_src_cid` do not influence the decision.  (A client must not send them
    at all: `TransportParameters::read` rejects them on a server while decoding — shape anchor
    `Gen.tpServerOnlyShape`, component `tparams`.) -/
theorem server_ignores_client_only_fields (c : Cids) (tp : EchoTP) :
    (accept .server c tp = true ↔ tp.initialSrc = some c.origRem) ∧
    (∀ f v, checkedBy .server f = false → accept .server c (tp.set f v) = accept .server c tp) ∧
    (∀ d r, accept .server { c with initialDst := d, retrySrc := r } tp = accept .server c tp) :=
  ⟨server_accept_iff c tp, fun f v hf => by
    rw [Bool.eq_iff_iff, server_accept_iff, server_accept_iff]
    cases f
    · exact absurd hf Bool.noConfusion
    · rfl
    · rfl,
   fun d r => by rw [Bool.eq_iff_iff, server_accept_iff, server_accept_iff]⟩

/-- "echo the connection IDs actually used", over histories: after ANY sequence of events, accepted parameters
    name the DCID of the client's first Initial, the SCID of the Retry the client followed (or none), and the
    SCID recorded from the server's first Initial — which, once recorded, is the DCID of everything the client
    sends and the only SCID it accepts Initial/Handshake packets from. -/
theorem accepted_echo_names_used_cids (d0 : Cid) (evs : List Event) (tp : EchoTP)
    (h : accept .client ((Client.connect d0).run evs).cids tp = true) :
    tp.originalDst = some d0 ∧ tp.retrySrc = ((Client.connect d0).run evs).retrySrc ∧
    tp.initialSrc = some ((Client.connect d0).run evs).origRem ∧
    (((Client.connect d0).run evs).remCidSet = true →
      ((Client.connect d0).run evs).origRem = ((Client.connect d0).run evs).active ∧
      ((Client.connect d0).run evs).remHandshake = ((Client.connect d0).run evs).active) := by
  have inv := inv_run _ evs (inv_connect d0)
  have a := (client_accept_iff _ _).mp h
  exact ⟨a.2.1.trans (congrArg some (run_initialDst _ evs)), a.2.2, a.1, fun hs => ⟨inv.set hs, inv.hs⟩⟩

/-- After the server's first Initial nothing that arrives changes the recorded CIDs; packets with another SCID
    are discarded unprocessed. -/
theorem cids_fixed_after_first_server_initial (s : Client) (evs : List Event)
    (hs : s.remCidSet = true) (ha : 0 < s.authed) :
    (s.run evs).cids = s.cids ∧ (s.run evs).active = s.active ∧
    (∀ scid, scid ≠ s.remHandshake →
      (s.step (.serverInitial scid)).processed = s.processed ∧ (s.step (.laterServerPacket scid)).processed = s.processed) :=
  ⟨(run_fixed s evs ha).cids hs, (run_fixed s evs ha).active hs, fun scid hne => by simp [Client.step, hs, hne]⟩

-- non-vacuity: accepted, with and without Retry, 20-byte / empty CIDs; each single-field corruption rejected
example : accept .client ⟨[1, 2], List.replicate 20 255, none⟩ ⟨some [1, 2], some (List.replicate 20 255), none⟩ = true := by decide
example : accept .client ⟨[], [9], some [7]⟩ ⟨some [], some [9], some [7]⟩ = true := by decide
example : accept .client ⟨[], [9], some [7]⟩ ⟨some [], some [9], none⟩ = false := by decide
example : accept .client ⟨[], [9], none⟩ ⟨some [], some [9], some []⟩ = false := by decide
example : accept .client ⟨[1], [9], none⟩ ⟨some [1], none, none⟩ = false := by decide
example : accept .client ⟨[1], [9], none⟩ ⟨some [1, 0], some [9], none⟩ = false := by decide
example : accept .server ⟨[1], [9], none⟩ ⟨some [1], none, none⟩ = true := by decide
example : accept .server ⟨[1], [9], none⟩ ⟨some [1], some [3], some [4]⟩ = true := by decide
example : accept .server ⟨[1], [9], none⟩ ⟨none, none, none⟩ = false := by decide
example : checkedBy .client .retrySrc = true ∧ checkedBy .server .retrySrc = false := by decide

/-- an honest exchange with Retry, followed by hostile traffic -/
def sampleExchange : Exchange :=
  { d0 := [1, 2, 3, 4, 5, 6, 7, 8], c := [0xc], retry := some ([0xaa, 0xbb], 4), s := [0x51],
    post := [.retry [0xee] true 9, .serverInitial [0x66], .laterServerPacket [0x51], .laterServerPacket [0x67], .unauthenticated] }

example : ((Client.connect sampleExchange.d0).run sampleExchange.clientEvents) =
    { initialDst := [1, 2, 3, 4, 5, 6, 7, 8], origRem := [0x51], remHandshake := [0x51], retrySrc := some [0xaa, 0xbb],
      active := [0x51], remCidSet := true, authed := 5, processed := 2 } := by decide
example : honestEcho sampleExchange.serverView = ⟨some [0x51], some [1, 2, 3, 4, 5, 6, 7, 8], some [0xaa, 0xbb]⟩ := by decide
example : sampleExchange.serverView.dcid = [0xaa, 0xbb] := by decide

-- a forged Retry followed by the client; the honest server (which sent none) echoes `none`: rejected
example : accept .client (((Client.connect [1]).step (.retry [0xee] true 3)).run [.serverInitial [5]]).cids
    (honestEcho { dcid := [0xee], clientScid := [0xc], retryToken := none, locCid := [5] }) = false := by decide
-- the Retry test: tag, token, earlier server packet
example : (Client.connect [1]).followsRetry true 1 = true ∧ (Client.connect [1]).followsRetry false 1 = false ∧
    (Client.connect [1]).followsRetry true 0 = false ∧
    ((Client.connect [1]).step (.laterServerPacket [2])).followsRetry true 1 = false := by decide

end QM.Props.C14_echo
