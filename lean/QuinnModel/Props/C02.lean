import QuinnModel.Lemmas.LossTimer
import QuinnModel.Conn.Lifecycle
import QuinnModel.Conn.Amplification
import QuinnModel.Lemmas.StreamsProgress
import QuinnModel.Lemmas.StreamsReadable
import QuinnModel.Lemmas.StreamsAnnounce
/-
C02 — Connections make progress: no deadlock under fair loss.   (PARTIAL)
Liveness under probabilistic fairness is not an inductive invariant.  Proved here: the deadlock-freedom facts
of the modelled mechanisms — loss-detection timer arming incl. the anti-deadlock rule, loss probes exempt from
congestion control and pacing (the closing packet: Props/C08.lean), the anti-amplification gate reopening with every
received datagram — and, for EVERY state of the `StreamsState` model (hence after every history): a queued event
reaches an application that polls until nothing is reported; a refused opener / writer / waiting reader is told when
the peer makes room; a slot that an application call gives back to the peer is queued for MAX_STREAMS by that very
call — not at the end of the next incoming packet, which a peer parked on the limit never sends.
The credit-return and event theorems of the stream layer are in Props/C06.lean / C11.lean.
Not proved: that the whole connection eventually completes — that is checked on real endpoints by the simulator
(completion of event-driven workloads under every seeded fair-loss schedule, `unarmed-timer` oracle at every
quiescent point, 0-RTT / Retry / key-update / migration schedules).
-/
namespace QM.Props.C02
open QM

/-- no unarmed timer: open connection, not anti-amplification blocked, ack-eliciting data in flight in a space the
    PTO may cover (Initial, Handshake, or Data once the handshake is complete) ⇒ the loss-detection timer is set -/
theorem timer_armed (s : LossTimer.S) (now : Nat) (old : Option Nat) (hc : s.closed = false) (ha : s.ampBlocked = false)
    (hae : 0 < s.inFlightAckEliciting) (h : LossTimer.covered s) : (LossTimer.setTimer s now old).isSome = true := by
  unfold LossTimer.setTimer
  simp only [hc, Bool.false_eq_true, if_false, ha]
  cases LossTimer.lossTime s with
  | some t => rfl
  | none =>
    have : ¬ (s.inFlightAckEliciting = 0 ∧ s.peerCompleted = true) := by omega
    simp only [this, if_false]
    exact LossTimer.ptoTime_isSome_of_covered s now h

/-- handshake anti-deadlock: a client whose server may still be blocked by the anti-amplification limit keeps the
    timer armed although nothing is in flight -/
theorem timer_armed_anti_deadlock (s : LossTimer.S) (now : Nat) (old : Option Nat) (hc : s.closed = false)
    (ha : s.ampBlocked = false) (h0 : s.inFlightAckEliciting = 0) (hp : s.peerCompleted = false) :
    (LossTimer.setTimer s now old).isSome = true := by
  unfold LossTimer.setTimer
  simp only [hc, Bool.false_eq_true, if_false, ha]
  cases LossTimer.lossTime s with
  | some t => rfl
  | none => simp [h0, hp, LossTimer.ptoTime]

/-- the only way the timer is cleared with ack-eliciting data in flight on an open, unblocked connection: all of
    it is Data-space (0-RTT) data while still handshaking — which is why the timer must be recomputed when the
    connection becomes Established (fixed defect, see known_findings.txt) -/
theorem timer_cleared_only_if_uncovered (s : LossTimer.S) (now : Nat) (old : Option Nat) (hc : s.closed = false)
    (ha : s.ampBlocked = false) (hae : 0 < s.inFlightAckEliciting) (hn : LossTimer.setTimer s now old = none) :
    ¬ LossTimer.covered s := fun hcov => by
  have := timer_armed s now old hc ha hae hcov
  rw [hn] at this
  cases this

/-- loss probes are never held back by congestion control or pacing (a PTO always gets its packets out) -/
theorem probe_not_cc_blocked (close queued : Bool) (lossProbes : Nat) (hp : 0 < lossProbes) (cc pacing : Bool) :
    Life.sendsDatagram close queued lossProbes false cc pacing = true := by
  have : (lossProbes == 0) = false := by simp; omega
  simp [Life.sendsDatagram, this]

/-- every datagram received from an unvalidated peer re-opens the anti-amplification gate for at least one more
    datagram: after `recv n` with n > 0 the gate for the first datagram of the next call is open whenever it was
    open or exactly exhausted before -/
theorem amp_unblocks_on_receive (p : Amp.Path) (n seg : Nat) (hn : 0 < n) (hv : p.validated = false)
    (hb : p.sent ≤ 3 * p.recvd) :
    Gen.antiAmpBlocked (Amp.step p (.recv n)).validated (Amp.step p (.recv n)).sent (Amp.step p (.recv n)).recvd
      (Gen.antiAmpGateArg seg 0) = false := by
  simp [Amp.step, Gen.antiAmpBlocked, Gen.antiAmpGateArg, hv]
  omega

/-- probes sent into a space whose keys the peer has dropped are never acknowledged; their backoff does not carry over:
    after `discard_space` the PTO backoff factor of the remaining spaces is 1, whatever it had grown to -/
theorem discard_space_restarts_backoff (s : LossTimer.S) (clear : LossTimer.S → LossTimer.S) :
    LossTimer.backoff (LossTimer.discardSpace s clear) = 1 := by
  simp [LossTimer.discardSpace, LossTimer.backoff]

open Streams in
/-- no lost application event: whatever else is pending, an application that calls `poll` until it reports nothing
    (`drain`; `fuel` only bounds the number of calls) is handed every event that was queued -/
theorem queued_event_delivered (s : State) (e : Event) (fuel : Nat) (he : e ∈ s.events) (hf : pollMeasure s ≤ fuel)
    (es : List Event) (s' : State) (hd : drain fuel s = some (es, s')) : e ∈ es :=
  Streams.queued_event_delivered fuel s e he hf es s' hd

open Streams in
/-- withheld stream-count update / lost `Available`: an opener that is refused now (`next >= max`) and a MAX_STREAMS
    that makes room: no error, `open` is no longer refused, and the application polling until nothing is reported is
    handed `Available` for that direction -/
theorem available_after_max_streams (s : State) (dir : Dir) (count fuel : Nat)
    (hblocked : Gen.openExhausted (s.next.get dir) (s.max.get dir) = true) (hroom : s.next.get dir < count)
    (hrep : Gen.maxStreamsUnrepresentable count = false)
    (hf : pollMeasure (s.receivedMaxStreams dir count).1 ≤ fuel) :
    (s.receivedMaxStreams dir count).2 = none ∧
    Gen.openExhausted ((s.receivedMaxStreams dir count).1.next.get dir) ((s.receivedMaxStreams dir count).1.max.get dir) = false ∧
    ∀ es s', drain fuel (s.receivedMaxStreams dir count).1 = some (es, s') → Event.available dir ∈ es := by
  obtain ⟨h1, h2, h3⟩ := receivedMaxStreams_available s dir count hblocked hroom hrep
  exact ⟨h1, h3, fun es s' hd => Streams.queued_event_delivered fuel _ _ h2 hf es s' hd⟩

open Streams in
/-- lost `Writable`, stream-level credit: a locally opened stream whose writer is refused for want of stream credit
    (`offset = max_data`, still writable) and a MAX_STREAM_DATA above the limit: with connection-level budget
    (`write_limit > 0`) the polling application is handed `Writable`; without it the stream is put on the blocked
    list with the new limit (`writable_after_connection_credit` then applies as soon as there is budget) -/
theorem writable_after_credit (s : State) (id offset wl fuel : Nat) (x : Send)
    (hx : s.send.find? id = some (some x)) (hready : x.state = .ready) (hblocked : x.pending.offset = x.maxData)
    (hraise : x.maxData < offset) (hlocal : sidInitiator id = s.side) (hwl : s.writeLimit = some wl)
    (hinv : x.connectionBlocked = true → id ∈ s.connectionBlocked) :
    ∃ s', s.receivedMaxStreamData id offset = some (s', none) ∧
      (0 < wl → pollMeasure s' ≤ fuel → ∀ es s'', drain fuel s' = some (es, s'') → Event.writable id ∈ es) ∧
      (wl = 0 → id ∈ s'.connectionBlocked ∧ ∃ x', s'.send.find? id = some (some x') ∧ x'.isWritable = true ∧
        x'.pending.offset < x'.maxData) := by
  obtain ⟨s', h1, h2, h3⟩ := receivedMaxStreamData_unblocks s id offset wl x hx hready hblocked hraise hlocal hwl hinv
  refine ⟨s', h1, fun hp hf es s'' hd => Streams.queued_event_delivered fuel _ _ (h2 hp) hf es s'' hd, fun h0 => ?_⟩
  obtain ⟨hm, x', hx', _, hmd, hoff, hst⟩ := h3 h0
  exact ⟨hm, x', hx', by simp [Send.isWritable, hst, hready], by omega⟩

open Streams in
/-- lost `Writable`, connection-level credit (MAX_DATA, acknowledgements releasing the send window, a larger send
    window): once `write_limit > 0`, the polling application is handed `Writable` for every stream on the blocked list
    that can take data (still writable, stream credit left) -/
theorem writable_after_connection_credit (s : State) (id wl fuel : Nat) (x : Send)
    (hmem : id ∈ s.connectionBlocked) (hx : s.send.find? id = some (some x)) (hw : x.isWritable = true)
    (hc : x.pending.offset < x.maxData) (hwl : s.writeLimit = some wl) (hpos : 0 < wl) (hf : pollMeasure s ≤ fuel)
    (es : List Event) (s' : State) (hd : drain fuel s = some (es, s')) : Event.writable id ∈ es :=
  drain_reports (P := fun s => id ∈ s.connectionBlocked ∧ s.send.find? id = some (some x) ∧ s.writeLimit = some wl)
    (fun s s' r ⟨h1, h2, h3⟩ hp => poll_reports_or_keeps s s' r id x wl h1 h2 hw hc h3 hpos hp)
    (fun s ⟨h1, _, _⟩ => by have := List.length_pos_of_mem h1; unfold pollMeasure; omega) fuel s ⟨hmem, hx, hwl⟩ hf
    es s' hd

open Streams in
/-- lost `Readable`: a reader that was told `Blocked` holds a receiving half that is still receiving and that it has
    not stopped (`hg`, `hrecv`, `hst`; `read` answers `Blocked` in no other state).  EVERY STREAM frame that is accepted
    on such a half — new contiguous data, a FIN, or anything else — tells the application: if it already holds the
    stream (locally initiated, or below `next_remote`, i.e. reported by `Opened` before) `Readable id` is queued and
    the application polling until nothing is reported is handed it; otherwise the `Opened` flag of the direction is
    raised and the stream lies below `next_remote` (the next `poll` reports `Opened`, `accept` hands the stream out) -/
theorem readable_after_data (s s' s1 : State) (id off len fuel : Nat) (fin t : Bool) (rs : Recv)
    (h : s.received id off len fin = some (s', .ok t))
    (hg : s.getOrInsertRecv id = some (rs, s1)) (hrecv : rs.isReceiving = true) (hst : rs.stopped = false) :
    ((sidInitiator id = s.side ∨ sidIndex id < s.nextRemote.get (sidDir id)) →
      Event.readable id ∈ s'.events ∧
      (pollMeasure s' ≤ fuel → ∀ es s'', drain fuel s' = some (es, s'') → Event.readable id ∈ es)) ∧
    (¬ (sidInitiator id = s.side ∨ sidIndex id < s.nextRemote.get (sidDir id)) →
      s'.opened.get (sidDir id) = true ∧ sidIndex id < s'.nextRemote.get (sidDir id)) :=
  (received_notifies h hg hrecv hst).delivered fuel

open Streams in
/-- the same for a RESET_STREAM that takes effect (`hr`: not a duplicate, no error) on a half the application has
    not stopped -/
theorem readable_after_reset (s s' s1 : State) (id code fo fuel : Nat) (t : Bool) (rs rs' : Recv)
    (h : s.receivedReset id code fo = some (s', .ok t))
    (hg : s.getOrInsertRecv id = some (rs, s1))
    (hr : rs.reset code fo s1.dataRecvd s1.localMaxData = some (.ok (true, rs'))) (hst : rs.stopped = false) :
    ((sidInitiator id = s.side ∨ sidIndex id < s.nextRemote.get (sidDir id)) →
      Event.readable id ∈ s'.events ∧
      (pollMeasure s' ≤ fuel → ∀ es s'', drain fuel s' = some (es, s'') → Event.readable id ∈ es)) ∧
    (¬ (sidInitiator id = s.side ∨ sidIndex id < s.nextRemote.get (sidDir id)) →
      s'.opened.get (sidDir id) = true ∧ sidIndex id < s'.nextRemote.get (sidDir id)) :=
  (receivedReset_notifies h hg hr hst).delivered fuel

open Streams in
/-- no withheld stream-count update (`RecvStream::stop`, hence also a dropped `RecvStream` handle): in ANY state, a
    `stop` that raises the peer's stream limit in direction `d` (`hfreed`: it freed a stream of the peer whose final
    size was known — RESET_STREAM or FIN received, data unread) leaves MAX_STREAMS queued for `d` whenever the part of
    the limit the peer has not been told about is one the endpoint announces at all (`Gen.maxStreamsSignificant`, the
    threshold of `queue_max_stream_id` read from the source).  Before the repair the frame was queued only at the end
    of the next incoming packet: a peer parked in `open_uni()` / `open_bi()` on the limit stayed parked
    (finding `c18-stream-credit-announced-only-after-next-packet`). -/
theorem stop_announces_freed_slot (s s' : State) (id code : Nat) (b : Bool) (d : Dir)
    (h : s.stop id code = some (s', b)) (hfreed : s.maxRemote.get d < s'.maxRemote.get d)
    (hsig : Gen.maxStreamsSignificant (s'.maxRemote.get d - s'.sentMaxRemote.get d)
      (s'.maxConcurrentRemoteCount.get d) = true) :
    s'.rtx.maxStreamId.get d = true :=
  stop_announces d h hfreed hsig

open Streams in
/-- the same for a read that gives the slot back (it delivered the end of the stream or the reset) -/
theorem read_announces_freed_slot (s s' : State) (id budget : Nat) (r : ReadRes) (d : Dir)
    (h : s.read id budget = some (s', r)) (hfreed : s.maxRemote.get d < s'.maxRemote.get d)
    (hsig : Gen.maxStreamsSignificant (s'.maxRemote.get d - s'.sentMaxRemote.get d)
      (s'.maxConcurrentRemoteCount.get d) = true) :
    s'.rtx.maxStreamId.get d = true :=
  read_announces d h hfreed hsig

open Streams in
/-- the same for `RecvStream::received_reset` that reports the reset code and drops the stream -/
theorem received_reset_announces_freed_slot (s s' : State) (id : Nat) (r : Option (Option Nat)) (d : Dir)
    (h : s.recvReceivedReset id = some (s', r)) (hfreed : s.maxRemote.get d < s'.maxRemote.get d)
    (hsig : Gen.maxStreamsSignificant (s'.maxRemote.get d - s'.sentMaxRemote.get d)
      (s'.maxConcurrentRemoteCount.get d) = true) :
    s'.rtx.maxStreamId.get d = true :=
  recvReceivedReset_announces d h hfreed hsig

example : LossTimer.covered ⟨false, false, false, 3, true, 0, 100, 25, false, ⟨false, none, none⟩, ⟨false, none, none⟩, ⟨true, some 7, none⟩⟩ := by
  simp [LossTimer.covered]
example : LossTimer.setTimer ⟨false, true, false, 3, false, 0, 100, 25, false, ⟨false, none, none⟩, ⟨false, none, none⟩, ⟨true, some 7, none⟩⟩ 50 none = none := by
  decide

-- a refused opener / writer, then the frame that makes room, then polling
open Streams in
example : (drain 3 (State.initial.receivedMaxStreams .bi 2).1).map (·.1) = some [Event.available .bi] := by decide
open Streams in
example : Gen.openExhausted (State.initial.next.get .bi) (State.initial.max.get .bi) = true := by decide
/-- stream 0 of a client, 5 bytes written = its limit 5, connection budget 100 -/
def blockedWriter : Streams.State :=
  { Streams.State.initial with send := [(0, some { maxData := 5, pending := { offset := 5 } })], next := ⟨1, 0⟩, max := ⟨1, 0⟩, maxData := 100, dataSent := 5, sendWindow := 1000, unackedData := 5 }
open Streams in
example : ((blockedWriter.receivedMaxStreamData 0 9).bind fun r => (drain 3 r.1).map (·.1)) = some [Event.writable 0] := by decide
/-- the same stream, listed as blocked on connection-level credit, after MAX_DATA raised the budget -/
def listedWriter : Streams.State :=
  { Streams.State.initial with send := [(0, some { maxData := 50, pending := { offset := 5 }, connectionBlocked := true })], next := ⟨1, 0⟩, max := ⟨1, 0⟩, connectionBlocked := [0], maxData := 5, dataSent := 5, sendWindow := 1000, unackedData := 5 }
open Streams in
example : (drain 3 (listedWriter.receivedMaxData 40)).map (·.1) = some [Event.writable 0] := by decide
open Streams in
example : (drain 3 listedWriter).map (·.1) = some [] := by decide
/-- run operations, keeping the state only -/
def _root_.QM.Streams.runSteps (s : Streams.State) : List Streams.Op → Option Streams.State
  | [] => some s
  | o :: os => (Streams.step s o).bind fun r => runSteps r.1 os
/-- a server whose reader of the client's stream 0 was told Blocked after 5 bytes (stream accepted, 5 bytes read) -/
def blockedReader : Option Streams.State :=
  Streams.runSteps Streams.State.initial [.new ⟨.server, 2, 2, 1000, 1000, 1000⟩, .params ⟨100, 100, 100, 4, 4, 1000⟩,
    .stream 0 0 5 false, .poll, .accept .bi, .read 0 100, .poll]
open Streams in
example : (blockedReader.bind fun s => (s.read 0 100).map (·.2)) = some (.ok 0 .blocked false) := by decide
open Streams in
example : (blockedReader.bind fun s => (s.received 0 5 3 false).bind fun r => (drain 3 r.1).map (·.1)) =
    some [Event.readable 0] := by decide
open Streams in
example : (blockedReader.bind fun s => (s.receivedReset 0 7 5).bind fun r => (drain 3 r.1).map (·.1)) =
    some [Event.readable 0] := by decide

/-- a server that permits the client 2 unidirectional streams; the client's stream 2 was reset (RESET_STREAM arrived,
    nothing read) and its stream 6 carried 5 bytes and a FIN (unread) -/
def knownFinal : Option Streams.State :=
  Streams.runSteps Streams.State.initial [.new ⟨.server, 2, 1, 1000, 1000, 1000⟩, .params ⟨100, 100, 100, 2, 2, 1000⟩,
    .rst 2 7 0, .stream 6 0 5 true]
-- `stop` after the reset / after the FIN: the limit goes from 2 to 3, the raise is significant, MAX_STREAMS is queued
open Streams in
example : (knownFinal.bind fun s => (s.stop 2 7).map fun r =>
    (s.maxRemote.get .uni, r.1.maxRemote.get .uni, r.1.sentMaxRemote.get .uni,
      Gen.maxStreamsSignificant (r.1.maxRemote.get .uni - r.1.sentMaxRemote.get .uni) (r.1.maxConcurrentRemoteCount.get .uni),
      r.1.rtx.maxStreamId.get .uni, s.rtx.maxStreamId.get .uni)) = some (2, 3, 2, true, true, false) := by decide
open Streams in
example : (knownFinal.bind fun s => (s.stop 6 9).map fun r =>
    (s.maxRemote.get .uni, r.1.maxRemote.get .uni, r.1.rtx.maxStreamId.get .uni, r.1.rtx.stopSending)) =
    some (2, 3, true, [(6, 9)]) := by decide
-- a read to the end / received_reset on the same streams
open Streams in
example : (knownFinal.bind fun s => (s.read 6 100).map fun r => (r.1.maxRemote.get .uni, r.1.rtx.maxStreamId.get .uni)) =
    some (3, true) := by decide
open Streams in
example : (knownFinal.bind fun s => (s.recvReceivedReset 2).map fun r => (r.1.maxRemote.get .uni, r.1.rtx.maxStreamId.get .uni)) =
    some (3, true) := by decide

end QM.Props.C02
