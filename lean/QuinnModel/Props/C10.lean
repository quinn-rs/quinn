import QuinnModel.Lemmas.VarInt
import QuinnModel.Lemmas.PacketNumber
/-
C10 — Wire encodings round-trip and decoders are total: varints and packet numbers.
Every decoder in the model is a total Lean function returning Option; the theorems below give the
round trips and the "never reads past the buffer" bounds.
-/
namespace QM.Props.C10
open QM

/-- varint: decoding an encoding (followed by anything) yields the value and exactly the rest -/
theorem varint_roundtrip (x : Nat) (r : Bytes) (h : x < 2^62) :
    ∃ e, VarInt.encode x = some e ∧ VarInt.decode (e ++ r) = some (x, r) :=
  let ⟨e, he, hd⟩ := VarInt.encode_decodes h
  ⟨e, he, hd r⟩

/-- varint: `size` is the length of the encoding -/
theorem varint_size (x : Nat) (h : x < 2^62) :
    ∃ e s, VarInt.encode x = some e ∧ VarInt.size x = some s ∧ e.length = s :=
  VarInt.size_eq_encode_length x h

/-- varint decoder on arbitrary bytes: value < 2^62, consumes ≥ 1 byte, remainder is a suffix -/
theorem varint_decode_total (bs : Bytes) (h : VarInt.WF bs) (v : Nat) (r : Bytes)
    (hd : VarInt.decode bs = some (v, r)) : v < 2^62 ∧ r.length < bs.length ∧ ∃ pre, bs = pre ++ r := by
  obtain ⟨b0, rest, rfl, hlen, rfl, rfl⟩ := VarInt.decode_eq_some hd
  have hk := VarInt.extra_le (b0 / 64)
  refine ⟨?_, by simp only [List.length_cons, List.length_drop]; omega, b0 :: rest.take (VarInt.extra (b0 / 64)),
    by rw [List.cons_append, List.take_append_drop]⟩
  have hl : (rest.take (VarInt.extra (b0 / 64))).length = VarInt.extra (b0 / 64) := by rw [List.length_take]; omega
  have := beVal_lt (rest.take (VarInt.extra (b0 / 64))) fun b hb =>
    h b (List.mem_cons_of_mem _ (List.mem_of_mem_take hb))
  have hp : 256 ^ VarInt.extra (b0 / 64) ≤ 256 ^ 7 := Nat.pow_le_pow_right (by decide) hk
  have hm : b0 % 64 * 256 ^ VarInt.extra (b0 / 64) ≤ 63 * 256 ^ VarInt.extra (b0 / 64) :=
    Nat.mul_le_mul_right _ (by omega)
  rw [beVal_cons, hl]
  rw [hl] at this
  omega

/-- a truncated packet number decodes to the number that was sent for every receiver state inside
    the protocol's window (all four lengths) -/
theorem pn_expand_correct (len n expected : Nat) (hl : len = 1 ∨ len = 2 ∨ len = 3 ∨ len = 4)
    (hn : n < 2^62) (hlo : expected < n + PacketNumber.winOf len / 2)
    (hhi : n ≤ expected + PacketNumber.winOf len / 2) :
    PacketNumber.expand (len, n % PacketNumber.winOf len) expected = some n :=
  PacketNumber.expandW_window (win := PacketNumber.winOf len) (PacketNumber.winOf_even len)
    (by have := PacketNumber.winOf_le len; omega) hlo hhi

/-- the sender's length choice always suffices for a receiver between largest-acked and n (given the
    encodable-range precondition `hr`, whose negation is the `panic!` arm); the receiver sees `p.2 % winOf p.1`,
    since only `len` bytes travel -/
theorem pn_new_sufficient (n la r : Nat) (hn : n < 2^62) (h1 : la ≤ r) (h2 : r < n)
    (hr : (n - la) * 2 < 2^32) :
    ∃ p, PacketNumber.new n la = some p ∧ (p.1 = 1 ∨ p.1 = 2 ∨ p.1 = 3 ∨ p.1 = 4) ∧
      PacketNumber.expand (p.1, p.2 % PacketNumber.winOf p.1) (r + 1) = some n := by
  -- `n < la`, the four lengths, out of range
  fun_cases PacketNumber.new n la
  · omega
  · exact ⟨_, rfl, .inl rfl,
      PacketNumber.expandW_new (win := 256) (m := 2^8) (by decide) (by decide) (by omega) h1 h2 ‹_›⟩
  · exact ⟨_, rfl, .inr (.inl rfl),
      PacketNumber.expandW_new (win := 65536) (m := 2^16) (by decide) (by decide) (by omega) h1 h2 ‹_›⟩
  · exact ⟨_, rfl, .inr (.inr (.inl rfl)),
      PacketNumber.expandW_new (win := 16777216) (m := 2^32) (by decide) (by decide) (by omega) h1 h2 ‹_›⟩
  · exact ⟨_, rfl, .inr (.inr (.inr rfl)),
      PacketNumber.expandW_new (win := 4294967296) (m := 2^32) (by decide) (by decide) (by omega) h1 h2 hr⟩
  · exact absurd hr ‹_›

/-- packet-number bytes: decode ∘ encode keeps the low `len` bytes and consumes exactly `len` -/
theorem pn_wire_roundtrip (p : Nat × Nat) (r : Bytes) :
    PacketNumber.decode p.1 (PacketNumber.encode p ++ r) = some ((p.1, p.2 % 256 ^ p.1), r) := by
  have hl := beBytes_length p.1 p.2
  unfold PacketNumber.decode PacketNumber.encode
  rw [if_neg (by rw [List.length_append, hl]; omega), List.take_left' hl, List.drop_left' hl, beVal_beBytes]

-- non-vacuity: concrete instances meeting the hypotheses
example : VarInt.decode ([0x7b, 0xbd] ++ [1,2]) = some (15293, [1,2]) := by decide
example : (300 : Nat) < 2^62 ∧ 200 < 300 + PacketNumber.winOf 1 / 2 ∧ 300 ≤ 200 + PacketNumber.winOf 1 / 2 := by
  simp [PacketNumber.winOf]
example : PacketNumber.expand (1, 300 % 256) 200 = some 300 := by decide

end QM.Props.C10
