import QuinnModel.Recovery.Mtud
/- Line-protocol front end for component `mtud` (see quinn-proto/src/connection/verif/mtud.rs). -/
namespace QM.Drv
open QM QM.Mtud

/-- the executor starts from `MtuDiscovery::new(1200, 1200, None, MtuDiscoveryConfig::default())` -/
def mtudInit : Mtud.State := Mtud.withState 1200 1200 (some (Enabled.new Config.default))

theorem mtudInit_eq : Mtud.new 1200 1200 none Config.default = some mtudInit := rfl

def mtudTimeBound : Nat := 2^60

def parseU16 (s : String) : Option Nat :=
  match s.toNat? with
  | some n => if n < 65536 then some n else none
  | none => none

def parseU64 (s : String) : Option Nat :=
  match s.toNat? with
  | some n => if n < 2^64 then some n else none
  | none => none

def parseTime (s : String) : Option Nat :=
  match s.toNat? with
  | some n => if n < mtudTimeBound then some n else none
  | none => none

def showOptNat : Option Nat → String
  | none => "-"
  | some n => toString n

def showMtud (s : Mtud.State) : String :=
  let en := match s.state with
    | none => " ph=- pm=- cfg=-"
    | some e =>
      let ph := match e.phase with
        | .initial => " ph=I"
        | .searching x => s!" ph=S:{x.lowerBound},{x.upperBound},{x.minimumChange},{x.lastProbedMtu},{showOptNat x.inFlightProbe},{x.lostProbeCount}"
        | .complete t => s!" ph=C:{t}"
      ph ++ s!" pm={e.peerMax} cfg={e.config.interval},{e.config.upperBound},{e.config.minimumChange},{e.config.blackHoleCooldown}"
  let d := s.det
  let bursts := if d.bursts.isEmpty then "-" else ",".intercalate (d.bursts.map toString)
  let cur := match d.current with
    | none => "-"
    | some c => s!"{c.latest}:{c.smallest}"
  s!"mtu={s.currentMtu}" ++ en ++ s!" bh={bursts};{cur};{d.largestPostLoss};{d.ackedMtu};{d.minMtu}"

def mtudResp (r : State × Out) : State × String :=
  let body := match r.2 with
    | .unit => some "ok"
    | .bool b => some (boolStr b)
    | .probe none => some "none"
    | .probe (some p) => some s!"probe {p}"
    | .panic => none
  match body with
  | none => (r.1, "panic")
  | some b => (r.1, b ++ " | " ++ showMtud r.1)

def mtud (s : Mtud.State) : List String → Mtud.State × String
  | ["new", i, m, p, iv, ub, mc, cd] =>
    match parseU16 i, parseU16 m, parseTime iv, parseU16 ub, parseU16 mc, parseTime cd with
    | some i, some m, some iv, some ub, some mc, some cd =>
      let p? : Option (Option Nat) := if p == "-" then some none else (parseU16 p).map some
      match p? with
      | none => (s, "bad-op")
      | some p => match Mtud.new i m p (Config.make iv ub mc cd) with
        | none => (s, "panic")
        | some s' => mtudResp (s', .unit)
    | _, _, _, _, _, _ => (s, "bad-op")
  | ["disabled", i, m] => match parseU16 i, parseU16 m with
    | some i, some m => mtudResp (Mtud.disabled i m, .unit)
    | _, _ => (s, "bad-op")
  | ["reset", c, m] => match parseU16 c, parseU16 m with
    | some c, some m => mtudResp (step s (.reset c m))
    | _, _ => (s, "bad-op")
  | ["poll", now, pn] => match parseTime now, parseU64 pn with
    | some now, some pn => mtudResp (step s (.poll now pn))
    | _, _ => (s, "bad-op")
  | ["peer", v] => match parseU16 v with
    | some v => mtudResp (step s (.peerMax v))
    | none => (s, "bad-op")
  | ["acked", sp, pn, len] => match parseU64 pn, parseU16 len with
    | some pn, some len =>
      if sp == "0" ∨ sp == "1" then mtudResp (step s (.acked false pn len))
      else if sp == "2" then mtudResp (step s (.acked true pn len))
      else (s, "bad-op")
    | _, _ => (s, "bad-op")
  | ["ploss"] => mtudResp (step s .probeLost)
  | ["nploss", pn, len] => match parseU64 pn, parseU16 len with
    | some pn, some len => mtudResp (step s (.nonProbeLost pn len))
    | _, _ => (s, "bad-op")
  | ["bhd", now] => match parseTime now with
    | some now => mtudResp (step s (.blackHole now))
    | none => (s, "bad-op")
  | ["inflight"] => match inFlightMtuProbe s with
    | none => (s, "none | " ++ showMtud s)
    | some p => (s, s!"some {p} | " ++ showMtud s)
  | _ => (s, "bad-op")

end QM.Drv
