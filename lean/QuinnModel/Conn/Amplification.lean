import QuinnModel.Gen.Conn
import QuinnModel.Gen.Conn2
/-
Skeleton model of the anti-amplification accounting of one network path
(quinn-proto/src/connection/paths.rs `PathData::{validated,total_sent,total_recvd,anti_amplification_blocked}`,
 the datagram loop of `Connection::poll_transmit`, crediting in `handle_event`/`handle_first_packet`,
 `on_path_validated`, `migrate`).
The gate predicate and its argument are GENERATED from the Rust source (Gen/Conn.lean).
-/
namespace QM.Amp

structure Path where
  validated : Bool
  sent : Nat
  recvd : Nat
deriving Repr, DecidableEq

inductive Ev where
  /-- a datagram of n bytes arrived from the path's address (`total_recvd += n`) -/
  | recv (n : Nat)
  /-- a datagram of n bytes for this connection arrived from ANOTHER address and did not migrate the
      path: it is not credited to this path -/
  | foreign (n : Nat)
  /-- a Handshake-space packet of the peer was processed (RFC 9000 8.1: the peer has read the first flight) -/
  | handshakePacketProcessed
  /-- the connection-creating Initial carried a token this endpoint had issued for the address (Retry / NEW_TOKEN) -/
  | tokenValidated
  /-- a PATH_RESPONSE echoing a PATH_CHALLENGE sent to the path's address was processed (RFC 9000 8.2.3) -/
  | pathResponseMatched
  /-- one `poll_transmit` call: the datagram loop tries to build datagrams of these sizes in turn,
      each gated; `seg` is the segment size used in the gate (every datagram is at most `seg`) -/
  | poll (seg : Nat) (sizes : List Nat)
  /-- peer migrated: fresh path, unvalidated, credited with the datagram that revealed it -/
  | migrate (n : Nat)
deriving Repr

/-- the datagram loop: `i` datagrams already built in this call; returns the sizes actually emitted -/
def emit (p : Path) (seg : Nat) : Nat → List Nat → List Nat
  | _, [] => []
  | i, s :: rest =>
    if Gen.antiAmpBlocked p.validated p.sent p.recvd (Gen.antiAmpGateArg seg i) then []
    else s :: emit p seg (i+1) rest

def step (p : Path) : Ev → Path
  | .recv n => { p with recvd := p.recvd + n }
  | .foreign _ => p
  | .handshakePacketProcessed => { p with validated := true }
  | .tokenValidated => { p with validated := true }
  | .pathResponseMatched => { p with validated := true }
  | .poll seg sizes => { p with sent := p.sent + (emit p seg 0 sizes).sum }
  | .migrate n => { validated := false, sent := 0, recvd := n }

/-- well-formed event: every datagram of a poll is at most the segment size, which is at most M -/
def Ev.wf (M : Nat) : Ev → Prop
  | .poll seg sizes => seg ≤ M ∧ ∀ s ∈ sizes, s ≤ seg
  | _ => True

def run (p : Path) (evs : List Ev) : Path := evs.foldl step p

/-- the causes of address validation the property lists -/
def Ev.isCause : Ev → Bool
  | .handshakePacketProcessed => true
  | .tokenValidated => true
  | .pathResponseMatched => true
  | _ => false

/-- What ONE received datagram may do to the flag, from facts the harness derives from the PEER's transmit record
    (trace operations `amp rx` / `amp foreign`): `hs` a Handshake-space packet the peer built is in the datagram,
    `pr` a PATH_RESPONSE in it echoes a PATH_CHALLENGE sent to the path's address. `some b` = the flag must be `b`
    afterwards; `none` = a cause is present and the receiver may or may not have used it (the property lets a server
    treat the address as validated, it does not oblige it: a duplicate, an older challenge, a datagram from another
    address, a Handshake packet protected with keys of an earlier incarnation of the receiver). -/
def rxVerdict (validated hs pr : Bool) : Option Bool :=
  if validated then some true
  else if hs || pr then none
  else some false

/-- the events one received datagram stands for -/
def rxEvents (hs pr : Bool) : List Ev :=
  (if hs then [Ev.handshakePacketProcessed] else []) ++ (if pr then [Ev.pathResponseMatched] else [])

end QM.Amp

/-
Off-path PATH_RESPONSE (connection/mod.rs `process_payload`: `path_responses.push(number, token, remote, packet_len)`
for a PATH_CHALLENGE from ANY source address; `poll_transmit`: `pop_off_path`, one datagram to that address outside
the gated loop and outside `total_sent`). The padding rule is GENERATED: `Gen.offPathPadFactor` = N when the datagram
is expanded to `min(MIN_INITIAL_SIZE, N * size of the packet that carried the challenge)`, 0 when it is always
expanded to MIN_INITIAL_SIZE.
-/
namespace QM.Amp.OffPath

/-- size of the datagram that carries the response; `unpadded` = header + frame + tag -/
def respSize (unpadded pktLen : Nat) : Nat :=
  if Gen.offPathPadFactor = 0 then max unpadded Gen.libMinInitialSize
  else max unpadded (min Gen.libMinInitialSize (Gen.offPathPadFactor * pktLen))

/-- the simulator's ledger of one off-path address -/
structure L where
  sent : Nat
  recvd : Nat
deriving Repr, DecidableEq

/-- a datagram of `dgram` bytes from the address carried a 1-RTT packet of `pkt` bytes (header + plaintext
    payload, as `process_payload` measures it) with a PATH_CHALLENGE; the response, `unpadded` bytes before
    padding, is sent -/
structure Ev where
  dgram : Nat
  pkt : Nat
  unpadded : Nat
deriving Repr

def step (l : L) (e : Ev) : L := { sent := l.sent + respSize e.unpadded e.pkt, recvd := l.recvd + e.dgram }

def run (l : L) (evs : List Ev) : L := evs.foldl step l

/-- what every real exchange satisfies: the packet is part of its datagram; the unpadded response
    (1 + remote CID ≤ 20 + packet number ≤ 4 + frame 9 + tag 16 ≤ 50 bytes) is at most three times the datagram
    that carried the challenge (≥ 1 + 1 + 9 + 16 = 27 bytes) -/
def Ev.wf (e : Ev) : Prop := e.pkt ≤ e.dgram ∧ e.unpadded ≤ 3 * e.dgram

end QM.Amp.OffPath
